/-
  Fact obligations: the constants and the shared-write set regenerated from /repo's working
  tree by tools/extract (RefmtModel/Gen/*.lean, rewritten on every run) must agree with the
  literals the hand-written model uses.  A change of one of these in the Go source makes the
  corresponding `decide` fail, so that this module does not build.  Of the property modules only Props/C18
  imports it; the checks of C02, C03, C04 and C10 build it next to the property's own module.
-/
import RefmtModel
import RefmtModel.Gen.Consts
import RefmtModel.Gen.SharedWrites
namespace Refmt.Facts
open Refmt

theorem cbor_constants :
    Gen.cborMajorUint = some CborEnc.majUint ∧ Gen.cborMajorNegInt = some CborEnc.majNeg ∧
    Gen.cborMajorBytes = some CborEnc.majBytes ∧ Gen.cborMajorString = some CborEnc.majStr ∧
    Gen.cborMajorArray = some CborEnc.majArr ∧ Gen.cborMajorMap = some CborEnc.majMap ∧
    Gen.cborMajorTag = some CborEnc.majTag ∧ Gen.cborMajorSimple = some 0xe0 ∧
    Gen.cborSigilFalse = some CborEnc.sigFalse ∧ Gen.cborSigilTrue = some CborEnc.sigTrue ∧
    Gen.cborSigilNil = some CborEnc.sigNil ∧ Gen.cborSigilUndefined = some CborEnc.sigUndef ∧
    Gen.cborSigilFloat16 = some CborEnc.sigF16 ∧ Gen.cborSigilFloat32 = some CborEnc.sigF32 ∧
    Gen.cborSigilFloat64 = some CborEnc.sigF64 ∧ Gen.cborSigilIndefiniteBytes = some CborEnc.sigIndefBytes ∧
    Gen.cborSigilIndefiniteString = some CborEnc.sigIndefStr ∧ Gen.cborSigilIndefiniteArray = some CborEnc.sigIndefArr ∧
    Gen.cborSigilIndefiniteMap = some CborEnc.sigIndefMap ∧ Gen.cborSigilBreak = some CborEnc.sigBreak := by
  decide

/-- the head-size thresholds of `emitMajorPlusLen` are the ones `CborEnc.emitHead` (and RFC 7049) use -/
theorem head_thresholds : Gen.headThresholds = [0x17, 0xff, 0xffff, 0xffffffff] := by decide

/-- the 32 MiB per-item cap at its three sites, each checked (with a return) before the read / allocation it guards -/
theorem caps_checked_before_allocation :
    Gen.capDecodeBytes = [some (CborDec.cap32M, true)] ∧ Gen.capDecodeString = [some (CborDec.cap32M, true)] ∧
    Gen.capDecodeChunks = [some (CborDec.cap32M, true)] := by decide

/-- the JSON float format cut-offs (`abs < 1e-6 || abs >= 2^63` selects the exponent form) -/
theorem json_float_cutoffs : Gen.jsonFloatLowCutoff = some "1e-06" ∧ Gen.jsonFloatHighCutoff = some 9223372036854775808 := by decide

theorem token_codes :
    Gen.TMapOpen = some 123 ∧ Gen.TMapClose = some 125 ∧ Gen.TArrOpen = some 91 ∧ Gen.TArrClose = some 93 ∧ Gen.TNull = some 48 ∧
    Gen.TString = some 115 ∧ Gen.TBytes = some 120 ∧ Gen.TBool = some 98 ∧ Gen.TInt = some 105 ∧ Gen.TUint = some 117 ∧
    Gen.TFloat64 = some 102 := by decide

theorem key_sort_modes : Gen.keySortModes = ["default", "strings", "rfc7049"] := by decide

/-- C18: outside `init` functions nothing stores to package-level state of refmt, and outside the builder
    functions nothing stores to an Atlas / AtlasEntry / StructMap / StructMapEntry / MapMorphism / UnionKeyedMorphism -/
theorem no_shared_writes : Gen.sharedWrites = [] := by decide

end Refmt.Facts
