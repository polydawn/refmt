/-
  C20 — CBOR tags identify registered types and are never silently dropped.

  * `struct_tag_first`, `transform_tag_first`: the machines for tagged struct-map and transform entries put exactly the
    entry's tag on the first token they emit.
  * wherever a value of a type registered with a tag is marshalled, the first token of that occurrence carries the
    tag: `tagged_occurrence` for `marshalV` at that type (top level, struct field, map value, slice element),
    `tagged_through_pointer` under one non-nil pointer, `tagged_at` (from which both follow) under the whole chain of
    non-nil pointers that `peel` removes, `tagged_in_untyped` inside an untyped slot.
  * `wire_tag`: the CBOR encoding of an item whose first token is tagged begins with the tag head.
  * `untyped_unknown_tag`, `untyped_known_tag`: an untyped slot given a tagged token reconstructs the type registered
    under that tag, and an unregistered tag is an error, not ignored.

  `ex_transform_overrides_inner_tag` and `ex_builtin_not_overridable` (end of file) are concrete evaluations of the model
  showing the two situations the hypotheses leave out: a tagged transform overwrites the tag of a tagged target type,
  and an entry registered for a predeclared primitive type is never consulted.
-/
import RefmtModel
import RefmtProofs.Lemmas.MarshalMachFun
namespace Refmt.C20
open Refmt Refmt.Obj Refmt.ObjL

theorem struct_tag_first (ts : Types) (a : Atlas) (trs : Trs) (fuel id : Nat) (e : Entry) (fields : List SMField) (v : Val)
    (t : Tok) (rest : List Tok) (f : Option Fail)
    (h : marshalBare ts a trs fuel id (.structMap e fields) v = ⟨t :: rest, f⟩) :
    t.tag = e.tag ∧ ∃ n, t.body = .mapOpen n := by
  cases fuel with
  | zero => rw [MachL.marshalBare_zero] at h; cases h
  | succ fuel =>
    rw [MachL.marshalBare_struct, ok_seq] at h
    cases h
    exact ⟨rfl, _, rfl⟩

theorem transform_tag_first (ts : Types) (a : Atlas) (trs : Trs) (fuel id fn mty : Nat) (e : Entry) (g : Int) (v : Val)
    (t : Tok) (rest : List Tok) (f : Option Fail) (hg : e.tag = some g)
    (h : marshalBare ts a trs fuel id (.transform e fn mty) v = ⟨t :: rest, f⟩) :
    t.tag = some g := by
  cases fuel with
  | zero => rw [MachL.marshalBare_zero] at h; cases h
  | succ fuel =>
    rw [MachL.marshalBare_transform] at h
    split at h
    · cases h
    · rw [hg] at h
      exact retagFirst_head (congrArg MOut.toks h)

/-- the entry kinds the property quantifies over (struct maps and transforms) -/
def taggable (e : Entry) : Bool :=
  match e.k with
  | .structMap _ => true
  | .transform _ _ _ => true
  | _ => false

/-- the type is not one of the predeclared primitives, which no atlas entry overrides, and not a pointer (a pointer type
    is marshalled by the machine of the type its chain ends at) -/
def overridable (ts : Types) (id : Nat) : Bool :=
  match ts.get id with
  | .prim _ true => false
  | .bytes true => false
  | .ptr _ => false
  | _ => true

theorem overridable_nonptr {ts : Types} {id : Nat} (ho : overridable ts id = true) : ∀ e, ts.get id ≠ .ptr e := by
  intro e he
  simp [overridable, he] at ho

theorem pickBare_entry (ts : Types) (a : Atlas) (e : Entry)
    (hreg : a.get e.ty = some e) (ho : overridable ts e.ty = true) :
    pickBare ts a e.ty = machForEntry ts e :=
  (pick_entry hreg (fun k h => by simp [overridable, h] at ho) (fun h => by simp [overridable, h] at ho)).1

theorem bare_tagged (ts : Types) (a : Atlas) (trs : Trs) (fuel : Nat) (e : Entry) (g : Int) (v : Val)
    (t : Tok) (rest : List Tok) (f : Option Fail)
    (hg : e.tag = some g) (hk : taggable e = true)
    (h : marshalBare ts a trs fuel e.ty (machForEntry ts e) v = ⟨t :: rest, f⟩) :
    t.tag = some g := by
  unfold taggable at hk
  unfold machForEntry at h
  split at hk
  · next fs hfs =>
    rw [hfs] at h
    have := (struct_tag_first ts a trs fuel e.ty e fs v t rest f h).1
    rw [this, hg]
  · next fn m u hfs =>
    rw [hfs] at h
    exact transform_tag_first ts a trs fuel e.ty fn m e g v t rest f hg h
  · exact absurd hk (by simp)

theorem tagged_at (ts : Types) (a : Atlas) (trs : Trs) (fuel id : Nat) (e : Entry) (g : Int) (v inner : Val)
    (t : Tok) (rest : List Tok) (f : Option Fail)
    (hpeel : (peel ts 64 0 id).2 = e.ty) (hd : derefN (peel ts 64 0 id).1 v = some inner)
    (hreg : a.get e.ty = some e) (hg : e.tag = some g) (hk : taggable e = true) (ho : overridable ts e.ty = true)
    (h : marshalV ts a trs fuel id v = ⟨t :: rest, f⟩) :
    t.tag = some g := by
  cases fuel with
  | zero => rw [MachL.marshalV_zero] at h; cases h
  | succ fuel =>
    rw [MachL.marshalV_succ, hpeel, pickBare_entry ts a e hreg ho, hd] at h
    split at h
    · next h0 =>
      exact bare_tagged ts a trs fuel e g v t rest f hg hk h
    · exact bare_tagged ts a trs fuel e g inner t rest f hg hk h

theorem tagged_occurrence (ts : Types) (a : Atlas) (trs : Trs) (fuel : Nat) (e : Entry) (g : Int) (v : Val)
    (t : Tok) (rest : List Tok) (f : Option Fail)
    (hreg : a.get e.ty = some e) (hg : e.tag = some g) (hk : taggable e = true) (ho : overridable ts e.ty = true)
    (h : marshalV ts a trs fuel e.ty v = ⟨t :: rest, f⟩) :
    t.tag = some g := by
  have hpeel := peel_nonptr ts 64 0 e.ty (overridable_nonptr ho)
  exact tagged_at ts a trs fuel e.ty e g v v t rest f (by rw [hpeel]) (by rw [hpeel]; rfl) hreg hg hk ho h

theorem tagged_through_pointer (ts : Types) (a : Atlas) (trs : Trs) (fuel pid : Nat) (e : Entry) (g : Int) (v : Val)
    (t : Tok) (rest : List Tok) (f : Option Fail)
    (hp : ts.get pid = .ptr e.ty)
    (hreg : a.get e.ty = some e) (hg : e.tag = some g) (hk : taggable e = true) (ho : overridable ts e.ty = true)
    (h : marshalV ts a trs fuel pid (.ptr (some v)) = ⟨t :: rest, f⟩) :
    t.tag = some g := by
  have hpeel : peel ts 64 0 pid = (1, e.ty) := by
    rw [C13.peel_ptr ts hp 63 0]
    exact peel_nonptr ts 63 1 e.ty (overridable_nonptr ho)
  exact tagged_at ts a trs fuel pid e g _ v t rest f (by rw [hpeel]) (by rw [hpeel]; rfl) hreg hg hk ho h

theorem tagged_in_untyped (ts : Types) (a : Atlas) (trs : Trs) (fuel iid : Nat) (e : Entry) (g : Int) (v : Val)
    (t : Tok) (rest : List Tok) (f : Option Fail)
    (hi : ts.get iid = .iface false) (hni : a.get iid = none)
    (hreg : a.get e.ty = some e) (hg : e.tag = some g) (hk : taggable e = true) (ho : overridable ts e.ty = true)
    (h : marshalV ts a trs fuel iid (.iface (some (e.ty, v))) = ⟨t :: rest, f⟩) :
    t.tag = some g := by
  cases fuel with
  | zero => rw [MachL.marshalV_zero] at h; cases h
  | succ fuel =>
    rw [MachL.marshalV_nonptr (by simp [hi]), (pick_wild hi hni).1] at h
    cases fuel with
    | zero => rw [MachL.marshalBare_zero] at h; cases h
    | succ fuel =>
      rw [MachL.marshalBare_wild] at h
      exact tagged_occurrence ts a trs fuel e g v t rest f hreg hg hk ho h

theorem wire_tag (tv : TV) (g : Int) (t : Tok) (rest : List Tok) (h : tv.flatten = t :: rest) (ht : t.tag = some g) :
    ∃ item, Spec.Cbor.enc tv = Spec.Cbor.head 0xc0 (toU64 g) ++ item := by
  cases tv with
  | scalar t0 =>
    obtain ⟨rfl, _⟩ := h
    exact ⟨_, by simp only [Spec.Cbor.enc, ht, Spec.Cbor.tagBytes]; rfl⟩
  | arr tag len items =>
    obtain ⟨rfl, _⟩ := h
    subst ht
    simp only [Spec.Cbor.enc, Spec.Cbor.tagBytes]
    split
    · exact ⟨_, by simp only [List.append_assoc]; rfl⟩
    · exact ⟨_, by simp only [List.append_assoc]; rfl⟩
  | map tag len items =>
    obtain ⟨rfl, _⟩ := h
    subst ht
    simp only [Spec.Cbor.enc, Spec.Cbor.tagBytes]
    split
    · exact ⟨_, by simp only [List.append_assoc]; rfl⟩
    · exact ⟨_, by simp only [List.append_assoc]; rfl⟩

theorem untyped_unknown_tag (ts : Types) (a : Atlas) (trs : Trs) (it : IfaceTys) (fuel : Nat) (b : Body) (g : Int) (rest : List Tok)
    (h : a.getByTag g = none) :
    unmWild ts a trs it (fuel + 1) false ⟨b, some g⟩ rest = .err 0 := by
  simp [unmWild, h]

theorem untyped_known_tag (ts : Types) (a : Atlas) (trs : Trs) (it : IfaceTys) (fuel : Nat) (b : Body) (g : Int) (rest : List Tok)
    (e : Entry) (v : Val) (r : List Tok) (u : Nat) (h : a.getByTag g = some e)
    (hu : unmBare ts a trs it fuel e.ty (upickBare ts a e.ty) (zeroVal ts 64 e.ty) (⟨b, some g⟩ :: rest) = .ok v r u) :
    unmWild ts a trs it (fuel + 1) false ⟨b, some g⟩ rest = .ok (.iface (some (e.ty, v))) r u := by
  simp [unmWild, h, hu]

/-- A tagged transform whose marshal target is itself a tagged registered type: the delegate's first token
    carries the target's tag (20), the transform machine then overwrites it with its own (10) — a token has
    a single tag slot, so the inner tag is lost (`tagged_occurrence` holds for both entries at their own
    `marshalV` call; it is the enclosing transform that replaces the tag afterwards). -/
theorem ex_transform_overrides_inner_tag :
    let ts : Types := [(0, .struct []), (1, .struct [])]
    let a : Atlas := ⟨[⟨true, 0, some 10, .transform 0 1 1⟩, ⟨true, 1, some 20, .structMap []⟩], .default⟩
    let trs : Trs := ⟨fun _ v => some v, fun _ v => some v⟩
    marshalV ts a trs 10 1 (.struct []) = ⟨[⟨.mapOpen 0, some 20⟩, ⟨.mapClose, none⟩], none⟩ ∧
    marshalV ts a trs 10 0 (.struct []) = ⟨[⟨.mapOpen 0, some 10⟩, ⟨.mapClose, none⟩], none⟩ := by
  constructor <;> with_unfolding_all rfl

/-- `overridable` is needed: an atlas entry (here a tagged transform) registered for a predeclared primitive
    type is never consulted, the value is emitted by the primitive machine, untagged. -/
theorem ex_builtin_not_overridable :
    let ts : Types := [(0, .prim .int true), (1, .prim .string true)]
    let a : Atlas := ⟨[⟨true, 0, some 10, .transform 0 1 1⟩], .default⟩
    let trs : Trs := ⟨fun _ _ => some (.str [120]), fun _ v => some v⟩
    marshalV ts a trs 10 0 (.int 7) = ⟨[⟨.int 7, none⟩], none⟩ := by
  with_unfolding_all rfl

end Refmt.C20
