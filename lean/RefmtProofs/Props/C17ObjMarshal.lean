/-
  C17 (object marshaller): the STATEFUL model of obj.Marshaller (RefmtModel/Model/Obj/MarshalMach.lean: slab rows,
  machine stack, current machine, Bind, one token per Step) refines the FUNCTIONAL model `marshalV`
  (RefmtModel/Model/Obj/Marshal.lean), from ANY state the instance was left in, for every atlas in the fragment
  `Refmt.MachL.Frag` (`marshaller_refines_fixed`).  Stated for every atlas it is false
  (`marshaller_refines_statement_false`, last section).  /repo refuses the atlases of the counterexample with an
  error (fix e9d1a55, obj/marshalSlab.go); neither model has that refusal, and they lie outside `Frag`.

  Fuel.  `marshalV` takes fuel and answers `panic` when it runs out; the hypothesis
  `(marshalV ts a trs fuel id v).fail ≠ some .panic` says that `fuel` was enough (and that the value is well typed:
  the functional model's other panics are ill-typed values and malformed atlases).  The stateful model takes fuel
  too (`run fuel'` pumps at most `fuel'` times and gives every call `fuel'` units for the recursion inside one
  `Step`): the theorem holds for every `fuel'` from some bound on.

  Rows.  After a completed run the machine stack is empty (`completed_run_stack_empty`); the rows are not: the root
  machine's row stays, and one more row for every non-nil interface value a wildcard machine met, every nil map and
  every nil slice (those machines requisition a row and never release one; `release` drops whichever row is last, so
  the rows that stay are the lowest ones, not the ones those machines took) (`rows_not_released`); `Bind` is what
  forgets them.
-/
import RefmtProofs.Lemmas.MarshalMachMain
open Refmt Refmt.Obj Refmt.Obj.MM Refmt.MachL

namespace Refmt.C17ObjMarshal

/-- the refinement at full strength -/
def marshaller_refines_statement : Prop :=
  ∀ (ts : Types) (a : Atlas) (trs : Trs) (fuel id : Nat) (v : Val),
    (marshalV ts a trs fuel id v).fail ≠ some .panic →
    ∃ N, ∀ fuel', N ≤ fuel' → ∀ dirty : MState,
      run ts a trs fuel' (MM.bind ts a trs fuel' dirty id v) = marshalV ts a trs fuel id v

/-- the extra hypothesis, on the atlas alone; the docstring of `Refmt.MachL.Frag` says what it admits -/
abbrev NoClash (ts : Types) (a : Atlas) : Prop := Frag ts a

theorem marshaller_refines_fixed (ts : Types) (a : Atlas) (trs : Trs) (hfrag : NoClash ts a)
    (fuel id : Nat) (v : Val) (hfuel : (marshalV ts a trs fuel id v).fail ≠ some .panic) :
    ∃ N, ∀ fuel', N ≤ fuel' → ∀ dirty : MState,
      run ts a trs fuel' (MM.bind ts a trs fuel' dirty id v) = marshalV ts a trs fuel id v := by
  obtain ⟨N, hN⟩ := refines_frag (trs := trs) hfrag fuel id v hfuel
  exact ⟨N, fun fuel' h dirty => (hN fuel' h dirty).1⟩

/-- whatever the instance did before, `Bind` makes it behave as a new one: every atlas, every fuel -/
theorem reused_eq_fresh (ts : Types) (a : Atlas) (trs : Trs) (f : Nat) (dirty : MState) (id : Nat) (v : Val) :
    run ts a trs f (MM.bind ts a trs f dirty id v) = run ts a trs f (MM.bind ts a trs f MState.fresh id v) := by
  unfold MM.bind
  cases requisition ts a f [] id with
  | error x => simp [run]
  | ok p =>
    obtain ⟨R, m⟩ := p
    cases resetM ts a trs f m id v R <;> rfl

/-- after a completed run the machine stack is empty again (and the root row is still there) -/
theorem completed_run_stack_empty (ts : Types) (a : Atlas) (trs : Trs) (hfrag : Frag ts a)
    (fuel id : Nat) (v : Val) (hok : (marshalV ts a trs fuel id v).fail = none) :
    ∃ N, ∀ fuel', N ≤ fuel' → ∀ dirty : MState,
      ∃ s', finalState ts a trs fuel' fuel' (MM.bind ts a trs fuel' dirty id v) = some s' ∧
        s'.stack = [] ∧ s'.rows ≠ [] := by
  obtain ⟨N, hN⟩ := refines_frag (trs := trs) hfrag fuel id v (by rw [hok]; simp)
  exact ⟨N, fun fuel' h dirty => (hN fuel' h dirty).2 hok⟩

/-! ### Non-vacuity: the stateful model run from a deliberately dirty state -/

/-- 0 string, 1 int, 2 map[string]int, 3 struct{A, B map[string]int; C []interface{}}, 4 interface{}, 5 []interface{},
    6 *struct -/
def exTs : Types :=
  [(0, .prim .string true), (1, .prim .int true), (2, .map 0 1), (3, .struct []), (4, .iface false), (5, .slice 4),
   (6, .ptr 3)]
def exEntry : Entry :=
  ⟨true, 3, some 7, .structMap [⟨[97], false, [0], 2, false⟩, ⟨[98], false, [1], 2, true⟩, ⟨[99], false, [2], 5, false⟩]⟩
def exAtlas : Atlas := ⟨[exEntry], .default⟩
def exTrs : Trs := ⟨fun _ _ => none, fun _ _ => none⟩
def exMap (k : Nat) (x : Int) : Val := .map (some [(.str [k], .int x)])
/-- a struct with two maps and a slice holding a pointer to another such struct and a nil interface -/
def exVal : Val :=
  .struct [exMap 120 1, exMap 121 2,
    .slice (some [.iface (some (6, .ptr (some (.struct [exMap 122 3, .map none, .slice none])))), .iface none])]

/-- a row left behind by an abandoned run: the map machine between a key and its value, the struct machine with a
    value loaded, a wildcard delegate pointing nowhere, a union machine in mid-flight -/
def dirtyRow : Row :=
  { map := { value := true, index := 7, keys := [([1], .int 9)], valueMach := some ⟨9, .map⟩ },
    struct := { index := 1, value_rv := some (.int 5) },
    wild := { delegate := some ⟨4, .struct⟩ },
    slice := { index := 3, length := 1 },
    ptr := { mach := some .ptr, peelCount := 3, isNil := true },
    union := { step := .delegate } }
def dirty : MState := ⟨[dirtyRow, dirtyRow, dirtyRow], [⟨1, .map⟩, ⟨0, .struct⟩], some ⟨2, .map⟩, none⟩

theorem ex_run : (run exTs exAtlas exTrs 40 (MM.bind exTs exAtlas exTrs 40 dirty 3 exVal)).toks =
      (marshalV exTs exAtlas exTrs 40 3 exVal).toks ∧
    (run exTs exAtlas exTrs 40 (MM.bind exTs exAtlas exTrs 40 dirty 3 exVal)).fail = none := by decide +kernel

example : (run exTs exAtlas exTrs 40 (MM.bind exTs exAtlas exTrs 40 dirty 3 exVal)).toks =
    (marshalV exTs exAtlas exTrs 40 3 exVal).toks := ex_run.1
example : (run exTs exAtlas exTrs 40 (MM.bind exTs exAtlas exTrs 40 dirty 3 exVal)).fail = none ∧
    (marshalV exTs exAtlas exTrs 40 3 exVal).fail = none := ⟨ex_run.2, by decide +kernel⟩
example : (run exTs exAtlas exTrs 40 (MM.bind exTs exAtlas exTrs 40 dirty 3 exVal)).toks.length = 25 := by
  rw [ex_run.1]
  decide +kernel
/-- the same value through a pointer, and the nil pointer -/
example : (run exTs exAtlas exTrs 40 (MM.bind exTs exAtlas exTrs 40 dirty 6 (.ptr (some exVal)))).toks =
    (marshalV exTs exAtlas exTrs 40 3 exVal).toks := by decide +kernel
example : (run exTs exAtlas exTrs 40 (MM.bind exTs exAtlas exTrs 40 dirty 6 (.ptr none))).toks = [⟨.null, none⟩] := by
  decide +kernel
/-- not all rows are released by a completed run: three are left, by the count at the head of this file the root row
    and one row each for the non-nil interface value and the nil slice -/
theorem rows_not_released :
    (finalState exTs exAtlas exTrs 40 40 (MM.bind exTs exAtlas exTrs 40 dirty 3 exVal)).map
      (fun s => (s.rows.length, s.stack.length)) = some (3, 0) := by decide +kernel

/-- the example atlas is in the fragment, so `marshaller_refines_fixed` applies to it -/
theorem ex_frag : Frag exTs exAtlas := frag_of_check (by decide +kernel)

/-! ### Transforms and keyed unions, from the same dirty state

0 string, 1 int, 4 interface{}, 10 struct T (transform 0 to string, tag 5), 20 interface Shape = union {c: Circle, t: T},
21 struct Circle {r int; t T; a interface{}}, 22 []Shape, 24 struct Holder {s Shape; l []Shape} (tag 9), 25 *Holder.
In the slice, the first Circle holds a non-nil interface: its wildcard machine leaks a row, so the union machine of the
next elements finds rows above its own and configures its delegate there (`sim_union_tip`), whereas the first one
configures it in its own row (`sim_union_same`). -/

def uxTs : Types :=
  [(0, .prim .string true), (1, .prim .int true), (4, .iface false), (10, .struct []), (20, .iface true), (21, .struct []),
   (22, .slice 20), (24, .struct []), (25, .ptr 24)]
def uxAtlas : Atlas :=
  ⟨[⟨true, 10, some 5, .transform 0 0 0⟩,
    ⟨true, 21, none, .structMap [⟨[114], false, [0], 1, false⟩, ⟨[116], false, [1], 10, false⟩, ⟨[97], false, [2], 4, false⟩]⟩,
    ⟨true, 20, none, .union [([99], 1), ([116], 0)]⟩,
    ⟨true, 24, some 9, .structMap [⟨[115], false, [0], 20, false⟩, ⟨[108], false, [1], 22, false⟩]⟩], .default⟩
def uxTrs : Trs := ⟨fun _ _ => some (.str [65]), fun _ _ => none⟩
def circle (r : Int) (any : Val) : Val := .iface (some (21, .struct [.int r, .struct [], any]))
def uxVal : Val :=
  .struct [circle 3 (.iface none),
    .slice (some [circle 4 (.iface (some (0, .str [120]))), .iface (some (10, .struct [])), circle 5 (.iface none)])]

theorem ux_noClash : NoClash uxTs uxAtlas := frag_of_check (by decide +kernel)

theorem ux_run : (run uxTs uxAtlas uxTrs 60 (MM.bind uxTs uxAtlas uxTrs 60 dirty 25 (.ptr (some uxVal)))).toks =
      (marshalV uxTs uxAtlas uxTrs 40 24 uxVal).toks ∧
    (run uxTs uxAtlas uxTrs 60 (MM.bind uxTs uxAtlas uxTrs 60 dirty 25 (.ptr (some uxVal)))).fail = none := by
  decide +kernel

example : (run uxTs uxAtlas uxTrs 60 (MM.bind uxTs uxAtlas uxTrs 60 dirty 25 (.ptr (some uxVal)))).toks =
    (marshalV uxTs uxAtlas uxTrs 40 24 uxVal).toks := ux_run.1
example : (run uxTs uxAtlas uxTrs 60 (MM.bind uxTs uxAtlas uxTrs 60 dirty 25 (.ptr (some uxVal)))).fail = none ∧
    (marshalV uxTs uxAtlas uxTrs 40 24 uxVal).fail = none ∧
    (marshalV uxTs uxAtlas uxTrs 40 24 uxVal).toks.length = 43 := ⟨ux_run.2, by decide +kernel⟩
/-- a value that is not a member of the union: an error, after the same 12 tokens -/
def uxBad : Val := .slice (some [circle 1 (.iface none), .iface (some (24, .struct []))])
example : (run uxTs uxAtlas uxTrs 60 (MM.bind uxTs uxAtlas uxTrs 60 dirty 22 uxBad)).toks =
      (marshalV uxTs uxAtlas uxTrs 40 22 uxBad).toks ∧
    (run uxTs uxAtlas uxTrs 60 (MM.bind uxTs uxAtlas uxTrs 60 dirty 22 uxBad)).fail = some .err ∧
    (marshalV uxTs uxAtlas uxTrs 40 22 uxBad).fail = some .err ∧
    (marshalV uxTs uxAtlas uxTrs 40 22 uxBad).toks.length = 12 := by decide +kernel

/-! ### The statement at full strength is false: same-row delegation of the transform machine

`_yieldMarshalMachinePtrForAtlasEntry` picks a transform machine's delegate in the SAME row ("Pick delegate without
growing stack.  (This currently means recursive transform won't fly.)").  So:
  * a transform whose target type has a transform itself overwrites the row's one transform machine
    (trFunc, delegate), which ends up delegating to itself;
  * a POINTER to a type whose transform yields a pointer type overwrites the row's one ptrDeref machine, which ends up
    in a cycle ptrDeref -> transform -> ptrDeref.
/repo refuses both atlases with an error (fix e9d1a55, obj/marshalSlab.go: an error thunk in place of the machine).
The stateful model has no such check and goes round the cycle until its fuel is gone (`stuck`).  The functional model
marshals both values.

The keyed-union machine leads to the same clash by another way, which /repo does not refuse: its `Reset` configures the
member's machine in `slab.tip()`, and that is the union machine's own row whenever no row lies above it.  A member with a
transform then shares the row with the machines around the union machine: a transform TO a union type with such a member
(one transform machine for two), a pointer to a union with a member whose transform yields a pointer type (one ptrDeref
machine for two), a member whose transform yields another union type (one union machine for two).  Nothing gets stuck:
the code and the stateful model alike emit the inner value WITHOUT the union's map around it, where the functional model
has the map; in a slice the code then panics in `reflect.Call`, or emits the second element as the string "<T Value>".
`Frag` leaves these atlases out (`PlainT`, `Okm1`, `Okm`).  None of the three is stated in Lean: the atlas below has no
union, and the theorems of this section are about the two transform clashes only. -/

/-- 0 string; 10 struct T (transform 0 to string, tag 5); 11 struct U (transform 1 to T, tag 6);
    14 struct W (transform 2 to *string); 15 *string; 16 *W -/
def cxTs : Types :=
  [(0, .prim .string true), (10, .struct []), (11, .struct []), (14, .struct []), (15, .ptr 0), (16, .ptr 14)]
def cxAtlas : Atlas :=
  ⟨[⟨true, 10, some 5, .transform 0 0 0⟩, ⟨true, 11, some 6, .transform 1 10 10⟩, ⟨true, 14, none, .transform 2 15 15⟩],
   .default⟩
def cxTrs : Trs :=
  ⟨fun fn _ => match fn with
     | 0 => some (.str [65]) | 1 => some (.struct []) | 2 => some (.ptr (some (.str [66]))) | _ => none,
   fun _ _ => none⟩

/-- single transforms are fine -/
example : run cxTs cxAtlas cxTrs 30 (MM.bind cxTs cxAtlas cxTrs 30 MState.fresh 10 (.struct [])) =
    ⟨[⟨.str [65], some 5⟩], none⟩ ∧ marshalV cxTs cxAtlas cxTrs 30 10 (.struct []) = ⟨[⟨.str [65], some 5⟩], none⟩ := by
  constructor <;> with_unfolding_all rfl
example : (run cxTs cxAtlas cxTrs 30 (MM.bind cxTs cxAtlas cxTrs 30 MState.fresh 14 (.struct []))).toks =
    [⟨.str [66], none⟩] := by decide +kernel

/-- a chained transform: functional model `"A"` tagged 6; the stateful model never gets out of `Bind` -/
theorem clash_chain :
    marshalV cxTs cxAtlas cxTrs 30 11 (.struct []) = ⟨[⟨.str [65], some 6⟩], none⟩ ∧
    (MM.bind cxTs cxAtlas cxTrs 30 MState.fresh 11 (.struct [])).bindErr = some .stuck ∧
    (run cxTs cxAtlas cxTrs 30 (MM.bind cxTs cxAtlas cxTrs 30 MState.fresh 11 (.struct []))).fail = some .panic := by
  refine ⟨by with_unfolding_all rfl, by decide +kernel, by decide +kernel⟩

/-- a pointer to a type transformed to a pointer type -/
theorem clash_ptr :
    marshalV cxTs cxAtlas cxTrs 30 16 (.ptr (some (.struct []))) = ⟨[⟨.str [66], none⟩], none⟩ ∧
    (MM.bind cxTs cxAtlas cxTrs 30 MState.fresh 16 (.ptr (some (.struct [])))).bindErr = some .stuck ∧
    (run cxTs cxAtlas cxTrs 30 (MM.bind cxTs cxAtlas cxTrs 30 MState.fresh 16 (.ptr (some (.struct []))))).fail
      = some .panic := by
  refine ⟨by with_unfolding_all rfl, by decide +kernel, by decide +kernel⟩

/-- the cycle: a transform machine that delegates to itself never gets out of `Reset`, whatever the fuel -/
theorem clash_loop : ∀ (n rt : Nat) (v : Val) (row : Row), row.transform.delegate = some .transform →
    row.transform.trFunc = 0 → resetM cxTs cxAtlas cxTrs n ⟨0, .transform⟩ rt v [row] = .error .stuck
  | 0, _, _, _, _, _ => rfl
  | n+1, rt, v, row, hd, hf => by
    have htr : cxTrs.m row.transform.trFunc v = some (.str [65]) := by rw [hf]; rfl
    simp only [resetM, resetBody, resetTransform, updRow, hd, htr, List.getElem?_cons_zero, List.set_cons_zero]
    exact clash_loop n _ _ _ rfl hf

theorem marshaller_refines_statement_false : ¬ marshaller_refines_statement := by
  intro h
  obtain ⟨N, hN⟩ := h cxTs cxAtlas cxTrs 30 11 (.struct []) (by rw [clash_chain.1]; simp)
  have hrun := hN (N + 6) (by omega) MState.fresh
  rw [clash_chain.1] at hrun
  obtain ⟨row, hy, hd, hf⟩ : ∃ row, yieldM cxTs cxAtlas 6 Row.zero 11 = .ok (row, .transform) ∧
      row.transform.delegate = some .transform ∧ row.transform.trFunc = 0 :=
    ⟨{ transform := { trFunc := 0, mty := 0, delegate := some .transform, tag := some 6 } },
      by with_unfolding_all rfl, rfl, rfl⟩
  have hy' : yieldM cxTs cxAtlas (N + 6) Row.zero 11 = .ok (row, .transform) :=
    yieldM_le hy NS.ok (by omega)
  have hb : (MM.bind cxTs cxAtlas cxTrs (N + 6) MState.fresh 11 (.struct [])).bindErr = some .stuck := by
    simp [MM.bind, requisition, hy', clash_loop _ _ _ row hd hf]
  simp [run, hb] at hrun

end Refmt.C17ObjMarshal
