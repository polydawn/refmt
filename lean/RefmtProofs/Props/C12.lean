/-
  C12 — re-marshalling a decoded document reaches a byte-exact fixpoint.

  The chain in refmt is  v ─M→ b1 ─U(untyped)→ u1 ─M→ b2 ─U(untyped)→ u2 ─M→ b3  and the claim is b3 = b2
  (and that b2 still decodes into v's own type to a value equal to v, in the sense of the round-trip specification
  `normV` shared with C01: claim (ii), RefmtProofs/Props/C12Typed.lean and C12Tagged.lean; the correspondence stream
  `remarshal` compares it with refmt).  What tests cannot reach is about *every* value an untyped slot can hold:

  * `unm_yields_untyped`: whatever list of untagged tokens with numbers in the Go ranges (`tokPlain`) the untyped
    unmarshaller accepts, the value it builds is a native untyped value (`isU`): nil, bool, int, uint64 (only above
    MaxInt64), float64, string, byte string, []interface{} and map[string]interface{} of such.
  * `untyped_roundtrip`: marshalling a native untyped value and unmarshalling the tokens into an untyped slot gives the
    value back with every map's entries in the marshaller's (sorted) key order (`sortU`).
  * `marshal_sortU` (the marshaller sorts), hence `fixpoint_tokens`:  M (U (M u)) = M u  on tokens.
  * `unm_canon_untyped`: the untyped unmarshaller does not see the difference between a list of such tokens and what the
    CBOR codec returns for it (`C02.canonTok`: non-negative ints come back unsigned).
  * `fixpoint_cbor`: the byte-level statement for CBOR, composing the encoder model, the decoder model (C02's round
    trip) and the two object machines:  b3 = b2.
  * `native_first_pass_cbor`: `fixpoint_cbor` read with v itself a native untyped value: then already b2 = b1.
  * `fixpoint_json`: the same for JSON on what JSON can carry (`jsonU`).

  Fuel.  `untyped_roundtrip`, `fixpoint_tokens`, `fixpoint_cbor`, `native_first_pass_cbor` and `fixpoint_json` ask
  for `… + 3 * n + 64 < fuel`, `n` the index of `isU` (nesting depth plus one): a level of `[]interface{}` costs five
  units of fuel but only two tokens (one CBOR byte), and the unmarshaller needs one unit more than the marshaller.  The
  `+ 64` is slack: the proofs use `… + 3 * n ≤ fuel` only (`unm_tree`).  With `n` in place of `3 * n`, and the same
  `+ 64`, the first three are false (`*_statement`, refuted by a 33-fold nested `[[…[nil]…]]` at fuel 167:
  `*_statement_false`); fuel is a model artefact.
  Non-vacuity: a concrete environment (`exTs`, `exA`, `exIt`, `exEnv`) and `fixpoint_cbor` / `fixpoint_json`
  instantiated on `map[string]interface{}{"b": []interface{}{5, "x", nil}, "a": 7}`, before the counterexample.

  The idea: `treeU`, the token tree of a native untyped value.  The marshaller emits its flattening
  (`marshal_tree`), the untyped unmarshaller reads that back as `sortU` (`unm_tree`), and does not see declared
  lengths nor the signedness spelling of small integers (`unm_compat`), which is all the codecs change.
-/
import RefmtModel
import RefmtProofs.Props.C02
import RefmtProofs.Props.C03
import RefmtProofs.Props.C07
import RefmtProofs.Lemmas.AutogenList
import RefmtProofs.Lemmas.Untyped
import RefmtProofs.Lemmas.Transport
import RefmtProofs.Lemmas.UntypedRead
namespace Refmt.C12
open Refmt Refmt.Obj Refmt.C12L

section env
variable {ts : Types} {a : Atlas} {it : IfaceTys} (trs : Trs) (he : UEnv ts a it)
include he

-- stated with the environment like `uV_iface`, though the empty input needs none of it
set_option linter.unusedSectionVars false in
theorem uV_iface_nil (f : Nat) (cur : Val) : unmV ts a trs it (f+1) it.iface cur [] = .more 0 := by
  simp [unmV]

end env

theorem unm_yields_untyped (ts : Types) (a : Atlas) (trs : Trs) (it : IfaceTys) (fuel : Nat) (cur : Val)
    (toks rest : List Tok) (v : Val) (used : Nat) (he : UEnv ts a it) (hp : toks.all tokPlain = true)
    (h : unmV ts a trs it fuel it.iface cur toks = .ok v rest used) :
    isU it fuel v = true := by
  obtain ⟨c, rfl, -, hr⟩ := (reads_iff (j := .v it.iface cur)).1 h
  exact hr.native he (of_all_append hp).1 rfl

@[simp] theorem mapRes_ok (g : Tok → Tok) (v : Val) (r : List Tok) (k : Nat) : mapRes g (.ok v r k) = .ok v (r.map g) k := rfl
@[simp] theorem mapRes_more (g : Tok → Tok) (k : Nat) : mapRes g (.more k) = .more k := rfl
@[simp] theorem mapRes_err (g : Tok → Tok) (k : Nat) : mapRes g (.err k) = .err k := rfl
@[simp] theorem mapRes_panic (g : Tok → Tok) (k : Nat) : mapRes g (.panic k) = .panic k := rfl

theorem untyped_roundtrip (ts : Types) (a : Atlas) (trs : Trs) (it : IfaceTys) (fuel n : Nat) (u : Val) (toks : List Tok)
    (he : UEnv ts a it) (hu : isU it n u = true) (hm : marshalV ts a trs fuel it.iface u = ⟨toks, none⟩)
    (hf : toks.length + 3 * n + 64 < fuel) :
    unmV ts a trs it fuel it.iface (.iface none) toks = .ok (sortU a.defaultSort n u) [] toks.length := by
  have e := marshal_ok_tree trs he n u fuel toks hu hm
  subst e
  have := unm_tree trs he n u fuel (.iface none) [] hu (by omega)
  simpa using this

theorem marshal_sortU (ts : Types) (a : Atlas) (trs : Trs) (it : IfaceTys) (fuel n : Nat) (u : Val)
    (he : UEnv ts a it) (hu : isU it n u = true) :
    marshalV ts a trs fuel it.iface (sortU a.defaultSort n u) = marshalV ts a trs fuel it.iface u :=
  marshal_sortU_all trs he n u hu fuel

theorem fixpoint_tokens (ts : Types) (a : Atlas) (trs : Trs) (it : IfaceTys) (fuel n : Nat) (u : Val) (toks : List Tok)
    (he : UEnv ts a it) (hu : isU it n u = true) (hm : marshalV ts a trs fuel it.iface u = ⟨toks, none⟩)
    (hf : toks.length + 3 * n + 64 < fuel) :
    ∃ u', unmV ts a trs it fuel it.iface (.iface none) toks = .ok u' [] toks.length ∧
          marshalV ts a trs fuel it.iface u' = ⟨toks, none⟩ :=
  ⟨sortU a.defaultSort n u, untyped_roundtrip ts a trs it fuel n u toks he hu hm hf,
    (marshal_sortU ts a trs it fuel n u he hu).trans hm⟩

theorem compat_canon (t : Tok) (h : tokPlain t = true) : C01L.Respell True t (C02.canonTok t) ∧ t.tag = none := by
  obtain ⟨b, tg⟩ := t
  simp only [tokPlain, Bool.and_eq_true, Option.isNone_iff_eq_none] at h
  obtain ⟨rfl, hb⟩ := h
  refine ⟨?_, rfl⟩
  cases b with
  | int i =>
    simp only [Bool.and_eq_true, decide_eq_true_eq] at hb
    by_cases hi : i ≥ 0
    · simp only [C02.canonTok, hi, if_true]
      exact .int none hi hb.2
    · simp only [C02.canonTok, hi, if_false]
      exact .same _
  | _ => exact .same _

theorem unm_canon_untyped (ts : Types) (a : Atlas) (trs : Trs) (it : IfaceTys) (fuel : Nat) (cur : Val) (toks : List Tok)
    (he : UEnv ts a it) (hp : toks.all tokPlain = true) :
    unmV ts a trs it fuel it.iface cur (toks.map C02.canonTok) =
      (match unmV ts a trs it fuel it.iface cur toks with
       | .ok v r k => .ok v (r.map C02.canonTok) k
       | x => x) := by
  rw [unm_compat trs he C02.canonTok fuel cur toks (fun t ht => compat_canon t (List.all_eq_true.mp hp t ht))]
  cases unmV ts a trs it fuel it.iface cur toks <;> rfl

/-- refmt.Marshal for CBOR in the model: marshal, then run the encoder machine over the tokens -/
def marshalCbor (ts : Types) (a : Atlas) (trs : Trs) (fuel id : Nat) (v : Val) : Option Bytes :=
  let mo := marshalV ts a trs fuel id v
  match mo.fail with
  | some _ => none
  | none =>
    let (fl, ws) := runOut CborEnc.step CborEnc.init mo.toks
    if fl.getLast? = some Flag.done then some ws.flatten else none

/-- refmt.Unmarshal for CBOR in the model: decode one item, hand its tokens to the unmarshaller -/
def unmarshalCbor (ts : Types) (a : Atlas) (trs : Trs) (it : IfaceTys) (fuel id : Nat) (bs : Bytes) : Option Val :=
  let o := CborDec.decode false (Rd.ofBytes bs)
  if o.res.isOk then
    (match unmV ts a trs it fuel id (zeroVal ts 64 id) o.toks with
     | .ok v [] _ => some v
     | _ => none)
  else none

/-- strings and byte strings within the decoder's built-in 32 MiB per-item cap; slices and maps with fewer than
    2^63 entries (a Go `len` is an `int`, but a Lean list is unbounded, and C02's encoder/decoder theorems (`WFv`)
    need declared lengths below 2^63). -/
def smallU : Nat → Val → Bool
  | 0, _ => true
  | f+1, .iface (some (_, x)) =>
    (match x with
     | .str s => decide (s.length ≤ 33554432)
     | .bytes (some b) => decide (b.length ≤ 33554432)
     | .slice (some vs) => decide (vs.length < 9223372036854775808) && vs.all (smallU f)
     | .map (some es) => decide (es.length < 9223372036854775808) &&
                         es.all fun (k, y) => decide ((keyOf k).length ≤ 33554432) && smallU f y
     | _ => true)
  | _, _ => true

theorem Leaf.cborOk {it : IfaceTys} {b : Body} {d : Nat} {x : Val} (h : Leaf it b d x) (f : Nat)
    (hs : smallU (f+1) (.iface (some (d, x))) = true) : C01L.cborOk ⟨b, none⟩ = true := by
  cases h <;> simp_all [C01L.cborOk, smallU]

theorem tree_cborOk (it : IfaceTys) (mode : KeySort) (n : Nat) (u : Val) (hu : isU it n u = true) (hs : smallU n u = true) :
    ∀ t ∈ (treeU mode n u).flatten, C01L.cborOk t = true := by
  refine tree_forall (P := fun t => C01L.cborOk t = true) (H := fun n u => smallU n u = true) mode rfl rfl rfl
    (fun f b d x hl hs => hl.cborOk f hs) (fun f d vs hs => ?_) (fun f d es hs => ?_) n u hu hs
  · simp only [smallU, Bool.and_eq_true, decide_eq_true_eq, List.all_eq_true] at hs
    refine ⟨?_, hs.2⟩
    simp [C01L.cborOk, two63]; exact decide_eq_true (by have := hs.1; omega)
  · simp only [smallU, Bool.and_eq_true, decide_eq_true_eq, List.all_eq_true] at hs
    refine ⟨?_, fun p hp => ⟨by simpa [C01L.cborOk] using (hs.2 p hp).1, (hs.2 p hp).2⟩⟩
    simp [C01L.cborOk, two63]; exact decide_eq_true (by have := hs.1; omega)

theorem encode_inv {σ : Type} (step : σ → Tok → EncOut σ) (init : σ) (mo : MOut) {b : Bytes}
    (h : (match mo.fail with
          | some _ => none
          | none =>
            let (fl, ws) := runOut step init mo.toks
            if fl.getLast? = some Flag.done then some ws.flatten else none) = some b) :
    ∃ toks, mo = ⟨toks, none⟩ ∧ (runOut step init toks).1.getLast? = some Flag.done ∧
      b = (runOut step init toks).2.flatten := by
  obtain ⟨toks, fail⟩ := mo
  cases fail with
  | some f => cases h
  | none =>
    simp only at h
    split at h
    · next hd => exact ⟨toks, rfl, hd, (Option.some.inj h).symm⟩
    · cases h

theorem marshalCbor_inv {ts : Types} {a : Atlas} {trs : Trs} {fuel id : Nat} {v : Val} {b : Bytes}
    (h : marshalCbor ts a trs fuel id v = some b) :
    ∃ toks, marshalV ts a trs fuel id v = ⟨toks, none⟩ ∧
      (runOut CborEnc.step CborEnc.init toks).1.getLast? = some Flag.done ∧
      b = (runOut CborEnc.step CborEnc.init toks).2.flatten :=
  encode_inv CborEnc.step CborEnc.init _ h

theorem cbor_decode (ts : Types) (a : Atlas) (trs : Trs) (it : IfaceTys) (fuel n : Nat) (u1 : Val) (b2 : Bytes)
    (he : UEnv ts a it) (hu : isU it n u1 = true) (hs : smallU n u1 = true)
    (hm : marshalCbor ts a trs fuel it.iface u1 = some b2) :
    (CborDec.decode false (Rd.ofBytes b2)).toks = (treeU a.defaultSort n u1).flatten.map C02.canonTok ∧
    (CborDec.decode false (Rd.ofBytes b2)).res = .ok () ∧
    (treeU a.defaultSort n u1).flatten.length ≤ 2 * b2.length := by
  obtain ⟨toks, hmv, -, hb⟩ := marshalCbor_inv hm
  obtain ⟨tv, rfl, h1, h2, h3⟩ := C07.marshal_wf_strong ts a trs fuel it.iface u1 toks hmv
  have e := marshal_ok_tree trs he n u1 fuel _ hu hmv
  have hc : tv.flatten.all C01L.cborOk = true := by
    rw [e]; exact List.all_eq_true.mpr (tree_cborOk it _ n u1 hu hs)
  obtain ⟨-, hdec⟩ := C01L.transport_tree tv hc (C01L.marshal_lenNN ts a trs fuel it.iface u1 _ hmv) h1 h2 h3
  have hwf := C01L.wf_of_flat tv hc h3 h2
  have hlen := C02.lenV tv hwf
  rw [← (C02.enc_eq_spec tv hwf).2, ← hb] at hlen
  rw [← hb] at hdec
  rw [← e]
  exact ⟨hdec.1, hdec.2.1, hlen⟩

theorem fixpoint_cbor (ts : Types) (a : Atlas) (trs : Trs) (it : IfaceTys) (fuel n : Nat) (u1 : Val) (b2 : Bytes)
    (he : UEnv ts a it) (hu : isU it n u1 = true) (hs : smallU n u1 = true)
    (hm : marshalCbor ts a trs fuel it.iface u1 = some b2) (hf : 2 * b2.length + 3 * n + 64 < fuel) :
    ∃ u2, unmarshalCbor ts a trs it fuel it.iface b2 = some u2 ∧ marshalCbor ts a trs fuel it.iface u2 = some b2 := by
  obtain ⟨h1, h2, hlen⟩ := cbor_decode ts a trs it fuel n u1 b2 he hu hs hm
  refine ⟨sortU a.defaultSort n u1, ?_, ?_⟩
  · unfold unmarshalCbor
    simp only [h1, h2]
    rw [unm_tree_back trs he C02.canonTok compat_canon n u1 fuel _ hu (by omega)]
    rfl
  · unfold marshalCbor
    rw [marshal_sortU ts a trs it fuel n u1 he hu]
    exact hm

theorem native_first_pass_cbor (ts : Types) (a : Atlas) (trs : Trs) (it : IfaceTys) (fuel n : Nat) (v : Val) (b1 : Bytes)
    (he : UEnv ts a it) (hu : isU it n v = true) (hs : smallU n v = true)
    (hm : marshalCbor ts a trs fuel it.iface v = some b1) (hf : 2 * b1.length + 3 * n + 64 < fuel) :
    ∃ u1, unmarshalCbor ts a trs it fuel it.iface b1 = some u1 ∧ marshalCbor ts a trs fuel it.iface u1 = some b1 :=
  fixpoint_cbor ts a trs it fuel n v b1 he hu hs hm hf

def marshalJson (c : JsonEnc.Cfg) (ts : Types) (a : Atlas) (trs : Trs) (fuel id : Nat) (v : Val) : Option Bytes :=
  let mo := marshalV ts a trs fuel id v
  match mo.fail with
  | some _ => none
  | none =>
    let (fl, ws) := runOut (JsonEnc.step c FloatText.jsonFloat) JsonEnc.init mo.toks
    if fl.getLast? = some Flag.done then some ws.flatten else none

def unmarshalJson (ts : Types) (a : Atlas) (trs : Trs) (it : IfaceTys) (fuel id : Nat) (bs : Bytes) : Option Val :=
  let o := JsonDec.decode (Rd.ofBytes bs)
  if o.res.isOk then
    (match unmV ts a trs it fuel id (zeroVal ts 64 id) o.toks with
     | .ok v [] _ => some v
     | _ => none)
  else none

/-- The float's JSON text re-reads (`numTok`) as a number that prints as the same text (for an integral float such as
    1.0 the text `1` comes back as the *int* 1, which is re-marshalled as `1`), and that number is again a
    Go-representable finite value.  This is the round-trip property of strconv's shortest formatting
    (`FloatText.jsonFloat` / `parseDecimal`); it fails for `-0`, whose text `-0` re-reads as the integer `0`, and holds
    for every other finite float (`C03Sem.floatStable_finite`). -/
def floatStable (b : Nat) : Bool :=
  match JsonDec.numTok (FloatText.jsonFloat b) with
  | .ok b' => (C03L.scalarTxt b' == FloatText.jsonFloat b) &&
              (match b' with | .float x => decide (x < two64) && !floatNonFinite x | _ => true)
  | .error _ => false

/-- what JSON can carry: no byte strings, strings valid UTF-8, finite floats other than -0 (bit pattern 2^63, written
    out below) whose text is a number the decoder can type (the `floatOk` of C03) and re-reads stably (`floatStable`).
    On a native untyped value the float clause holds of every finite float other than -0 (`C03Sem.jsonU_float_clause`,
    in a module that imports this one). -/
def jsonU : Nat → Val → Bool
  | 0, _ => true
  | f+1, .iface (some (_, x)) =>
    (match x with
     | .str s => toValidUtf8 s == s
     | .bytes _ => false
     | .float b => (C03L.floatOk b && !floatNonFinite b) && b != 9223372036854775808 && floatStable b
     | .slice (some vs) => vs.all (jsonU f)
     | .map (some es) => es.all fun (k, y) => (toValidUtf8 (keyOf k) == keyOf k) && jsonU f y
     | _ => true)
  | _, _ => true

section json
open Refmt.JsonEnc Refmt.C03L Refmt.Spec.Json

/-- what the untyped unmarshaller rebuilds from the JSON text of a native untyped value: floats are re-typed by
    their text (an integral float comes back as an int) -/
def jretU (it : IfaceTys) : Nat → Val → Val
  | 0, v => v
  | _+1, .iface (some (d, .float b)) =>
    (match JsonDec.numTok (FloatText.jsonFloat b) with
     | .ok (.int i) => .iface (some (it.int, .int i))
     | .ok (.uint m) => .iface (some (it.uint64, .uint m))
     | .ok (.float x) => .iface (some (it.f64, .float x))
     | _ => .iface (some (d, .float b)))
  | f+1, .iface (some (d, .slice (some vs))) => .iface (some (d, .slice (some (vs.map (jretU it f)))))
  | f+1, .iface (some (d, .map (some es))) => .iface (some (d, .map (some (es.map fun p => (p.1, jretU it f p.2)))))
  | _, v => v

/-- declared lengths and the tag forgotten (JSON has neither) -/
def eraseLen (t : Tok) : Tok :=
  ⟨match t.body with
   | .mapOpen _ => .mapOpen (-1)
   | .arrOpen _ => .arrOpen (-1)
   | b => b, none⟩

theorem stable_cases {b : Nat} (h : floatStable b = true) :
    (∃ i, JsonDec.numTok (FloatText.jsonFloat b) = .ok (.int i) ∧ -(two63 : Int) ≤ i ∧ i < (two63 : Int) ∧
        scalarTxt (.int i) = FloatText.jsonFloat b) ∨
    (∃ m, JsonDec.numTok (FloatText.jsonFloat b) = .ok (.uint m) ∧ two63 ≤ m ∧ m < two64 ∧
        scalarTxt (.uint m) = FloatText.jsonFloat b) ∨
    (∃ x, JsonDec.numTok (FloatText.jsonFloat b) = .ok (.float x) ∧ x < two64 ∧ floatNonFinite x = false ∧
        scalarTxt (.float x) = FloatText.jsonFloat b) := by
  unfold floatStable at h
  split at h
  · rename_i b' hb
    simp only [Bool.and_eq_true, beq_iff_eq] at h
    rcases numTok_kinds hb with ⟨i, rfl, h1, h2⟩ | ⟨m, rfl, h1, h2⟩ | ⟨x, rfl⟩
    · exact Or.inl ⟨i, hb, h1, h2, h.1⟩
    · exact Or.inr (Or.inl ⟨m, hb, h1, h2, h.1⟩)
    · have := h.2
      simp only [Bool.and_eq_true, decide_eq_true_eq, Bool.not_eq_true'] at this
      exact Or.inr (Or.inr ⟨x, hb, this.1, this.2, h.1⟩)
  · cases h

theorem treeU_jret_slice (it : IfaceTys) (mode : KeySort) (f d : Nat) (vs : List Val) :
    treeU mode (f+1) (jretU it (f+1) (.iface (some (d, .slice (some vs))))) =
      .arr none vs.length (vs.map fun x => treeU mode f (jretU it f x)) := by
  simp [jretU, treeU, List.map_map]

theorem treeU_jret_map (it : IfaceTys) (mode : KeySort) (f d : Nat) (es : List (Val × Val)) :
    treeU mode (f+1) (jretU it (f+1) (.iface (some (d, .map (some es))))) =
      .map none es.length ((sortKeys mode (es.map fun p => (keyOf p.1, p.2))).map fun p =>
        (TV.scalar ⟨.str p.1, none⟩, treeU mode f (jretU it f p.2))) := by
  have e1 : ((es.map fun p => (p.1, jretU it f p.2)).map fun p => (keyOf p.1, p.2)) =
      (es.map fun p => (keyOf p.1, p.2)).map fun p => (p.1, jretU it f p.2) := by
    simp [List.map_map]
  simp only [jretU, treeU, List.length_map]
  rw [e1, sortKeys_mapVal, List.map_map]
  rfl

/-- What `fixpoint_json` needs of a native untyped value `u` inside `jsonU` (`json_all`).  `u` is marshalled to the tree
    `T = treeU u`, and the text of `T` is read back as `jretU u`, whose tree is `T'`: the decoder theorem applies to `T`,
    the encoder theorem to `T'`, the decoder's tokens are those of `T'` up to declared lengths, and `T'` is printed as
    `T` was. -/
structure JAll (it : IfaceTys) (mode : KeySort) (c : Cfg) (n : Nat) (u : Val) : Prop where
  native : isU it n (jretU it n u) = true
  dok : DOk (treeU mode n u) = true
  eok : EOk (treeU mode n (jretU it n u)) = true
  toks : (treeU mode n u).flatten.map retypeTok = (treeU mode n (jretU it n u)).flatten.map eraseLen
  txt : ∀ d, txtV c d (treeU mode n (jretU it n u)) = txtV c d (treeU mode n u)
  trailer : C03.trailer c (treeU mode n (jretU it n u)) = C03.trailer c (treeU mode n u)

theorem JAll.of_trees {it : IfaceTys} {mode : KeySort} {c : Cfg} {n : Nat} {u : Val} {T T' : TV}
    (hT : treeU mode n u = T) (hT' : treeU mode n (jretU it n u) = T') (native : isU it n (jretU it n u) = true)
    (dok : DOk T = true) (eok : EOk T' = true) (toks : T.flatten.map retypeTok = T'.flatten.map eraseLen)
    (txt : ∀ d, txtV c d T' = txtV c d T) (trailer : C03.trailer c T' = C03.trailer c T) : JAll it mode c n u := by
  subst hT hT'
  exact ⟨native, dok, eok, toks, txt, trailer⟩

theorem Leaf.eraseLen {it : IfaceTys} {b : Body} {d : Nat} {x : Val} (h : Leaf it b d x) : eraseLen ⟨b, none⟩ = ⟨b, none⟩ := by
  cases h <;> rfl

theorem JAll_leaf {it : IfaceTys} (mode : KeySort) (c : Cfg) (f : Nat) {b b' : Body} {d d' : Nat} {x x' : Val}
    (hl : Leaf it b d x) (hl' : Leaf it b' d' x')
    (hj : jretU it (f+1) (.iface (some (d, x))) = .iface (some (d', x')))
    (hdec : decOk b = true) (henc : encOk b' = true) (hrt : retypeTok ⟨b, none⟩ = ⟨b', none⟩)
    (htx : scalarTxt b' = scalarTxt b) : JAll it mode c (f+1) (.iface (some (d, x))) := by
  refine .of_trees (T := .scalar ⟨b, none⟩) (T' := .scalar ⟨b', none⟩) (hl.tree mode f) (by rw [hj]; exact hl'.tree mode f)
    (by rw [hj]; exact hl'.isU f) hdec henc ?_ (fun _ => htx) rfl
  show [retypeTok ⟨b, none⟩] = [C12.eraseLen ⟨b', none⟩]
  rw [hrt, hl'.eraseLen]

theorem json_all (it : IfaceTys) (mode : KeySort) (c : Cfg) : ∀ (n : Nat) (u : Val),
    isU it n u = true → jsonU n u = true → JAll it mode c n u := by
  refine isU_induct (fun f hj => ⟨rfl, rfl, rfl, rfl, fun d => rfl, rfl⟩) (fun f b d x hl hj => ?_)
    (fun f vs h ih hj => ?_) (fun f es hk hv hd ih hj => ?_)
  · cases hl with
    | str s =>
      have hs : toValidUtf8 s = s := by simpa [jsonU] using hj
      exact JAll_leaf mode c f (.str s) (.str s) rfl rfl rfl (by simp only [retypeTok, hs]) rfl
    | bytes b => simp [jsonU] at hj
    | bool b => exact JAll_leaf mode c f (.bool b) (.bool b) rfl rfl rfl rfl rfl
    | int i h1 h2 =>
      exact JAll_leaf mode c f (.int i h1 h2) (.int i h1 h2) rfl (by simp only [decOk, h1, h2, decide_true, Bool.and_self])
        rfl rfl rfl
    | uint m h1 h2 =>
      exact JAll_leaf mode c f (.uint m h1 h2) (.uint m h1 h2) rfl (decide_eq_true h2) rfl
        (by simp only [retypeTok, if_neg (Nat.not_lt.mpr h1)]) rfl
    | float b hb =>
      simp only [jsonU, Bool.and_eq_true, Bool.not_eq_true', bne_iff_ne, ne_eq] at hj
      obtain ⟨⟨⟨hfo, hfin⟩, _⟩, hst⟩ := hj
      have hd : decOk (.float b) = true := by
        simp only [decOk, hfin, hfo, Bool.not_false, Bool.and_self]
      -- the float comes back as the number its text is typed as; that number prints as the same text
      rcases stable_cases hst with ⟨i, hn, h1, h2, htx⟩ | ⟨m, hn, h1, h2, htx⟩ | ⟨x, hn, h1, h2, htx⟩
      · exact JAll_leaf mode c f (.float b hb) (.int i h1 h2) (by simp only [jretU, hn]) hd rfl
          (by simp only [retypeTok, hn]) htx
      · exact JAll_leaf mode c f (.float b hb) (.uint m h1 h2) (by simp only [jretU, hn]) hd rfl
          (by simp only [retypeTok, hn]) htx
      · exact JAll_leaf mode c f (.float b hb) (.float x h1) (by simp only [jretU, hn]) hd
          (by simp only [encOk, h2, Bool.not_false]) (by simp only [retypeTok, hn]) htx
  · have hjs : ∀ x ∈ vs, jsonU f x = true := by simpa [jsonU] using hj
    have IH : ∀ x ∈ vs, JAll it mode c f x := fun x hx => ih x hx (hjs x hx)
    refine .of_trees (treeU_slice mode f _ vs) (treeU_jret_slice it mode f _ vs) ?_ ?_ ?_ ?_ ?_ rfl
    · simp only [jretU]
      exact UV_isU (.slice _ _ (List.forall_mem_map.2 fun x hx => (IH x hx).native))
    · simp only [DOk]
      exact all_of_fold (P := DOk) (PL := DOkL) rfl (fun _ _ => rfl) _ (List.forall_mem_map.2 fun x hx => (IH x hx).dok)
    · simp only [EOk]
      exact all_of_fold (P := EOk) (PL := EOkL) rfl (fun _ _ => rfl) _ (List.forall_mem_map.2 fun x hx => (IH x hx).eok)
    · simp only [TV.flatten, flattenList_map, List.map_cons, List.map_append, List.map_nil, List.map_flatMap]
      rw [Autogen.flatMap_congr vs _ _ (fun x hx => (IH x hx).toks)]
      simp [retypeTok, eraseLen]
    · intro d
      simp only [txtV, List.isEmpty_map]
      rw [txtL_congr c (treeU mode f) (fun x => treeU mode f (jretU it f x)) vs (d+1) false (fun x hx => (IH x hx).txt)]
  · have hjs : ∀ p ∈ es, toValidUtf8 (keyOf p.1) = keyOf p.1 ∧ jsonU f p.2 = true := by
      simpa [jsonU] using hj
    have IH : ∀ p ∈ sortKeys mode (es.map fun p => (keyOf p.1, p.2)),
        toValidUtf8 p.1 = p.1 ∧ JAll it mode c f p.2 :=
      sorted_mem mode es (fun k y => toValidUtf8 k = k ∧ JAll it mode c f y)
        (fun p hp => ⟨(hjs p hp).1, ih p hp (hjs p hp).2⟩)
    refine .of_trees (treeU_map mode f _ es) (treeU_jret_map it mode f _ es) ?_ ?_ ?_ ?_ ?_ rfl
    · simp only [jretU]
      refine UV_isU (.map _ _ (List.forall_mem_map.2 hk) (List.forall_mem_map.2 fun q hq => (ih q hq (hjs q hq).2).native) ?_)
      rw [List.map_map]; exact hd
    · simp only [DOk]
      exact DOkE_of _ _ (fun p hp => (IH p hp).2.dok)
    · simp only [EOk]
      exact EOkE_of (fun x => treeU mode f (jretU it f x)) _ (fun p hp => (IH p hp).2.eok)
    · simp only [TV.flatten, flattenEntries_map (fun p : Bytes × Val => p.1) (fun p => treeU mode f p.2),
        flattenEntries_map (fun p : Bytes × Val => p.1) (fun p => treeU mode f (jretU it f p.2)),
        List.map_cons, List.map_append, List.map_nil, List.map_flatMap]
      rw [Autogen.flatMap_congr _ (fun a : Bytes × Val => retypeTok ⟨.str a.1, none⟩ :: (treeU mode f a.2).flatten.map retypeTok)
        (fun a : Bytes × Val => C12.eraseLen ⟨.str a.1, none⟩ :: (treeU mode f (jretU it f a.2)).flatten.map C12.eraseLen)
        (fun p hp => by rw [(IH p hp).2.toks]; simp [retypeTok, eraseLen, (IH p hp).1])]
      simp [retypeTok, eraseLen]
    · intro d
      simp only [txtV, List.isEmpty_map]
      rw [txtE_congr c (treeU mode f) (fun x => treeU mode f (jretU it f x)) _ (d+1) false (fun p hp => (IH p hp).2.txt)]

theorem compat_erase (t : Tok) (h : tokPlain t = true) : C01L.Respell True t (eraseLen t) ∧ t.tag = none := by
  obtain ⟨b, tg⟩ := t
  simp only [tokPlain, Bool.and_eq_true, Option.isNone_iff_eq_none] at h
  obtain ⟨rfl, -⟩ := h
  refine ⟨?_, rfl⟩
  cases b with
  | arrOpen l => exact .arr l (-1) none trivial
  | mapOpen l => exact .map l (-1) none trivial
  | _ => exact .same _

theorem marshalJson_inv {c : Cfg} {ts : Types} {a : Atlas} {trs : Trs} {fuel id : Nat} {v : Val} {b : Bytes}
    (h : marshalJson c ts a trs fuel id v = some b) :
    ∃ toks, marshalV ts a trs fuel id v = ⟨toks, none⟩ ∧
      (runOut (JsonEnc.step c FloatText.jsonFloat) JsonEnc.init toks).1.getLast? = some Flag.done ∧
      b = (runOut (JsonEnc.step c FloatText.jsonFloat) JsonEnc.init toks).2.flatten :=
  encode_inv (JsonEnc.step c FloatText.jsonFloat) JsonEnc.init _ h

theorem fixpoint_json (c : JsonEnc.Cfg) (ts : Types) (a : Atlas) (trs : Trs) (it : IfaceTys) (fuel n : Nat) (u1 : Val) (b2 : Bytes)
    (hc : C03.cfgOk c = true) (he : UEnv ts a it) (hu : isU it n u1 = true) (hj : jsonU n u1 = true)
    (hm : marshalJson c ts a trs fuel it.iface u1 = some b2) (hf : 2 * b2.length + 3 * n + 64 < fuel) :
    ∃ u2, unmarshalJson ts a trs it fuel it.iface b2 = some u2 ∧ marshalJson c ts a trs fuel it.iface u2 = some b2 := by
  obtain ⟨toks, hmv, -, hb⟩ := marshalJson_inv hm
  have e := marshal_ok_tree trs he n u1 fuel toks hu hmv
  subst e
  have J := json_all it a.defaultSort c n u1 hu hj
  have hb2 : b2 = C03.out c (treeU a.defaultSort n u1) := hb
  have hrun := C03.run_eq_eok c _ (eok_of_dok _ J.dok)
  have hlen := lenV c _ J.dok 0
  have hbl : (treeU a.defaultSort n u1).flatten.length ≤ b2.length := by
    rw [hb2, hrun.2, List.length_append]; omega
  have hlen' : (treeU a.defaultSort n (jretU it n u1)).flatten.length = (treeU a.defaultSort n u1).flatten.length := by
    have := congrArg List.length J.toks
    simpa using this.symm
  obtain ⟨h1, h2⟩ := C03.roundtrip_dok c _ hc J.dok
  rw [← hb2] at h1 h2
  refine ⟨sortU a.defaultSort n (jretU it n u1), ?_, ?_⟩
  · unfold unmarshalJson
    simp only [h1, h2, J.toks]
    rw [unm_tree_back trs he eraseLen compat_erase n _ fuel _ J.native (by omega)]
    rfl
  · unfold marshalJson
    rw [marshal_sortU ts a trs it fuel n _ he J.native, marshal_tree trs he n _ J.native fuel (by omega)]
    have hrun' := C03.run_eq_eok c _ J.eok
    have hout : C03.out c (treeU a.defaultSort n (jretU it n u1)) = b2 := by
      rw [hrun'.2, J.txt 0, J.trailer, ← hrun.2, hb2]
    simp only [hrun'.1]
    simp only [C03.out] at hout
    simp [hout]

end json

def exTs : Types := [(0, .iface false), (1, .prim .string true), (2, .bytes true), (3, .prim .bool true),
  (4, .prim .int true), (5, .prim .uint64 true), (6, .prim .f64 true), (7, .map 1 0), (8, .slice 0)]
def exIt : IfaceTys := ⟨1, 2, 3, 4, 5, 6, 7, 8, 0⟩
def exA : Atlas := ⟨[], .default⟩
def exTrs : Trs := ⟨fun _ _ => none, fun _ _ => none⟩
theorem exEnv : UEnv exTs exA exIt := ⟨rfl, rfl, rfl, rfl, rfl, rfl, rfl, rfl, rfl, rfl, rfl, rfl⟩

/-- `map[string]interface{}{"b": []interface{}{5, "x", nil}, "a": 7}` (entries held in the order b, a) -/
def exU : Val :=
  .iface (some (7, .map (some [
    (.str [98], .iface (some (8, .slice (some [.iface (some (4, .int 5)), .iface (some (1, .str [120])), .iface none])))),
    (.str [97], .iface (some (4, .int 7)))])))

theorem exHu : isU exIt 3 exU = true := by decide
theorem exHs : smallU 3 exU = true := by decide

def exTree : TV :=
  .map none 2 [(.scalar ⟨.str [97], none⟩, .scalar ⟨.int 7, none⟩),
    (.scalar ⟨.str [98], none⟩, .arr none 3 [.scalar ⟨.int 5, none⟩, .scalar ⟨.str [120], none⟩, .scalar ⟨.null, none⟩])]

theorem exTree_eq : treeU exA.defaultSort 3 exU = exTree := by
  simp only [exU, treeU, List.map_cons, List.map_nil, keyOf, List.length_cons, List.length_nil]
  rw [sortKeys_eq_of_sorted exA.defaultSort _ [([97], _), ([98], _)] (List.Perm.swap _ _ _) (by decide)
    (by simp [exA, keyLe, bytesLe, bytesLt])]
  rfl

theorem exMarshal : marshalV exTs exA exTrs 200 0 exU = ⟨exTree.flatten, none⟩ := by
  have h := marshal_tree exTrs exEnv 3 exU exHu 200 (by rw [exTree_eq]; decide)
  rw [exTree_eq] at h
  exact h

/-- the CBOR bytes of the example: `a2 61 61 07 61 62 83 05 61 78 f6` (keys sorted: a before b) -/
theorem exHm : marshalCbor exTs exA exTrs 200 0 exU = some [162, 97, 97, 7, 97, 98, 131, 5, 97, 120, 246] := by
  unfold marshalCbor
  rw [exMarshal]
  with_unfolding_all rfl

example : ∃ u2, unmarshalCbor exTs exA exTrs exIt 200 exIt.iface [162, 97, 97, 7, 97, 98, 131, 5, 97, 120, 246] = some u2 ∧
    marshalCbor exTs exA exTrs 200 exIt.iface u2 = some [162, 97, 97, 7, 97, 98, 131, 5, 97, 120, 246] :=
  fixpoint_cbor exTs exA exTrs exIt 200 3 exU _ exEnv exHu exHs exHm (by decide)

theorem exHj : jsonU 3 exU = true := by
  simp [jsonU, exU, keyOf, C03L.tv_ascii, C03L.tv_nil]

/-- the compact JSON text of the example: `{"a":7,"b":[5,"x",null]}` -/
theorem exHmJ : marshalJson ⟨none, []⟩ exTs exA exTrs 200 0 exU =
    some [123, 34, 97, 34, 58, 55, 44, 34, 98, 34, 58, 91, 53, 44, 34, 120, 34, 44, 110, 117, 108, 108, 93, 125] := by
  unfold marshalJson
  rw [exMarshal]
  with_unfolding_all rfl

/-- `fixpoint_json` applies to the example (no float in it: the kernel does not reduce `floatStable`, which runs the
    float text routines; that it holds of every finite float other than -0 is `C03Sem.floatStable_finite`) -/
example : ∃ u2, unmarshalJson exTs exA exTrs exIt 200 exIt.iface
      [123, 34, 97, 34, 58, 55, 44, 34, 98, 34, 58, 91, 53, 44, 34, 120, 34, 44, 110, 117, 108, 108, 93, 125] = some u2 ∧
    marshalJson ⟨none, []⟩ exTs exA exTrs 200 exIt.iface u2 =
      some [123, 34, 97, 34, 58, 55, 44, 34, 98, 34, 58, 91, 53, 44, 34, 120, 34, 44, 110, 117, 108, 108, 93, 125] :=
  fixpoint_json ⟨none, []⟩ exTs exA exTrs exIt 200 3 exU _ (by decide) exEnv exHu exHj exHmJ (by decide)

def untyped_roundtrip_statement : Prop :=
  ∀ (ts : Types) (a : Atlas) (trs : Trs) (it : IfaceTys) (fuel n : Nat) (u : Val) (toks : List Tok),
    UEnv ts a it → isU it n u = true → marshalV ts a trs fuel it.iface u = ⟨toks, none⟩ →
    toks.length + n + 64 < fuel →
    unmV ts a trs it fuel it.iface (.iface none) toks = .ok (sortU a.defaultSort n u) [] toks.length

def fixpoint_tokens_statement : Prop :=
  ∀ (ts : Types) (a : Atlas) (trs : Trs) (it : IfaceTys) (fuel n : Nat) (u : Val) (toks : List Tok),
    UEnv ts a it → isU it n u = true → marshalV ts a trs fuel it.iface u = ⟨toks, none⟩ →
    toks.length + n + 64 < fuel →
    ∃ u', unmV ts a trs it fuel it.iface (.iface none) toks = .ok u' [] toks.length ∧
          marshalV ts a trs fuel it.iface u' = ⟨toks, none⟩

def fixpoint_cbor_statement : Prop :=
  ∀ (ts : Types) (a : Atlas) (trs : Trs) (it : IfaceTys) (fuel n : Nat) (u1 : Val) (b2 : Bytes),
    UEnv ts a it → isU it n u1 = true → smallU n u1 = true →
    marshalCbor ts a trs fuel it.iface u1 = some b2 → 2 * b2.length + n + 64 < fuel →
    ∃ u2, unmarshalCbor ts a trs it fuel it.iface b2 = some u2 ∧ marshalCbor ts a trs fuel it.iface u2 = some b2

/-- `[[…[nil]…]]`, `d` levels of `[]interface{}` -/
def nest : Nat → Val
  | 0 => .iface none
  | d+1 => .iface (some (8, .slice (some [nest d])))
def nestToks : Nat → List Tok
  | 0 => [⟨.null, none⟩]
  | d+1 => ⟨.arrOpen 1, none⟩ :: (nestToks d ++ [⟨.arrClose, none⟩])

theorem nest_isU : ∀ d, isU exIt (d+1) (nest d) = true
  | 0 => rfl
  | d+1 => by
    have := nest_isU d
    simp only [nest, isU, List.all_cons, List.all_nil, this]
    rfl

theorem nest_small : ∀ d, smallU (d+1) (nest d) = true
  | 0 => rfl
  | d+1 => by
    have := nest_small d
    simp only [nest, smallU, List.all_cons, List.all_nil, this]
    rfl

theorem nest_tree (mode : KeySort) : ∀ d, (treeU mode (d+1) (nest d)).flatten = nestToks d
  | 0 => rfl
  | d+1 => by
    have := nest_tree mode d
    simp only [nest, treeU, TV.flatten, List.map_cons, List.map_nil, TV.flattenList, List.append_nil, this]
    rfl

/-- the marshaller spends five units of fuel per level, and two at the bottom … -/
theorem nest_marshal : ∀ d F, marshalV exTs exA exTrs (F + 5 * d + 2) exIt.iface (nest d) = ⟨nestToks d, none⟩
  | 0, F => mV_nil exTrs exEnv F
  | d+1, F => by
    have ih := nest_marshal d F
    show marshalV exTs exA exTrs ((F + 5 * d + 2 + 1 + 2) + 2) exIt.iface (.iface (some (exIt.sliceI, .slice (some [nest d])))) = _
    rw [mV_some exTrs exEnv, mV_slice exTrs exEnv, MachL.marshalList_cons, MachL.marshalList_nil, ih]
    simp [MOut.seq, MOut.ok, nestToks]

theorem uW_arr {ts : Types} {a : Atlas} (trs : Trs) {it : IfaceTys} (f : Nat) (l : Int) (rest : List Tok) :
    unmWild ts a trs it (f+2) false ⟨.arrOpen l, none⟩ rest =
      ((unmElems ts a trs it f it.iface none [] rest).shift 1).bind'
        (fun v r u => .ok (.iface (some (it.sliceI, v))) r u) 0 := by
  rw [unmWild_eq]
  show (unmBare ts a trs it (f+1) it.sliceI (.slice it.iface) (.slice none) (⟨.arrOpen l, none⟩ :: rest)).bind' _ 0 = _
  rw [unmBare_slice]

/-- … the unmarshaller five per level and three at the bottom: with the marshaller's fuel it gives up at the
    innermost token -/
theorem nest_unm : ∀ d (cur : Val) (more : List Tok),
    unmV exTs exA exTrs exIt (5 * d + 2) exIt.iface cur (nestToks d ++ more) = .panic d
  | 0, cur, more => by
    show unmV exTs exA exTrs exIt (0 + 2) exIt.iface cur (⟨.null, none⟩ :: more) = _
    rw [uV_iface exTrs exEnv, unmWild_zero]
  | d+1, cur, more => by
    obtain ⟨t, rest, e, h1, h2⟩ : ∃ t rest, nestToks d ++ (⟨.arrClose, none⟩ :: more) = t :: rest ∧
        t.body ≠ .mapClose ∧ t.body ≠ .arrClose := by
      cases d <;> exact ⟨_, _, rfl, by simp, by simp⟩
    show unmV exTs exA exTrs exIt ((5 * d + 2 + 1 + 2) + 2) exIt.iface cur
      (⟨.arrOpen 1, none⟩ :: ((nestToks d ++ [⟨.arrClose, none⟩]) ++ more)) = _
    rw [uV_iface exTrs exEnv, uW_arr, List.append_assoc, List.singleton_append, e, unmElems_item h1 h2 rfl, ← e,
      nest_unm d]
    rfl

theorem cex_len : (nestToks 33).length = 67 := by with_unfolding_all rfl

theorem cex_marshal : marshalV exTs exA exTrs 167 exIt.iface (nest 33) = ⟨nestToks 33, none⟩ := nest_marshal 33 0

theorem cex_unm : unmV exTs exA exTrs exIt 167 exIt.iface (.iface none) (nestToks 33) = .panic 33 := by
  simpa using nest_unm 33 (.iface none) []

theorem cex_marshalCbor : marshalCbor exTs exA exTrs 167 exIt.iface (nest 33) = some (List.replicate 33 129 ++ [246]) := by
  unfold marshalCbor
  rw [cex_marshal]
  with_unfolding_all rfl

theorem untyped_roundtrip_statement_false : ¬ untyped_roundtrip_statement := by
  intro h
  have := h exTs exA exTrs exIt 167 34 (nest 33) (nestToks 33) exEnv (nest_isU 33) cex_marshal (by rw [cex_len]; decide)
  rw [cex_unm] at this
  cases this

theorem fixpoint_tokens_statement_false : ¬ fixpoint_tokens_statement := by
  intro h
  obtain ⟨u', h1, _⟩ := h exTs exA exTrs exIt 167 34 (nest 33) (nestToks 33) exEnv (nest_isU 33) cex_marshal
    (by rw [cex_len]; decide)
  rw [cex_unm] at h1
  cases h1

theorem fixpoint_cbor_statement_false : ¬ fixpoint_cbor_statement := by
  intro h
  obtain ⟨u2, h1, _⟩ := h exTs exA exTrs exIt 167 34 (nest 33) _ exEnv (nest_isU 33) (nest_small 33) cex_marshalCbor (by decide)
  obtain ⟨d1, d2, _⟩ := cbor_decode exTs exA exTrs exIt 167 34 (nest 33) _ exEnv (nest_isU 33) (nest_small 33) cex_marshalCbor
  unfold unmarshalCbor at h1
  simp only [d1, d2] at h1
  rw [unm_compat exTrs exEnv C02.canonTok 167 _ _ (fun t ht => compat_canon t (tree_plain exIt _ 34 _ (nest_isU 33) t ht)),
    nest_tree] at h1
  rw [zeroVal_iface exEnv, cex_unm] at h1
  cases h1

end Refmt.C12
