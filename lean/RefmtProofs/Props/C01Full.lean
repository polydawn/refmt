/-
  C01 on the whole domain for CBOR: codec transport (C01.cbor_eq_tokens: CBOR adds nothing to and removes nothing from
  the token-level round trip, for every type) composed with completeness on `fullTy` (C13Full.clone_equal_full).
-/
import RefmtProofs.Props.C01
import RefmtProofs.Props.C13Full

namespace Refmt.C01Full
open Refmt Refmt.Obj Refmt.C11 Refmt.C12 Refmt.C13Full

theorem viaTokens_eq_clone (ts : Types) (a : Atlas) (trs : Trs) (it : IfaceTys) (fuel id : Nat) (v : Val) :
    C01.viaTokens ts a trs it fuel id v = C11.clone ts a trs it fuel id v := rfl

/-- Marshal to CBOR bytes, then Unmarshal from them, into a fresh variable of the same type with the same atlas,
    returns the specified value `normV` (up to the order in which the model lists map entries), for every type of
    `fullTy`. -/
theorem roundtrip_full_cbor (ts : Types) (a : Atlas) (trs : Trs) (it : IfaceTys) (fuel0 fuel id : Nat) (v : Val)
    (hp : fullTy ts a 64 id = true) (hv : C13.hasTy ts 1000 id v = true)
    (hside : fullVal ts a trs it fuel id v = true) (he : UEnv ts a it) (hz : ZeroStable ts) (htr : TrsEqv trs)
    (hok : (marshalV ts a trs fuel0 id v).fail = none) (h0 : fuel0 ≤ 1000) (hf : fuel0 < fuel)
    (hc : (marshalV ts a trs fuel id v).toks.all C01.carryCbor = true) :
    ∃ r, C01.viaCbor ts a trs it fuel id v = some r ∧ ValEqv'' r (normV .pretty ts a trs it fuel id v) := by
  rw [C01.cbor_eq_tokens ts a trs it fuel id v hc, viaTokens_eq_clone]
  exact clone_equal_full ts a trs it fuel0 fuel id v hp hv hside he hz htr hok h0 hf

end Refmt.C01Full
