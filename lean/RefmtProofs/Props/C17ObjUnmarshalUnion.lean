/-
  C17 (object unmarshaller): the refinement of the functional model `unmV` by the stateful model, extended to
  KEYED UNIONS and to TAGGED TOKENS resolved through the atlas (the two cases C17ObjUnmarshalFull.lean leaves out).

  PROVED (same conclusion as `unmarshaller_refines_target`: any current content of the target, any dirty instance, any
  token list, only hypothesis on the run: the functional model does not panic; machine fuel 17 is enough):
    * `unmarshaller_refines_frag_union`   : every type of a set `S` with `UMachU.Closed ts a S wi` and `UntypedOkT`;
    * `unmarshaller_refines_target_union` : `FragTargetU ts a it id` (decidable; computes `S`), atlases without tags;
    * `unmarshaller_refines_target_tags`  : `FragTargetT ts a it id` (decidable), atlases WITH tagged entries.
  On top of the machines of C17ObjUnmarshalFull.lean the reachable types may select
    * the keyed union machine, anywhere (target, element of slices / arrays / maps, struct field,
      behind pointers, member of a struct that is itself a union member: recursive types are fine), whose members'
      entries are struct maps, maps with an accepted key type, or transforms (receive type not a pointer type) over a
      struct map / slice / array / map machine.  All phases: open token (length -1 / 1), key (unknown member: error;
      dangling pool index: both models panic), member value (the member's machine is configured in `slab.tip()`: the
      union machine's own row or a leaked row above), closing token.  The member's `Reset` cannot fail for these
      members (`okMember`; stronger than what `UnionOk` of C17ObjUnmarshalFull.lean asks of a member, `resetSafe`: it
      also refuses a primitive, slice or array machine as the member itself and a transform over a primitive);
    * the wildcard machine receiving a TAGGED first token: entry found (same member shapes; its machine is configured in
      `slab.tip()`, Reset and fed the same token), entry not found, interface type with methods; nested in
      `[]interface{}` / `map[string]interface{}` / ignored keys; tags on tokens for typed targets, on keys and on
      closing tokens (ignored by both models).
  NOT covered: a union member / tagged entry that is a transform over a PRIMITIVE receive type (or a bare primitive /
  union / wildcard entry).  This is not a disagreement of the models: the primitive machine of a BORROWED row reads the
  row's `anyKind` flag, which no machine ever sets, but the simulation leaves the rows above a machine's own row
  unconstrained; covering it needs the invariant "every row has `anyKind = false`" threaded through every statement.
  (Transforms over primitives as ordinary typed targets / elements / map keys stay covered, as in C17ObjUnmarshalFull.lean.)
-/
import RefmtProofs.Props.C17ObjUnmarshalFull
import RefmtProofs.Lemmas.UnmarshalMachMain
open Refmt Refmt.Obj Refmt.Obj.UM

namespace Refmt.C17ObjUnmarshal

def TagsOk (ts : Types) (a : Atlas) (S : List Nat) (wi : Option Nat) : Prop :=
  ∀ e ∈ a.pool, e.tag ≠ none → UMachU.okMember ts a S wi (upickBare ts a e.ty)

instance (ts : Types) (a : Atlas) (S : List Nat) (wi : Option Nat) : Decidable (TagsOk ts a S wi) := by
  unfold TagsOk; infer_instance

/-- as `UntypedOk`, with the tagged entries covered (`TagsOk`) where that asks for an atlas without tags -/
def UntypedOkT (ts : Types) (a : Atlas) (it : IfaceTys) (S : List Nat) (wi : Option Nat) : Prop :=
  wi = none ∨ (wi = some it.iface ∧ ItOk ts a it ∧ TagsOk ts a S (some it.iface))

theorem wildHyp_ofT {ts : Types} {a : Atlas} {it : IfaceTys} {S : List Nat} {wi : Option Nat}
    (h : UntypedOkT ts a it S wi) (hw : UMachU.wildIn S wi) : UMachU.WildHyp ts a it 1 S := by
  rcases h with rfl | ⟨rfl, hi, hnt⟩
  · exact hw.elim
  · refine wildHyp_ofIt hi hw fun g e hg => ⟨hnt e (getByTag_some hg).1 ?_, Nat.le_refl 1⟩
    rw [(getByTag_some hg).2]
    exact fun h => nomatch h

theorem unmarshaller_refines_frag_union (ts : Types) (a : Atlas) (trs : Trs) (it : IfaceTys) (S : List Nat)
    (wi : Option Nat) (hS : UMachU.Closed ts a S wi) (hU : UntypedOkT ts a it S wi) (id : Nat) (hid : id ∈ S)
    (fuel : Nat) (cur : Val) (toks : List Tok) (hnp : NoPanic (unmV ts a trs it fuel id cur toks)) :
    ∃ N, ∀ sf, N ≤ sf → ∀ dirty : UState,
      urun ts a trs it sf (UM.bind ts a sf dirty id cur) toks = unmV ts a trs it fuel id cur toks :=
  ⟨17, fun sf hsf dirty =>
    UMachU.refines_closed (ub := 1) hS (fun _ _ _ _ => Nat.le_refl 1) (wildHyp_ofT hU) hid fuel cur toks hnp sf hsf dirty⟩

def subKids (it : IfaceTys) : UMach → List Nat
  | .slice e | .array _ e | .map _ e => [e]
  | .structMap fs => fs.map fun f => if f.ignore then it.iface else f.ty
  | _ => []

def memKids (ts : Types) (a : Atlas) (it : IfaceTys) : UMach → List Nat
  | .transform _ uty => subKids it (upickBare ts a uty)
  | M => subKids it M

/-- as `kids`: for a union the types of its members' machines, for an untyped slot also those of the machines of the
    tagged entries -/
def kidsU (ts : Types) (a : Atlas) (it : IfaceTys) (id : Nat) : List Nat :=
  match upickBare ts a (peel ts 64 0 id).2 with
  | .union ms => ms.flatMap fun m =>
      (match a.pool[m.2]? with
       | some me => memKids ts a it (umachForEntry ts me)
       | none => [])
  | .wildcard => it.iface :: (a.pool.filter fun e => e.tag.isSome).flatMap fun e => memKids ts a it (upickBare ts a e.ty)
  | M => memKids ts a it M

def reachU (ts : Types) (a : Atlas) (it : IfaceTys) : Nat → List Nat → List Nat
  | 0, S => S
  | n+1, S => reachU ts a it n ((S ++ S.flatMap (kidsU ts a it)).eraseDups)

/-- `id` is a covered target, keyed unions and tagged entries allowed: the types reachable from it select covered
    machines only (`UMachU.okMach`); when untyped slots or ignored keys are among them, the untyped-slot ids are right
    and the tagged entries' machines are covered (`TagsOk`) -/
def FragTargetT (ts : Types) (a : Atlas) (it : IfaceTys) (id : Nat) : Prop :=
  id ∈ reachU ts a it (ts.length + 1) [id] ∧
  (UMachU.Closed ts a (reachU ts a it (ts.length + 1) [id]) none ∨
   (UMachU.Closed ts a (reachU ts a it (ts.length + 1) [id]) (some it.iface) ∧ ItOk ts a it ∧
     TagsOk ts a (reachU ts a it (ts.length + 1) [id]) (some it.iface)))

instance (ts : Types) (a : Atlas) (it : IfaceTys) (id : Nat) : Decidable (FragTargetT ts a it id) := by
  unfold FragTargetT; infer_instance

/-- the same for atlases without tagged entries (keyed unions allowed) -/
def FragTargetU (ts : Types) (a : Atlas) (it : IfaceTys) (id : Nat) : Prop :=
  id ∈ reachU ts a it (ts.length + 1) [id] ∧
  (UMachU.Closed ts a (reachU ts a it (ts.length + 1) [id]) none ∨
   (UMachU.Closed ts a (reachU ts a it (ts.length + 1) [id]) (some it.iface) ∧ ItOk ts a it ∧ NoTags a))

instance (ts : Types) (a : Atlas) (it : IfaceTys) (id : Nat) : Decidable (FragTargetU ts a it id) := by
  unfold FragTargetU; infer_instance

theorem FragTargetU.toT {ts : Types} {a : Atlas} {it : IfaceTys} {id : Nat} (h : FragTargetU ts a it id) :
    FragTargetT ts a it id := by
  obtain ⟨h1, h2 | ⟨h2, h3, h4⟩⟩ := h
  · exact ⟨h1, Or.inl h2⟩
  · exact ⟨h1, Or.inr ⟨h2, h3, fun e he hne => absurd (h4 e he) hne⟩⟩

theorem unmarshaller_refines_target_tags (ts : Types) (a : Atlas) (trs : Trs) (it : IfaceTys) (id : Nat)
    (h : FragTargetT ts a it id) (fuel : Nat) (cur : Val) (toks : List Tok)
    (hnp : NoPanic (unmV ts a trs it fuel id cur toks)) :
    ∃ N, ∀ sf, N ≤ sf → ∀ dirty : UState,
      urun ts a trs it sf (UM.bind ts a sf dirty id cur) toks = unmV ts a trs it fuel id cur toks := by
  obtain ⟨hid, h | ⟨hc, hi, hn⟩⟩ := h
  · exact unmarshaller_refines_frag_union ts a trs it _ none h (Or.inl rfl) id hid fuel cur toks hnp
  · exact unmarshaller_refines_frag_union ts a trs it _ (some it.iface) hc (Or.inr ⟨rfl, hi, hn⟩) id hid fuel cur toks hnp

/-- `UnionOk` is not a separate hypothesis: of the members it meets `FragTargetU` asks `okMember`, which gives that the
    member's `Reset` cannot fail (what `UnionOk` asks of all members, `resetSafe`) and is stronger -/
theorem unmarshaller_refines_target_union (ts : Types) (a : Atlas) (trs : Trs) (it : IfaceTys) (id : Nat)
    (h : FragTargetU ts a it id) (fuel : Nat) (cur : Val) (toks : List Tok)
    (hnp : NoPanic (unmV ts a trs it fuel id cur toks)) :
    ∃ N, ∀ sf, N ≤ sf → ∀ dirty : UState,
      urun ts a trs it sf (UM.bind ts a sf dirty id cur) toks = unmV ts a trs it fuel id cur toks :=
  unmarshaller_refines_target_tags ts a trs it id h.toT fuel cur toks hnp

/-! ### Non-vacuity: a zoo with a keyed union (anywhere), tagged entries and untyped slots

0 string, 1 int, 2 map[string]int, 3 struct S{A map[string]int; B []int; U Shape; X interface{}} (recursive through
Shape), 4 interface{}, 5 []int, 7 map[string]interface{}, 8 []interface{}, 20 interface Shape = union {m: type 2, s: S,
v: V}, 22 []Shape, 23 *Shape, 24 map[string]*Shape, 30 struct V made from []int by transform 0, 31 struct P{N int}
(tag 7), 32 struct W made from map[string]int by transform 1 (tag 9) -/
def vTs : Types :=
  [(0, .prim .string true), (1, .prim .int true), (2, .map 0 1),
   (3, .struct [⟨[65], 2, true, false, none⟩, ⟨[66], 5, true, false, none⟩, ⟨[85], 20, true, false, none⟩,
     ⟨[88], 4, true, false, none⟩]),
   (4, .iface false), (5, .slice 1), (7, .map 0 4), (8, .slice 4), (20, .iface true), (22, .slice 20), (23, .ptr 20),
   (24, .map 0 23), (30, .struct [⟨[86], 5, true, false, none⟩]), (31, .struct [⟨[78], 1, true, false, none⟩]),
   (32, .struct [⟨[87], 2, true, false, none⟩])]
def vAtlas : Atlas :=
  ⟨[⟨true, 3, none, .structMap [⟨[97], false, [0], 2, false⟩, ⟨[98], false, [1], 5, false⟩,
      ⟨[117], false, [2], 20, false⟩, ⟨[120], false, [3], 4, false⟩, ⟨[122], true, [], 0, false⟩]⟩,
    ⟨true, 2, none, .mapMorph .default⟩,
    ⟨true, 30, none, .transform 0 0 5⟩,
    ⟨true, 20, none, .union [([109], 1), ([115], 0), ([118], 2)]⟩,
    ⟨true, 31, some 7, .structMap [⟨[110], false, [0], 1, false⟩]⟩,
    ⟨true, 32, some 9, .transform 1 1 2⟩], .default⟩
def vIt : IfaceTys := ⟨0, 0, 0, 1, 1, 1, 7, 8, 4⟩
def vTrs : Trs := ⟨fun _ _ => none, fun _ v => match v with
  | .slice (some (.int 13 :: _)) => none
  | x => some (.struct [x])⟩

/-- the predicate decides: every type of the zoo is a covered target -/
example : ([0, 1, 2, 3, 4, 5, 7, 8, 20, 22, 23, 24, 30, 31, 32].all fun id => decide (FragTargetT vTs vAtlas vIt id)) = true := by
  decide +kernel

/-- without the tagged entries also for `FragTargetU` -/
def vAtlas0 : Atlas := ⟨vAtlas.pool.take 4, .default⟩
example : ([3, 20, 22, 23, 24].all fun id => decide (FragTargetU vTs vAtlas0 vIt id)) = true := by decide +kernel

/-- `[{"m": {"k": 1}}, {"s": {"a": {"q": 2}, "b": [3], "u": {"v": [4, 5]}, "x": 7({"n": 6}), "z": [null]}}]` into
    `[]Shape`: a map member, a struct member holding a nested union (transform member) and a TAGGED struct in an untyped
    slot, an ignored key -/
def vToks : List Tok :=
  [tk (.arrOpen 2),
   tk (.mapOpen 1), tk (.str [109]), tk (.mapOpen 1), tk (.str [107]), tk (.int 1), tk .mapClose, tk .mapClose,
   tk (.mapOpen 1), tk (.str [115]), tk (.mapOpen 5), tk (.str [97]), tk (.mapOpen 1), tk (.str [113]), tk (.int 2),
   tk .mapClose, tk (.str [98]), tk (.arrOpen 1), tk (.int 3), tk .arrClose, tk (.str [117]), tk (.mapOpen 1),
   tk (.str [118]), tk (.arrOpen 2), tk (.int 4), tk (.int 5), tk .arrClose, tk .mapClose, tk (.str [120]),
   ⟨.mapOpen 1, some 7⟩, tk (.str [110]), tk (.int 6), tk .mapClose, tk (.str [122]), tk (.arrOpen 1), tk .null,
   tk .arrClose, tk .mapClose, tk .mapClose,
   tk .arrClose]

def vBoth (id : Nat) (toks : List Tok) : URes × URes :=
  (urun vTs vAtlas vTrs vIt 20 (UM.bind vTs vAtlas 20 dirty id (zeroVal vTs 64 id)) toks,
   unmV vTs vAtlas vTrs vIt 60 id (zeroVal vTs 64 id) toks)

example : sameRes (vBoth 22 vToks).1 (vBoth 22 vToks).2 = true := by decide +kernel
example : (match (vBoth 22 vToks).2 with | .ok _ r u => (r.length, u) | _ => (9, 9)) = (0, 40) := by decide +kernel

/-- every prefix; the user function refusing (`{"v": [13]}`); an unknown member; two keys; a wrong close; a tagged
    transform entry in an untyped slot (`9({"k": 1})` into `interface{}` and into `[]interface{}`); a tag that is not
    registered; a tag on a typed target, on a key, on a close token -/
example : (((List.range 41).map fun n => (22, vToks.take n)) ++
      [(20, [tk (.mapOpen 1), tk (.str [118]), tk (.arrOpen 1), tk (.int 13), tk .arrClose, tk .mapClose]),
       (20, [tk (.mapOpen 1), tk (.str [119])]), (20, [tk (.mapOpen 2)]),
       (23, [tk (.mapOpen 1), tk (.str [109]), tk (.mapOpen 0), tk .mapClose, tk (.str [109])]),
       (23, [tk .null]), (24, [tk (.mapOpen 1), tk (.str [65]), tk (.mapOpen 1), tk (.str [109]), tk .null, tk .mapClose,
         tk .mapClose]),
       (4, [⟨.mapOpen 1, some 9⟩, tk (.str [107]), tk (.int 1), tk .mapClose]),
       (8, [tk (.arrOpen 2), ⟨.mapOpen 1, some 9⟩, tk (.str [107]), tk (.int 1), tk .mapClose, ⟨.mapOpen 0, some 7⟩,
         tk .mapClose, tk .arrClose]),
       (4, [⟨.int 1, some 5⟩]), (1, [⟨.int 1, some 7⟩]),
       (2, [⟨.mapOpen 1, some 7⟩, ⟨.str [107], some 9⟩, ⟨.int 1, some 5⟩, ⟨.mapClose, some 7⟩])]).all
      (fun p => sameRes (vBoth p.1 p.2).1 (vBoth p.1 p.2).2) = true := by decide +kernel

def vS : List Nat := [0, 1, 2, 3, 4, 5, 7, 8, 20, 22, 23, 24]
theorem vS_closed : UMachU.Closed vTs vAtlas vS (some 4) := by decide +kernel
theorem v_untypedOk : UntypedOkT vTs vAtlas vIt vS (some 4) :=
  Or.inr ⟨rfl, ⟨by decide +kernel, by decide +kernel, by decide +kernel, by decide +kernel, ⟨true, by decide +kernel⟩,
    by decide +kernel, by decide +kernel⟩, by decide +kernel⟩

/-- the theorem applied: from the dirty instance of C17ObjUnmarshal.lean, every machine fuel ≥ 17 -/
example (sf : Nat) (h : 17 ≤ sf) :
    urun vTs vAtlas vTrs vIt sf (UM.bind vTs vAtlas sf dirty 22 (zeroVal vTs 64 22)) vToks
      = unmV vTs vAtlas vTrs vIt 60 22 (zeroVal vTs 64 22) vToks :=
  UMachU.refines_closed (ub := 1) vS_closed (fun _ _ _ _ => Nat.le_refl 1) (wildHyp_ofT v_untypedOk) (by decide) 60 _ vToks (NoPanic_of _ (by decide +kernel)) sf h
    dirty

/-- the zoos of C17ObjUnmarshalFull.lean stay covered (transforms over primitives as ordinary targets included);
    the union zoo of C17ObjUnmarshal.lean is NOT: its member `t` and its tagged entry are transforms over a primitive
    receive type (see the header) -/
example : (exS.all fun id => decide (FragTargetT exTs exAtlas exIt id)) = true := by decide +kernel
example : (fS.all fun id => decide (FragTargetT fTs fAtlas exIt id)) = true := by decide +kernel
example : ([10, 20, 21, 22, 23].all fun id => decide (FragTargetT tTs tAtlas exIt id)) = true := by decide +kernel
example : ¬ FragTargetT uxTs uxAtlas uxIt 22 ∧ ¬ FragTargetT uxTs uxAtlas uxIt 20 := by decide +kernel
/-- the counterexamples of C17ObjUnmarshalFull.lean stay outside -/
example : ¬ FragTargetT pTs pAtlas pIt 100 ∧ ¬ FragTargetT qTs qAtlas qIt 3 ∧ ¬ FragTargetT cxTs cxAtlas exIt 11 ∧
    ¬ FragTargetT cxTs cxAtlas exIt 14 := by decide +kernel

end Refmt.C17ObjUnmarshal

#print axioms Refmt.C17ObjUnmarshal.unmarshaller_refines_frag_union
#print axioms Refmt.C17ObjUnmarshal.unmarshaller_refines_target_union
#print axioms Refmt.C17ObjUnmarshal.unmarshaller_refines_target_tags
