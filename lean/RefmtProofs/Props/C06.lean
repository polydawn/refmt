/-
  C06 — decoding untrusted bytes never panics, hangs or allocates without bound: with any step budget above
  2·|input| + 2 the decoder machines have already finished (more steps change nothing), and the CBOR model
  allocates at most twice the 32 MiB per-item cap plus 8 bytes per input byte.
  For an arbitrary reader: every CBOR step that yields a token decreases `2·|undelivered bytes| + |left|`
  (`left` = the stack of definite-container countdowns; Lemmas/Bounds.lean), every JSON one consumes a byte
  (`C15Prog.Json.step_lt`); such a CBOR step allocates at most 8 bytes per byte it consumed, a failing (last)
  step at most `2·cap32M + 64` beyond that.
-/
import RefmtModel
import RefmtProofs.Props.C14
import RefmtProofs.Lemmas.Bounds
import RefmtProofs.Lemmas.C15Json
namespace Refmt.C06
open Refmt

theorem cbor_terminates_any_reader (coerce : Bool) (rd : Rd) (fuel : Nat) (hf : 2 * rd.data.length + 2 ≤ fuel) :
    CborDec.run coerce fuel CborDec.init rd [] 0 0 = CborDec.decode coerce rd :=
  Cbor.run_fuel coerce fuel (2 * rd.data.length + 2) CborDec.init rd [] 0 0 (show _ + 0 < _ by omega)
    (show _ + 0 < _ by omega)

theorem json_terminates_any_reader (rd : Rd) (fuel : Nat) (hf : 2 * rd.data.length + 2 ≤ fuel) :
    JsonDec.run fuel JsonDec.init rd [] 0 = JsonDec.decode rd :=
  Json.run_fuel fuel (2 * rd.data.length + 2) JsonDec.init rd [] 0 (by omega) (by omega)

theorem cbor_alloc_bound_consumed (coerce : Bool) (rd : Rd) :
    (CborDec.decode coerce rd).alloc + 8 * (CborDec.decode coerce rd).rd.data.length
      ≤ 2 * CborDec.cap32M + 8 * rd.data.length + 64 := by
  have := Cbor.run_alloc coerce (2 * rd.data.length + 2) CborDec.init rd [] 0 0
  unfold CborDec.decode
  omega

theorem cbor_alloc_bound_any_reader (coerce : Bool) (rd : Rd) :
    (CborDec.decode coerce rd).alloc ≤ 2 * CborDec.cap32M + 8 * rd.data.length + 64 :=
  Nat.le_trans (Nat.le_add_right _ _) (cbor_alloc_bound_consumed coerce rd)

-- `hb` is not needed: the bound holds for every byte list
set_option linter.unusedVariables false in
theorem cbor_terminates (coerce : Bool) (bs : Bytes) (hb : ∀ x ∈ bs, x < 256) (fuel : Nat) (hf : 2 * bs.length + 2 ≤ fuel) :
    let a := CborDec.run coerce fuel CborDec.init (Rd.ofBytes bs) [] 0 0
    let b := CborDec.decode coerce (Rd.ofBytes bs)
    a.toks = b.toks ∧ a.res = b.res ∧ a.rd = b.rd ∧ a.steps = b.steps ∧ a.alloc = b.alloc := by
  intro a b
  rw [show a = b from cbor_terminates_any_reader coerce (Rd.ofBytes bs) fuel hf]
  exact ⟨rfl, rfl, rfl, rfl, rfl⟩

theorem json_terminates (bs : Bytes) (fuel : Nat) (hf : 2 * bs.length + 2 ≤ fuel) :
    let a := JsonDec.run fuel JsonDec.init (Rd.ofBytes bs) [] 0
    let b := JsonDec.decode (Rd.ofBytes bs)
    a.toks = b.toks ∧ a.res = b.res ∧ a.rd = b.rd ∧ a.steps = b.steps := by
  intro a b
  rw [show a = b from json_terminates_any_reader (Rd.ofBytes bs) fuel hf]
  exact ⟨rfl, rfl, rfl, rfl⟩

theorem cbor_steps_bound (coerce : Bool) (rd : Rd) : (CborDec.decode coerce rd).steps ≤ 2 * rd.data.length + 2 := by
  have := Cbor.run_steps coerce (2 * rd.data.length + 2) CborDec.init rd [] 0 0
  unfold CborDec.decode
  omega

theorem json_steps_bound (rd : Rd) : (JsonDec.decode rd).steps ≤ 2 * rd.data.length + 2 := by
  have := Json.run_steps (2 * rd.data.length + 2) JsonDec.init rd [] 0
  unfold JsonDec.decode
  omega

theorem cbor_alloc_bound (coerce : Bool) (bs : Bytes) :
    (CborDec.decode coerce (Rd.ofBytes bs)).alloc ≤ 2 * CborDec.cap32M + 8 * bs.length + 64 :=
  cbor_alloc_bound_any_reader coerce (Rd.ofBytes bs)

/-! ### How tight `cbor_alloc_bound` is

  * the cap term is needed: five bytes declaring a 32 MiB byte string allocate 32 MiB before the read fails;
    six bytes opening an indefinite string whose first chunk declares 32 MiB allocate `16 + 32 + 32 MiB`;
  * `8` per byte is needed: `9f (5f ff)ⁿ ff` allocates `16·n` for `2·n + 2` bytes;
  * the factor `2` on the cap is needed (not kernel-checked, the witness has 20 971 613 bytes): an indefinite
    string with chunks of 31, 32, 1, 63, 1, 127, …, 1, 2²²−1 (buffer capacity 2ᵏ−1, filled, doubled), then
    2, 2²², 3·2²² bytes (capacity 13·2²²), then a chunk header declaring 2²⁵ bytes with no data behind it,
    allocates 234 880 959 = 8·|input| + 2·cap32M − 809 bytes. -/

example : (CborDec.decode false (Rd.ofBytes [0x5a, 2, 0, 0, 0])).alloc = CborDec.cap32M := by decide +kernel
example : (CborDec.decode false (Rd.ofBytes [0x7f, 0x7a, 2, 0, 0, 0])).alloc = 16 + 32 + CborDec.cap32M := by
  decide +kernel
example : (CborDec.decode false (Rd.ofBytes [0x9f, 0x5f, 0xff, 0x5f, 0xff, 0x5f, 0xff, 0xff])).alloc = 48 := by
  decide +kernel

theorem sinks_never_panic (c : JsonEnc.Cfg) (ff : Nat → Bytes) (ts : List Tok) :
    Flag.panic ∉ runFlags CborEnc.step CborEnc.init ts ∧
    Flag.panic ∉ runFlags (JsonEnc.step c ff) JsonEnc.init ts ∧
    Flag.panic ∉ runFlags Refmt.Pretty.step Refmt.Pretty.init ts :=
  C14.enc_no_panic c ff ts

end Refmt.C06
