/-
  C17, composed: a long-lived codec instance behaves like a fresh one.
  The Go helpers (`Marshaller.Marshal`, `Unmarshaller.Unmarshal`, the `Marshal`/`Unmarshal` convenience loops)
  keep ONE encoder / decoder value alive and call `Reset()` on it before every item.  Here one such call is a
  function of the instance's state before the call (whatever the earlier calls left there: a finished item, a
  failed one, an abandoned one) returning the observable result AND the state it leaves behind; a long-lived
  instance is the fold of these calls over its history.  The decoder instance is reset, the reader is not: it
  persists between calls (`C17.frame_cbor` / `frame_json`).  Every `Reset` of the model returns the initial
  state by definition (`C17.reset_is_fresh`), as the Go methods clear every field; the statements below unfold
  to that.
-/
import RefmtModel
import RefmtProofs.Props.C17
namespace Refmt.C17Reuse
open Refmt

def encFinal {σ : Type} (step : σ → Tok → EncOut σ) : σ → List Tok → σ
  | s, [] => s
  | s, t :: ts =>
    match (step s t).ret.flag with
    | .cont => encFinal step (step s t).st ts
    | _ => (step s t).st

/-- CBOR decoder state after `CborDec.run` (same recursion, keeping the state instead of the tokens) -/
def cborDecFinal (coerce : Bool) : Nat → CborDec.St → Rd → CborDec.St
  | 0, s, _ => s
  | fuel+1, s, rd =>
    let o := CborDec.step coerce s rd
    match o.ret with
    | .tok _ false => cborDecFinal coerce fuel o.st o.rd
    | _ => o.st

def jsonDecFinal : Nat → JsonDec.St → Rd → JsonDec.St
  | 0, s, _ => s
  | fuel+1, s, rd =>
    let o := JsonDec.step s rd
    match o.ret with
    | .tok _ false => jsonDecFinal fuel o.st o.rd
    | _ => o.st

/-- `Marshaller.Marshal` on the CBOR encoder: `encoder.Reset()`, then pump the tokens -/
def cborMarshallerCall (st : CborEnc.St) (toks : List Tok) : List Flag × List Bytes :=
  runOut CborEnc.step (CborEnc.reset st) toks
def cborMarshallerNext (st : CborEnc.St) (toks : List Tok) : CborEnc.St :=
  encFinal CborEnc.step (CborEnc.reset st) toks

def jsonMarshallerCall (c : JsonEnc.Cfg) (ff : Nat → Bytes) (st : JsonEnc.St) (toks : List Tok) :
    List Flag × List Bytes :=
  runOut (JsonEnc.step c ff) (JsonEnc.reset st) toks
def jsonMarshallerNext (c : JsonEnc.Cfg) (ff : Nat → Bytes) (st : JsonEnc.St) (toks : List Tok) : JsonEnc.St :=
  encFinal (JsonEnc.step c ff) (JsonEnc.reset st) toks

/-- `Unmarshaller.Unmarshal` on the CBOR decoder: `decoder.Reset()`, then read one item from `rd` -/
def cborUnmarshallerCall (coerce : Bool) (st : CborDec.St) (rd : Rd) : CborDec.RunOut :=
  CborDec.run coerce (2 * rd.data.length + 2) (CborDec.reset st) rd [] 0 0
def cborUnmarshallerNext (coerce : Bool) (st : CborDec.St) (rd : Rd) : CborDec.St :=
  cborDecFinal coerce (2 * rd.data.length + 2) (CborDec.reset st) rd

def jsonUnmarshallerCall (st : JsonDec.St) (rd : Rd) : JsonDec.RunOut :=
  JsonDec.run (2 * rd.data.length + 2) (JsonDec.reset st) rd [] 0
def jsonUnmarshallerNext (st : JsonDec.St) (rd : Rd) : JsonDec.St :=
  jsonDecFinal (2 * rd.data.length + 2) (JsonDec.reset st) rd

theorem reused_eq_fresh_cbor_enc (st : CborEnc.St) (toks : List Tok) :
    cborMarshallerCall st toks = runOut CborEnc.step CborEnc.init toks :=
  rfl

theorem reused_eq_fresh_json_enc (c : JsonEnc.Cfg) (ff : Nat → Bytes) (st : JsonEnc.St) (toks : List Tok) :
    jsonMarshallerCall c ff st toks = runOut (JsonEnc.step c ff) JsonEnc.init toks :=
  rfl

theorem reused_eq_fresh_cbor_dec (coerce : Bool) (st : CborDec.St) (rd : Rd) :
    cborUnmarshallerCall coerce st rd = CborDec.decode coerce rd :=
  rfl

theorem reused_eq_fresh_json_dec (st : JsonDec.St) (rd : Rd) :
    jsonUnmarshallerCall st rd = JsonDec.decode rd :=
  rfl

def cborEncAfter (st0 : CborEnc.St) (history : List (List Tok)) : CborEnc.St :=
  history.foldl cborMarshallerNext st0
def jsonEncAfter (c : JsonEnc.Cfg) (ff : Nat → Bytes) (st0 : JsonEnc.St) (history : List (List Tok)) : JsonEnc.St :=
  history.foldl (jsonMarshallerNext c ff) st0
def cborDecAfter (coerce : Bool) (st0 : CborDec.St) (history : List Rd) : CborDec.St :=
  history.foldl (cborUnmarshallerNext coerce) st0
def jsonDecAfter (st0 : JsonDec.St) (history : List Rd) : JsonDec.St :=
  history.foldl jsonUnmarshallerNext st0

theorem history_irrelevant_cbor_enc (st0 : CborEnc.St) (history : List (List Tok)) (toks : List Tok) :
    cborMarshallerCall (cborEncAfter st0 history) toks = cborMarshallerCall CborEnc.init toks ∧
    cborMarshallerCall (cborEncAfter st0 history) toks = runOut CborEnc.step CborEnc.init toks :=
  ⟨(reused_eq_fresh_cbor_enc _ _).trans (reused_eq_fresh_cbor_enc _ _).symm, reused_eq_fresh_cbor_enc _ _⟩

theorem history_irrelevant_json_enc (c : JsonEnc.Cfg) (ff : Nat → Bytes) (st0 : JsonEnc.St)
    (history : List (List Tok)) (toks : List Tok) :
    jsonMarshallerCall c ff (jsonEncAfter c ff st0 history) toks = jsonMarshallerCall c ff JsonEnc.init toks ∧
    jsonMarshallerCall c ff (jsonEncAfter c ff st0 history) toks = runOut (JsonEnc.step c ff) JsonEnc.init toks :=
  ⟨(reused_eq_fresh_json_enc _ _ _ _).trans (reused_eq_fresh_json_enc _ _ _ _).symm, reused_eq_fresh_json_enc _ _ _ _⟩

theorem history_irrelevant_cbor_dec (coerce : Bool) (st0 : CborDec.St) (history : List Rd) (rd : Rd) :
    cborUnmarshallerCall coerce (cborDecAfter coerce st0 history) rd = cborUnmarshallerCall coerce CborDec.init rd ∧
    cborUnmarshallerCall coerce (cborDecAfter coerce st0 history) rd = CborDec.decode coerce rd :=
  ⟨(reused_eq_fresh_cbor_dec _ _ _).trans (reused_eq_fresh_cbor_dec _ _ _).symm, reused_eq_fresh_cbor_dec _ _ _⟩

theorem history_irrelevant_json_dec (st0 : JsonDec.St) (history : List Rd) (rd : Rd) :
    jsonUnmarshallerCall (jsonDecAfter st0 history) rd = jsonUnmarshallerCall JsonDec.init rd ∧
    jsonUnmarshallerCall (jsonDecAfter st0 history) rd = JsonDec.decode rd :=
  ⟨(reused_eq_fresh_json_dec _ _).trans (reused_eq_fresh_json_dec _ _).symm, reused_eq_fresh_json_dec _ _⟩

def callsFold {σ α β : Type} (call : σ → α → β) (next : σ → α → σ) : σ → List α → List β
  | _, [] => []
  | st, a :: as => call st a :: callsFold call next (next st a) as

theorem callsFold_eq_map {σ α β : Type} (call : σ → α → β) (next : σ → α → σ) (fresh : α → β)
    (h : ∀ st a, call st a = fresh a) : ∀ (st : σ) (as : List α), callsFold call next st as = as.map fresh
  | _, [] => rfl
  | st, a :: as => by simp [callsFold, h, callsFold_eq_map call next fresh h]

theorem callsFold_getLast {σ α β : Type} (call : σ → α → β) (next : σ → α → σ) (fresh : α → β)
    (h : ∀ st a, call st a = fresh a) (st : σ) (as : List α) (a : α) :
    (callsFold call next st (as ++ [a])).getLast? = some (fresh a) := by
  rw [callsFold_eq_map call next fresh h]
  simp

theorem all_calls_fresh_cbor_enc (st0 : CborEnc.St) (history : List (List Tok)) :
    callsFold cborMarshallerCall cborMarshallerNext st0 history = history.map (runOut CborEnc.step CborEnc.init) :=
  callsFold_eq_map _ _ _ reused_eq_fresh_cbor_enc st0 history

theorem all_calls_fresh_json_enc (c : JsonEnc.Cfg) (ff : Nat → Bytes) (st0 : JsonEnc.St) (history : List (List Tok)) :
    callsFold (jsonMarshallerCall c ff) (jsonMarshallerNext c ff) st0 history =
      history.map (runOut (JsonEnc.step c ff) JsonEnc.init) :=
  callsFold_eq_map _ _ _ (reused_eq_fresh_json_enc c ff) st0 history

theorem all_calls_fresh_cbor_dec (coerce : Bool) (st0 : CborDec.St) (history : List Rd) :
    callsFold (cborUnmarshallerCall coerce) (cborUnmarshallerNext coerce) st0 history =
      history.map (CborDec.decode coerce) :=
  callsFold_eq_map _ _ _ (reused_eq_fresh_cbor_dec coerce) st0 history

theorem all_calls_fresh_json_dec (st0 : JsonDec.St) (history : List Rd) :
    callsFold jsonUnmarshallerCall jsonUnmarshallerNext st0 history = history.map JsonDec.decode :=
  callsFold_eq_map _ _ _ reused_eq_fresh_json_dec st0 history

theorem history_last_cbor_enc (st0 : CborEnc.St) (history : List (List Tok)) (toks : List Tok) :
    (callsFold cborMarshallerCall cborMarshallerNext st0 (history ++ [toks])).getLast? =
      some (runOut CborEnc.step CborEnc.init toks) :=
  callsFold_getLast _ _ _ reused_eq_fresh_cbor_enc st0 history toks

theorem history_last_json_enc (c : JsonEnc.Cfg) (ff : Nat → Bytes) (st0 : JsonEnc.St) (history : List (List Tok))
    (toks : List Tok) :
    (callsFold (jsonMarshallerCall c ff) (jsonMarshallerNext c ff) st0 (history ++ [toks])).getLast? =
      some (runOut (JsonEnc.step c ff) JsonEnc.init toks) :=
  callsFold_getLast _ _ _ (reused_eq_fresh_json_enc c ff) st0 history toks

theorem history_last_cbor_dec (coerce : Bool) (st0 : CborDec.St) (history : List Rd) (rd : Rd) :
    (callsFold (cborUnmarshallerCall coerce) (cborUnmarshallerNext coerce) st0 (history ++ [rd])).getLast? =
      some (CborDec.decode coerce rd) :=
  callsFold_getLast _ _ _ (reused_eq_fresh_cbor_dec coerce) st0 history rd

theorem history_last_json_dec (st0 : JsonDec.St) (history : List Rd) (rd : Rd) :
    (callsFold jsonUnmarshallerCall jsonUnmarshallerNext st0 (history ++ [rd])).getLast? =
      some (JsonDec.decode rd) :=
  callsFold_getLast _ _ _ reused_eq_fresh_json_dec st0 history rd

def readItemsReused (coerce : Bool) : Nat → CborDec.St → Rd → List (List Tok) → Option (List (List Tok) × Rd)
  | 0, _, rd, acc => some (acc.reverse, rd)
  | n+1, st, rd, acc =>
    let o := cborUnmarshallerCall coerce st rd
    match o.res with
    | .ok _ => readItemsReused coerce n (cborUnmarshallerNext coerce st rd) o.rd (o.toks :: acc)
    | .error _ => none

theorem readItemsReused_eq (coerce : Bool) : ∀ (n : Nat) (st : CborDec.St) (rd : Rd) (acc : List (List Tok)),
    readItemsReused coerce n st rd acc = C17.readItems coerce n rd acc
  | 0, _, _, _ => rfl
  | n+1, st, rd, acc => by
    simp only [readItemsReused, C17.readItems, reused_eq_fresh_cbor_dec, CborDec.decode,
      readItemsReused_eq coerce n]
    cases (CborDec.run coerce (2 * rd.data.length + 2) CborDec.init rd [] 0 0).res <;> rfl

def readItemsJsonReused : Nat → JsonDec.St → Rd → List (List Tok) → Option (List (List Tok) × Rd)
  | 0, _, rd, acc => some (acc.reverse, rd)
  | n+1, st, rd, acc =>
    let o := jsonUnmarshallerCall st rd
    match o.res with
    | .ok _ => readItemsJsonReused n (jsonUnmarshallerNext st rd) o.rd (o.toks :: acc)
    | .error _ => none

theorem readItemsJsonReused_eq : ∀ (n : Nat) (st : JsonDec.St) (rd : Rd) (acc : List (List Tok)),
    readItemsJsonReused n st rd acc = C17.readItemsJson n rd acc
  | 0, _, _, _ => rfl
  | n+1, st, rd, acc => by
    simp only [readItemsJsonReused, C17.readItemsJson, reused_eq_fresh_json_dec, JsonDec.decode,
      readItemsJsonReused_eq n]
    cases (JsonDec.run (2 * rd.data.length + 2) JsonDec.init rd [] 0).res <;> rfl

theorem frame_cbor_reused (st : CborDec.St) (vs : List TV) (rest : Bytes)
    (hw : ∀ v ∈ vs, C02.WFv v = true) (hs : ∀ v ∈ vs, C02.Supported v = true) :
    readItemsReused false vs.length st (Rd.ofBytes ((vs.map Spec.Cbor.enc).flatten ++ rest)) [] =
      some (vs.map (fun v => v.flatten.map C02.normTok), Rd.ofBytes rest) := by
  rw [readItemsReused_eq]
  exact C17.frame_cbor vs rest hw hs

theorem frame_json_reused (st : JsonDec.St) (c : JsonEnc.Cfg) (vs : List TV)
    (hw : ∀ v ∈ vs, C03.JWF v = true) (hc : C03.cfgOk c = true) (hf : ∀ v ∈ vs, C03.FloatsOk v) :
    ∃ rd', readItemsJsonReused vs.length st (Rd.ofBytes ((vs.map fun v => C03.out c v ++ [10]).flatten)) [] =
      some (vs.map (fun v => v.flatten.map Spec.Json.retypeTok), rd') ∧ rd'.data.all JsonDec.isWs = true := by
  obtain ⟨rd', h1, h2⟩ := C17.frame_json c vs hw hc hf
  exact ⟨rd', by rw [readItemsJsonReused_eq]; exact h1, h2⟩

/-! ### non-vacuity: the state really differs between calls, the results do not -/

-- after an abandoned item (`[` `1`, never closed) the CBOR encoder instance is not in its initial state ...
example : cborMarshallerNext CborEnc.init [⟨.arrOpen 2, none⟩, ⟨.uint 1, none⟩] ≠ CborEnc.init := by decide
-- ... without `Reset` the next item would be written as an array element (`cont`, not `done`) ...
example : (runOut CborEnc.step (cborMarshallerNext CborEnc.init [⟨.arrOpen 2, none⟩, ⟨.uint 1, none⟩])
    [⟨.uint 500, none⟩]).1 = [Flag.cont] := by decide
-- ... the call resets first: same flags and bytes as a fresh encoder
example : cborMarshallerCall (cborMarshallerNext CborEnc.init [⟨.arrOpen 2, none⟩, ⟨.uint 1, none⟩])
    [⟨.uint 500, none⟩] = ([Flag.done], [[0x19], [0x01, 0xf4]]) := by decide

-- JSON encoder: after the abandoned `{"a":` the instance is mid-map; the next call still writes a top-level `true`
example : jsonMarshallerNext ⟨none, []⟩ FloatText.jsonFloat JsonEnc.init [⟨.mapOpen 1, none⟩, ⟨.str [97], none⟩]
    ≠ JsonEnc.init := by decide
example : (jsonMarshallerCall ⟨none, []⟩ FloatText.jsonFloat
    (jsonMarshallerNext ⟨none, []⟩ FloatText.jsonFloat JsonEnc.init [⟨.mapOpen 1, none⟩, ⟨.str [97], none⟩])
    [⟨.bool true, none⟩]).2.flatten = [116, 114, 117, 101] := by decide

-- JSON decoder: a truncated `[1,` leaves the instance inside an array; the next call on `2 ` reads a top-level 2
example : jsonUnmarshallerNext JsonDec.init (Rd.ofBytes [91, 49, 44]) ≠ JsonDec.init := by decide
example : (jsonUnmarshallerCall (jsonUnmarshallerNext JsonDec.init (Rd.ofBytes [91, 49, 44])) (Rd.ofBytes [50, 32])).toks
    = [⟨.int 2, none⟩] := by decide

end Refmt.C17Reuse
