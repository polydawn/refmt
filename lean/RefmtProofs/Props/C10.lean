/-
  C10 — streaming transcoding between JSON and CBOR preserves the document.
  `Pump.run` (RefmtModel/Model/Pump.lean) models shared.TokenPump.Run over the decoder and encoder step
  machines.  Specifications: the reference decoders `Spec.Cbor.parse`, `Spec.Json.parse` and the RFC 7049
  encoder `Spec.Cbor.enc`.
  The fuel (`2 * n + 4` for the pump, `2 * n + 2` for the decoders): a finished run is a run under any budget
  (`PumpL.SrcRuns`, `PumpL.pump_ok`); for failures, neither machine runs out of `2 * n + 2` steps
  (`C06.cbor_terminates_any_reader`, `C06.json_terminates_any_reader`).
-/
import RefmtModel
import RefmtProofs.Props.C02
import RefmtProofs.Props.C04
import RefmtProofs.Props.C05
import RefmtProofs.Props.C06
import RefmtProofs.Props.C14
import RefmtProofs.Lemmas.PumpL
import RefmtProofs.Lemmas.RecTree
import RefmtProofs.Lemmas.Bounds
import RefmtProofs.Lemmas.C15Json
import RefmtProofs.Lemmas.CborLeaves
import RefmtProofs.Lemmas.JsonTree
import RefmtProofs.Lemmas.J2CCounter
namespace Refmt.C10
open Refmt

-- `hb` is not needed
set_option linter.unusedVariables false in
theorem pump_eq_batch_cbor_src {τ : Type} (sink : τ → Tok → EncOut τ) (k0 : τ) (coerce : Bool) (bs : Bytes)
    (hb : ∀ x ∈ bs, x < 256)
    (hdec : (CborDec.decode coerce (Rd.ofBytes bs)).res = .ok ())
    (hsink : (runOut sink k0 (CborDec.decode coerce (Rd.ofBytes bs)).toks).1 =
      List.replicate ((CborDec.decode coerce (Rd.ofBytes bs)).toks.length - 1) Flag.cont ++ [Flag.done]) :
    let r := Pump.run (Pump.cborSrc coerce) sink (2 * bs.length + 4) CborDec.init (Rd.ofBytes bs) k0 []
    r.ok = true ∧ r.out = (runOut sink k0 (CborDec.decode coerce (Rd.ofBytes bs)).toks).2 ∧
    r.rd.data = (CborDec.decode coerce (Rd.ofBytes bs)).rd.data := by
  intro r
  obtain ⟨hruns, hlen⟩ := PumpL.cbor_runs_decode coerce bs hdec
  have hp := PumpL.pump_ok (Pump.cborSrc coerce) sink hruns (2 * bs.length + 4) k0 [] (by omega) hsink
  rw [show r = _ from hp]
  simp

theorem pump_eq_batch_json_src {τ : Type} (sink : τ → Tok → EncOut τ) (k0 : τ) (bs : Bytes)
    (hdec : (JsonDec.decode (Rd.ofBytes bs)).res = .ok ())
    (hsink : (runOut sink k0 (JsonDec.decode (Rd.ofBytes bs)).toks).1 =
      List.replicate ((JsonDec.decode (Rd.ofBytes bs)).toks.length - 1) Flag.cont ++ [Flag.done]) :
    let r := Pump.run Pump.jsonSrc sink (2 * bs.length + 4) JsonDec.init (Rd.ofBytes bs) k0 []
    r.ok = true ∧ r.out = (runOut sink k0 (JsonDec.decode (Rd.ofBytes bs)).toks).2 ∧
    r.rd.data = (JsonDec.decode (Rd.ofBytes bs)).rd.data := by
  intro r
  obtain ⟨hruns, hlen⟩ := PumpL.json_runs_decode bs hdec
  have hp := PumpL.pump_ok Pump.jsonSrc sink hruns (2 * bs.length + 4) k0 [] (by omega) hsink
  rw [show r = _ from hp]
  simp

/-- JSON → CBOR with no cap on string length.  It is FALSE (`j2c_statement_false` below): a JSON string
    longer than 32 MiB is pumped and encoded without complaint, but neither the CBOR decoder nor the
    reference decoder `Spec.Cbor.parse` reads a string above the built-in 32 MiB cap back. -/
def j2c_statement : Prop :=
  ∀ (bs : Bytes) (v : TV) (rest : Bytes), (∀ x ∈ bs, x < 256) → Spec.Json.parse bs = some (v, rest) →
    let r := Pump.run Pump.jsonSrc CborEnc.step (2 * bs.length + 4) JsonDec.init (Rd.ofBytes bs) CborEnc.init []
    r.ok = true ∧ r.out.flatten = Spec.Cbor.enc v ∧ r.rd.data = rest ∧
    (Spec.Cbor.parse false (Spec.Cbor.enc v)).map (fun p => (p.1.flatten, p.2)) = some (v.flatten.map C02.normTok, [])

/-- JSON → CBOR, the pump half of `j2c_statement` (no extra hypothesis): for every JSON text whose first value the
    reference reader accepts, the pump into the CBOR encoder succeeds, writes the RFC 7049 encoding of
    that very value, and consumes exactly one item. -/
theorem j2c_pump (bs : Bytes) (v : TV) (rest : Bytes) (hb : ∀ x ∈ bs, x < 256)
    (hp : Spec.Json.parse bs = some (v, rest)) :
    let r := Pump.run Pump.jsonSrc CborEnc.step (2 * bs.length + 4) JsonDec.init (Rd.ofBytes bs) CborEnc.init []
    r.ok = true ∧ r.out.flatten = Spec.Cbor.enc v ∧ r.rd.data = rest := by
  intro r
  have hj := PumpL.parse_JT bs v rest hb hp
  have hw := PumpL.wfV v hj
  have href := C05.refine bs hb
  simp only [hp] at href
  obtain ⟨h1, h2, h3⟩ := href
  obtain ⟨e1, e2⟩ := C02.enc_eq_spec v hw
  rw [← h1] at e1
  obtain ⟨g1, g2, g3⟩ := pump_eq_batch_json_src CborEnc.step CborEnc.init bs h2 e1
  refine ⟨g1, ?_, ?_⟩
  · rw [← e2, ← h1]; exact congrArg List.flatten g2
  · rw [← h3]; exact g3

/-- the read-back half: the RFC 7049 encoding of a JSON-parsed tree whose string leaves are within the
    32 MiB cap is read by the CBOR reference decoder as the same token tree -/
theorem j2c_readback (v : TV) (hj : PumpL.JT v = true) (hbig : PumpL.StrBound v.flatten) :
    (Spec.Cbor.parse false (Spec.Cbor.enc v)).map (fun p => (p.1.flatten, p.2)) =
      some (v.flatten.map C02.normTok, []) := by
  have hw := PumpL.wfV v hj
  have hs := PumpL.supV v hj hbig
  have hrt := C02.roundtrip_norm v [] hw hs
  simp only [List.append_nil] at hrt
  obtain ⟨r1, r2, r3⟩ := hrt
  have href := C04.refine false (Spec.Cbor.enc v) (PumpL.encV_B256 v hj)
  cases hq : Spec.Cbor.parse false (Spec.Cbor.enc v) with
  | none =>
    simp only [hq] at href
    obtain ⟨e, he⟩ := href
    rw [r2] at he
    cases he
  | some p =>
    obtain ⟨v', rest'⟩ := p
    simp only [hq] at href
    obtain ⟨q1, _, q3⟩ := href
    simp only [Option.map_some, Option.some.injEq, Prod.mk.injEq]
    exact ⟨by rw [← q1, r1], by rw [← q3, r3]⟩

/-- JSON → CBOR: same value, one item in, one item out — `j2c_statement` under the hypothesis `hbig` it lacks
    (every string of the document is at most 32 MiB long, the decoders' built-in cap) -/
theorem j2c_bounded (bs : Bytes) (v : TV) (rest : Bytes) (hb : ∀ x ∈ bs, x < 256)
    (hp : Spec.Json.parse bs = some (v, rest))
    (hbig : ∀ t ∈ v.flatten, ∀ s, t.body = .str s → s.length ≤ 33554432) :
    let r := Pump.run Pump.jsonSrc CborEnc.step (2 * bs.length + 4) JsonDec.init (Rd.ofBytes bs) CborEnc.init []
    r.ok = true ∧ r.out.flatten = Spec.Cbor.enc v ∧ r.rd.data = rest ∧
    (Spec.Cbor.parse false (Spec.Cbor.enc v)).map (fun p => (p.1.flatten, p.2)) = some (v.flatten.map C02.normTok, []) := by
  intro r
  obtain ⟨g1, g2, g3⟩ := j2c_pump bs v rest hb hp
  exact ⟨g1, g2, g3, j2c_readback v (PumpL.parse_JT bs v rest hb hp) hbig⟩

/-- `j2c_statement` is false: the JSON text `"aaa…a"` with 33 554 433 letters, one more than 32 MiB (proved for
    the symbolic length; nothing of that size is evaluated). -/
theorem j2c_statement_false : ¬ j2c_statement := by
  intro h
  have h4 := (h (PumpL.bigJson 33554433) _ [] (PumpL.bigJson_bytes _) (PumpL.parse_bigJson _)).2.2.2
  have hrej := PumpL.cbor_rejects_big (PumpL.bigStr 33554433)
    (by simp only [PumpL.bigStr, List.length_replicate]; decide)
    (by simp only [PumpL.bigStr, List.length_replicate]; decide)
  rw [hrej] at h4
  cases h4

-- the common data model, on token trees
mutual
  def common : TV → Bool
    | .scalar t => t.tag.isNone && (match t.body with
        | .bytes _ => false
        | .float b => !floatNonFinite b
        | _ => true)
    | .arr tag _ items => tag.isNone && commonL items
    | .map tag _ es => tag.isNone && commonE es
  def commonL : List TV → Bool
    | [] => true
    | v :: vs => common v && commonL vs
  def commonE : List (TV × TV) → Bool
    | [] => true
    | (k, v) :: es => (match k with | .scalar t => t.tag.isNone && (match t.body with | .str _ => true | _ => false) | _ => false) &&
        common v && commonE es
end

theorem common_scalar (t : Tok) : common (.scalar t) = (t.tag.isNone && valOk .json t.body) := by
  rcases t with ⟨b, tag⟩
  cases b <;> rfl

theorem common_fam : RecTree.Fam .json (fun v => common v = true ∧ PumpL.SB v = true)
    (fun vs => commonL vs = true ∧ PumpL.SBl vs = true) (fun es => commonE es = true ∧ PumpL.SBe es = true) where
  scalar := by
    intro t ⟨hc, hs⟩
    rw [common_scalar, Bool.and_eq_true] at hc
    exact ⟨hs, hc.2⟩
  arr := by
    intro tag len items ⟨hc, hs⟩
    simp only [common, Bool.and_eq_true] at hc
    exact ⟨hc.2, by simpa [PumpL.SB] using hs⟩
  map := by
    intro tag len es ⟨hc, hs⟩
    simp only [common, Bool.and_eq_true] at hc
    exact ⟨hc.2, by simpa [PumpL.SB] using hs⟩
  cons := by
    intro v vs ⟨hc, hs⟩
    simp only [commonL, Bool.and_eq_true] at hc
    simp only [PumpL.SBl, Bool.and_eq_true] at hs
    exact ⟨⟨hc.1, hs.1⟩, hc.2, hs.2⟩
  entry := by
    intro k v es ⟨hc, hs⟩
    simp only [commonE, Bool.and_eq_true] at hc
    simp only [PumpL.SBe, Bool.and_eq_true] at hs
    obtain ⟨⟨hk, hv⟩, hes⟩ := hc
    refine ⟨?_, ⟨hv, hs.1.2⟩, hes, hs.2⟩
    cases k with
    | scalar t =>
      rw [Bool.and_eq_true] at hk
      exact ⟨t, rfl, RecTree.keyOk_json_of (f := fun _ => true) hk.2⟩
    | arr _ _ _ => simp at hk
    | map _ _ _ => simp at hk

theorem recL : ∀ (vs : List TV), commonL vs = true → PumpL.SBl vs = true → ∀ (stk : List Frame) (rest : List Tok),
      recFlags .json (.arr :: stk) (TV.flattenList vs ++ rest) =
        List.replicate (TV.flattenList vs).length Flag.cont ++ recFlags .json (.arr :: stk) rest :=
  fun vs hc hs stk rest => RecTree.recFlags_cont .json _ (common_fam.items vs ⟨hc, hs⟩ stk) rest

theorem recE : ∀ (es : List (TV × TV)), commonE es = true → PumpL.SBe es = true →
      ∀ (stk : List Frame) (rest : List Tok),
      recFlags .json (.mapKey :: stk) (TV.flattenEntries es ++ rest) =
        List.replicate (TV.flattenEntries es).length Flag.cont ++ recFlags .json (.mapKey :: stk) rest :=
  fun es hc hs stk rest => RecTree.recFlags_cont .json _ (common_fam.entries es ⟨hc, hs⟩ stk) rest

theorem json_sink_ok (c : JsonEnc.Cfg) (ff : Nat → Bytes) (v : TV) (hc : common v = true) (hs : PumpL.SB v = true) :
    PumpL.SinkOk (JsonEnc.step c ff) JsonEnc.init v.flatten := by
  unfold PumpL.SinkOk
  rw [PumpL.runOut_fst, C14.json_accepts_exactly]
  exact common_fam.top v ⟨hc, hs⟩

/-- CBOR → JSON: accepted, done on the last token, one item consumed -/
theorem c2j_accepts (c : JsonEnc.Cfg) (ff : Nat → Bytes) (bs : Bytes) (v : TV) (rest : Bytes) (hb : ∀ x ∈ bs, x < 256)
    (hp : Spec.Cbor.parse false bs = some (v, rest)) (hc : common v = true) :
    let r := Pump.run (Pump.cborSrc false) (JsonEnc.step c ff) (2 * bs.length + 4) CborDec.init (Rd.ofBytes bs) JsonEnc.init []
    r.ok = true ∧ r.rd.data = rest ∧ r.out = (runOut (JsonEnc.step c ff) JsonEnc.init v.flatten).2 := by
  intro r
  have href := C04.refine false bs hb
  simp only [hp] at href
  obtain ⟨h1, h2, h3⟩ := href
  have hsink := json_sink_ok c ff v hc (PumpL.parse_SB false bs v rest hp)
  unfold PumpL.SinkOk at hsink
  rw [← h1] at hsink
  obtain ⟨g1, g2, g3⟩ := pump_eq_batch_cbor_src (JsonEnc.step c ff) JsonEnc.init false bs hb h2 hsink
  refine ⟨g1, ?_, ?_⟩
  · rw [← h3]; exact g3
  · rw [← h1]; exact g2

theorem pump_src_error_cbor {τ : Type} (sink : τ → Tok → EncOut τ) (k0 : τ) (coerce : Bool) (bs : Bytes) (e : Err)
    (hdec : (CborDec.decode coerce (Rd.ofBytes bs)).res = .error e) :
    (Pump.run (Pump.cborSrc coerce) sink (2 * bs.length + 4) CborDec.init (Rd.ofBytes bs) k0 []).ok = false := by
  apply PumpL.pump_fail
  rw [PumpL.cbor_srcRun, C06.cbor_terminates_any_reader coerce (Rd.ofBytes bs) (2 * bs.length + 4) (Nat.le_add_right _ 2), hdec]
  rfl

theorem pump_src_error_json {τ : Type} (sink : τ → Tok → EncOut τ) (k0 : τ) (bs : Bytes) (e : Err)
    (hdec : (JsonDec.decode (Rd.ofBytes bs)).res = .error e) :
    (Pump.run Pump.jsonSrc sink (2 * bs.length + 4) JsonDec.init (Rd.ofBytes bs) k0 []).ok = false := by
  apply PumpL.pump_fail
  rw [PumpL.json_srcRun, C06.json_terminates_any_reader (Rd.ofBytes bs) (2 * bs.length + 4) (Nat.le_add_right _ 2), hdec]
  rfl

end Refmt.C10
