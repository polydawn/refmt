/-
  C07 — the object marshaller always emits one finite, well-formed token stream.

  `marshalV` (RefmtModel/Model/Obj/Marshal.lean) is the functional model of obj.Marshaller: the token list emitted for a
  value of a declared type under an atlas, or the tokens emitted before an error.

  * `marshal_wf_strong`: whenever marshalling succeeds, the tokens are exactly one well-formed value: the flattening of a
    token tree in which every declared length equals the number of entries that follow, every map key is an untagged
    string token (tags can only sit on the first token of an item, closes are never tagged) and every leaf is a scalar
    token (`Leaves`; without it a stray close token could hide in a `.scalar`).  `marshal_wf` is the same without the
    last clause.
  * `struct_count_matches_walk_strong`: the header count of a struct is the number of fields passing the ignore /
    unreachable / omitempty filter, and exactly that many pairs follow.
  * `marshal_fuel_mono_le`: a result other than `.panic` is the same at every larger fuel (the functional model
    terminates: no endless stream).  Fuel exhaustion is reported as `.panic`, as are the `.panic` machine and an
    ill-typed value.
  * `marshal_bound`: the number of tokens is bounded by the size of the value: ≤ 5 · valNodes with keyed unions
    (`PlainAtlas`, `NoPtrPtr`), ≤ 2 · valNodes without (`marshal_bound_two`, `PlainAtlasNoUnion`), hence
    ≤ 3 · valNodes + 2 (`marshal_bound_plain_fixed`).  Without those hypotheses the bound is false
    (`marshal_bound_plain_false`; counterexamples `cex_run`, `cex2_run`, `cex3_run`): defects of the statement, not of
    the model.

  Well-formedness and the bounds are rule inductions over the successful runs `MRun.Writes` (`writes_wf`,
  `writes_bound`); fuel monotonicity speaks of every outcome and is an induction on the fuel over `Job.out` (`out_succ`).
-/
import RefmtModel
import RefmtProofs.Lemmas.MarshalRun
namespace Refmt.C07
open Refmt Refmt.Obj Refmt.ObjL

mutual
  def KeysStr : TV → Bool
    | .scalar _ => true
    | .arr _ _ items => KeysStrL items
    | .map _ _ es => KeysStrE es
  def KeysStrL : List TV → Bool
    | [] => true
    | v :: vs => KeysStr v && KeysStrL vs
  def KeysStrE : List (TV × TV) → Bool
    | [] => true
    | (k, v) :: es =>
      (match k with | .scalar t => (match t.body, t.tag with | .str _, none => true | _, _ => false) | _ => false) &&
      KeysStr v && KeysStrE es
end

def leafOk : TV → Bool
  | .scalar t => t.body.isScalar
  | _ => true

mutual
  def Leaves : TV → Bool
    | .scalar t => t.body.isScalar
    | .arr _ _ items => LeavesL items
    | .map _ _ es => LeavesE es
  def LeavesL : List TV → Bool
    | [] => true
    | v :: vs => Leaves v && LeavesL vs
  def LeavesE : List (TV × TV) → Bool
    | [] => true
    | (k, v) :: es => Leaves k && Leaves v && LeavesE es
end

def Good (tv : TV) : Prop := tv.lengthsOk = true ∧ KeysStr tv = true ∧ Leaves tv = true
def GoodL (l : List TV) : Prop := TV.lengthsOkList l = true ∧ KeysStrL l = true ∧ LeavesL l = true
def GoodE (l : List (TV × TV)) : Prop := TV.lengthsOkEntries l = true ∧ KeysStrE l = true ∧ LeavesE l = true

theorem good_scalar {t : Tok} (h : t.body.isScalar = true) : Good (.scalar t) := by
  simp [Good, TV.lengthsOk, KeysStr, Leaves, h]
theorem good_arr {tag : Option Int} {items : List TV} (h : GoodL items) : Good (.arr tag items.length items) := by
  simp [Good, TV.lengthsOk, KeysStr, Leaves, h.1, h.2.1, h.2.2]
theorem good_map {tag : Option Int} {es : List (TV × TV)} (h : GoodE es) : Good (.map tag es.length es) := by
  simp [Good, TV.lengthsOk, KeysStr, Leaves, h.1, h.2.1, h.2.2]
theorem goodL_nil : GoodL [] := by simp [GoodL, TV.lengthsOkList, KeysStrL, LeavesL]
theorem goodL_cons {v : TV} {vs : List TV} (h : Good v) (hs : GoodL vs) : GoodL (v :: vs) := by
  simp [GoodL, TV.lengthsOkList, KeysStrL, LeavesL, h.1, h.2.1, h.2.2, hs.1, hs.2.1, hs.2.2]
theorem goodE_nil : GoodE [] := by simp [GoodE, TV.lengthsOkEntries, KeysStrE, LeavesE]
theorem goodE_cons {s : Bytes} {v : TV} {es : List (TV × TV)} (h : Good v) (hs : GoodE es) :
    GoodE ((.scalar ⟨.str s, none⟩, v) :: es) := by
  simp [GoodE, TV.lengthsOkEntries, KeysStrE, LeavesE, TV.lengthsOk, Leaves, Body.isScalar, h.1, h.2.1, h.2.2, hs.1, hs.2.1, hs.2.2]
theorem good_setTag {g : Int} {tv : TV} (h : Good tv) : Good (setTag g tv) := by
  cases tv <;> simpa [Good, setTag, TV.lengthsOk, KeysStr, Leaves] using h

theorem keysStrE_key {k v : TV} {es : List (TV × TV)} (h : KeysStrE ((k, v) :: es) = true) :
    ∃ s, k = .scalar ⟨.str s, none⟩ := by
  simp only [KeysStrE, Bool.and_eq_true] at h
  have hk := h.1.1
  split at hk
  · next t =>
    obtain ⟨b, tg⟩ := t
    split at hk
    · next s hb ht => simp only at hb ht; subst hb ht; exact ⟨s, rfl⟩
    · cases hk
  · cases hk

def WF : MRun.Job → List Tok → Prop
  | .v _ _, toks | .bare _ _ _, toks => ∃ tv : TV, toks = tv.flatten ∧ Good tv
  | .list _ es, toks => ∃ tvs : List TV, toks = TV.flattenList tvs ∧ tvs.length = es.length ∧ GoodL tvs
  | .entries _ kvs, toks => ∃ es : List (TV × TV), toks = TV.flattenEntries es ∧ es.length = kvs.length ∧ GoodE es
  | .fields fs _, toks => ∃ es : List (TV × TV), toks = TV.flattenEntries es ∧ es.length = fs.length ∧ GoodE es

theorem null_good : ∃ tv : TV, [MRun.nullTok] = tv.flatten ∧ Good tv :=
  ⟨.scalar ⟨.null, none⟩, rfl, good_scalar rfl⟩

theorem writes_wf {ts : Types} {a : Atlas} {trs : Trs} {f : Nat} {job : MRun.Job} {toks : List Tok}
    (h : MRun.Writes ts a trs f job toks) : WF job toks := by
  induction h with
  | v_direct _ _ ih | v_deref _ _ _ ih | wild _ ih => exact ih
  | v_nil | wildNil | sliceNil | mapNil => exact null_good
  | prim h =>
    obtain ⟨b, rfl, hb, _⟩ := primTok_inv h
    exact ⟨.scalar _, rfl, good_scalar hb⟩
  | slice _ ih | array _ ih =>
    obtain ⟨tvs, rfl, hlen, g⟩ := ih
    rw [← hlen]
    exact ⟨.arr none tvs.length tvs, by simp [TV.flatten], good_arr g⟩
  | @map _ _ _ _ _ _ es _ _ _ hkvs _ ih =>
    obtain ⟨tes, rfl, hlen, g⟩ := ih
    rw [show es.length = tes.length by rw [hlen, sortKeys_length, mapM_length _ _ _ hkvs]]
    exact ⟨.map none tes.length tes, by simp [TV.flatten], good_map g⟩
  | @struct _ _ e _ _ _ _ ih =>
    obtain ⟨es, rfl, hlen, g⟩ := ih
    rw [← hlen]
    exact ⟨.map e.tag es.length es, by simp [TV.flatten], good_map g⟩
  | @transform _ _ e _ _ _ _ _ _ _ ih =>
    obtain ⟨tv, rfl, g⟩ := ih
    cases e.tag with
    | none => exact ⟨tv, rfl, g⟩
    | some gg => exact ⟨setTag gg tv, MRun.retag_some_flatten gg tv, good_setTag g⟩
  | @union _ _ _ _ _ _ name _ _ _ _ _ _ ih =>
    obtain ⟨tv, rfl, g⟩ := ih
    exact ⟨.map none (1 : Nat) [(.scalar ⟨.str name, none⟩, tv)], by simp [TV.flatten, TV.flattenEntries],
      good_map (es := [(.scalar ⟨.str name, none⟩, tv)]) (goodE_cons g goodE_nil)⟩
  | listNil => exact ⟨[], rfl, rfl, goodL_nil⟩
  | listCons _ _ ih1 ih2 =>
    obtain ⟨tv, rfl, g1⟩ := ih1
    obtain ⟨tvs, rfl, hlen, g2⟩ := ih2
    exact ⟨tv :: tvs, by simp [TV.flattenList], by simp [hlen], goodL_cons g1 g2⟩
  | entriesNil | fieldsNil => exact ⟨[], rfl, rfl, goodE_nil⟩
  | @entriesCons _ _ k _ _ _ _ _ _ ih1 ih2 =>
    obtain ⟨tv, rfl, g1⟩ := ih1
    obtain ⟨es, rfl, hlen, g2⟩ := ih2
    exact ⟨(.scalar ⟨.str k, none⟩, tv) :: es, by simp [TV.flattenEntries, TV.flatten], by simp [hlen], goodE_cons g1 g2⟩
  | @fieldsCons _ fe _ _ _ _ _ _ _ _ ih1 ih2 =>
    obtain ⟨tv, rfl, g1⟩ := ih1
    obtain ⟨es, rfl, hlen, g2⟩ := ih2
    exact ⟨(.scalar ⟨.str fe.name, none⟩, tv) :: es, by simp [TV.flattenEntries, TV.flatten], by simp [hlen], goodE_cons g1 g2⟩

theorem marshal_wf_strong (ts : Types) (a : Atlas) (trs : Trs) (fuel id : Nat) (v : Val) (toks : List Tok)
    (h : marshalV ts a trs fuel id v = ⟨toks, none⟩) :
    ∃ tv : TV, toks = tv.flatten ∧ tv.lengthsOk = true ∧ KeysStr tv = true ∧ Leaves tv = true :=
  writes_wf (MRun.of_out (job := .v id v) h)

theorem marshal_wf (ts : Types) (a : Atlas) (trs : Trs) (fuel id : Nat) (v : Val) (toks : List Tok)
    (h : marshalV ts a trs fuel id v = ⟨toks, none⟩) :
    ∃ tv : TV, toks = tv.flatten ∧ tv.lengthsOk = true ∧ KeysStr tv = true := by
  obtain ⟨tv, h1, h2, h3, _⟩ := marshal_wf_strong ts a trs fuel id v toks h
  exact ⟨tv, h1, h2, h3⟩

/-- number of nodes of a value; a pointer and an untyped box count as what they hold -/
def valNodes : Nat → Val → Nat
  | 0, _ => 1
  | fuel+1, v =>
    match v with
    | .slice (some vs) => 1 + (vs.map (valNodes fuel)).sum
    | .arr vs => 1 + (vs.map (valNodes fuel)).sum
    | .map (some es) => 1 + (es.map fun (_, x) => 1 + valNodes fuel x).sum
    | .ptr (some x) => valNodes fuel x
    | .iface (some (_, x)) => valNodes fuel x
    | .struct fs => 1 + (fs.map fun x => 1 + valNodes fuel x).sum
    | _ => 1

/-! Without hypotheses on atlas and types the bound `3 · valNodes + 2` (`marshal_bound_plain_statement`) is false.

  Three independent defects of the *statement* (none is a defect of the marshaller model):
  1. a keyed union costs three tokens (`{`, member name, `}`) that `valNodes` does not count (`.iface` adds no node),
     so the coefficient 3 is too small as soon as unions occur in a slice / map / struct;
  2. the atlas is unconstrained: a struct-map entry may list the same field any number of times;
  3. `valNodes fuel` spends one unit of fuel per pointer level, the marshaller peels a whole pointer chain
     in one step, so `valNodes fuel` may see nothing of a value the marshaller walks completely. -/

/-- The unconditional statement (false):
    "Token count is linear in the size of the value, for values that contain no transformed types
    (a transform may return an arbitrarily large serial form, which is then what is measured)." -/
def marshal_bound_plain_statement : Prop :=
  ∀ (ts : Types) (a : Atlas) (trs : Trs) (fuel id : Nat) (v : Val) (toks : List Tok),
    (∀ e ∈ a.pool, ∀ fn m u, e.k ≠ .transform fn m u) →
    marshalV ts a trs fuel id v = ⟨toks, none⟩ →
    toks.length ≤ 3 * valNodes fuel v + 2

def cexTrs : Trs := ⟨fun _ _ => none, fun _ _ => none⟩

/-- counterexample 1: `[]I{S{}, S{}}` where `I` is an interface registered as a keyed union with member
    `"s" ↦ S`, `S = struct{}`: 12 tokens `[ {"s":{}} {"s":{}} ]`, 3 nodes, 3·3+2 = 11 -/
def cexTs : Types := [(0, .slice 1), (1, .iface true), (2, .struct [])]
def cexAtlas : Atlas := ⟨[⟨true, 1, none, .union [([115], 1)]⟩, ⟨true, 2, none, .structMap []⟩], .default⟩
def cexVal : Val := .slice (some [.iface (some (2, .struct [])), .iface (some (2, .struct []))])
def cexToks : List Tok :=
  [⟨.arrOpen 2, none⟩,
   ⟨.mapOpen 1, none⟩, ⟨.str [115], none⟩, ⟨.mapOpen 0, none⟩, ⟨.mapClose, none⟩, ⟨.mapClose, none⟩,
   ⟨.mapOpen 1, none⟩, ⟨.str [115], none⟩, ⟨.mapOpen 0, none⟩, ⟨.mapClose, none⟩, ⟨.mapClose, none⟩,
   ⟨.arrClose, none⟩]

theorem cex_run : marshalV cexTs cexAtlas cexTrs 10 0 cexVal = ⟨cexToks, none⟩ := by
  with_unfolding_all rfl

theorem marshal_bound_plain_false : ¬ marshal_bound_plain_statement := by
  intro h
  have := h cexTs cexAtlas cexTrs 10 0 cexVal cexToks
    (by intro e he; simp [cexAtlas] at he; rcases he with rfl | rfl <;> simp) cex_run
  revert this
  decide

/-- counterexample 2 (no unions, no pointers): `struct{X int}{7}` under a struct-map entry listing field `x` five
    times: 12 tokens, 3 nodes -/
def cex2Field : SMField := ⟨[120], false, [0], 1, false⟩
def cex2Ts : Types := [(0, .struct [⟨[88], 1, true, false, none⟩]), (1, .prim .int true)]
def cex2Atlas : Atlas := ⟨[⟨true, 0, none, .structMap [cex2Field, cex2Field, cex2Field, cex2Field, cex2Field]⟩], .default⟩
def cex2Val : Val := .struct [.int 7]

theorem cex2_run : ∃ toks, marshalV cex2Ts cex2Atlas cexTrs 10 0 cex2Val = ⟨toks, none⟩ ∧
    toks.length = 12 ∧ 3 * valNodes 10 cex2Val + 2 = 11 :=
  ⟨(marshalV cex2Ts cex2Atlas cexTrs 10 0 cex2Val).toks, by with_unfolding_all rfl, by with_unfolding_all rfl,
   by decide⟩

/-- counterexample 3 (empty atlas): an eight-fold pointer to `[]int{1,2,3,4}` at fuel 8: six tokens, but
    `valNodes 8` runs out of fuel on the pointers and counts a single node (with fuel 9 it counts 5) -/
def cex3Ts : Types :=
  [(0, .ptr 1), (1, .ptr 2), (2, .ptr 3), (3, .ptr 4), (4, .ptr 5), (5, .ptr 6), (6, .ptr 7), (7, .ptr 8),
   (8, .slice 9), (9, .prim .int true)]
def cex3P (v : Val) : Val := .ptr (some v)
def cex3Val : Val :=
  cex3P (cex3P (cex3P (cex3P (cex3P (cex3P (cex3P (cex3P (.slice (some [.int 1, .int 2, .int 3, .int 4])))))))))

theorem cex3_run : ∃ toks, marshalV cex3Ts ⟨[], .default⟩ cexTrs 8 0 cex3Val = ⟨toks, none⟩ ∧
    toks.length = 6 ∧ 3 * valNodes 8 cex3Val + 2 = 5 :=
  ⟨(marshalV cex3Ts ⟨[], .default⟩ cexTrs 8 0 cex3Val).toks, by with_unfolding_all rfl, by with_unfolding_all rfl,
   by decide⟩

theorem sum_map_le {α : Type} (l : List α) (f g : α → Nat) (h : ∀ x ∈ l, f x ≤ g x) :
    (l.map f).sum ≤ (l.map g).sum := by
  induction l with
  | nil => simp
  | cons x xs ih =>
    simp only [List.map_cons, List.sum_cons]
    have := h x (by simp)
    have := ih (fun y hy => h y (by simp [hy]))
    omega

theorem sum_map_mul {α : Type} (l : List α) (c : Nat) (f : α → Nat) :
    (l.map fun x => c * f x).sum = c * (l.map f).sum := by
  induction l with
  | nil => simp
  | cons x xs ih => simp only [List.map_cons, List.sum_cons, ih, Nat.mul_add]

theorem sum_set_zero (ws : List Nat) (i : Nat) : (ws.set i 0).sum + ws[i]?.getD 0 = ws.sum := by
  induction ws generalizing i with
  | nil => simp
  | cons w ws ih =>
    cases i with
    | zero => simp; omega
    | succ i => simp only [List.set_cons_succ, List.sum_cons, List.getElem?_cons_succ]; have := ih i; omega

theorem sum_idx_le (idxs : List Nat) (hnd : idxs.Nodup) (ws : List Nat) :
    (idxs.map fun i => ws[i]?.getD 0).sum ≤ ws.sum := by
  induction idxs generalizing ws with
  | nil => simp
  | cons i is ih =>
    rw [List.nodup_cons] at hnd
    simp only [List.map_cons, List.sum_cons]
    have h1 := ih hnd.2 (ws.set i 0)
    have h2 := sum_set_zero ws i
    have h3 : (is.map fun j => (ws.set i 0)[j]?.getD 0) = (is.map fun j => ws[j]?.getD 0) := by
      apply List.map_congr_left
      intro j hj
      have : i ≠ j := fun hij => hnd.1 (hij ▸ hj)
      simp [this]
    rw [h3] at h1
    omega

theorem valNodes_zero (v : Val) : valNodes 0 v = 1 := rfl
theorem valNodes_slice (k : Nat) (l : List Val) : valNodes (k+1) (.slice (some l)) = 1 + (l.map (valNodes k)).sum := rfl
theorem valNodes_arr (k : Nat) (l : List Val) : valNodes (k+1) (.arr l) = 1 + (l.map (valNodes k)).sum := rfl
theorem valNodes_map (k : Nat) (l : List (Val × Val)) :
    valNodes (k+1) (.map (some l)) = 1 + (l.map fun p => 1 + valNodes k p.2).sum := rfl
theorem valNodes_struct (k : Nat) (l : List Val) :
    valNodes (k+1) (.struct l) = 1 + (l.map fun x => 1 + valNodes k x).sum := rfl
theorem valNodes_ptr (k : Nat) (x : Val) : valNodes (k+1) (.ptr (some x)) = valNodes k x := rfl
theorem valNodes_iface (k d : Nat) (x : Val) : valNodes (k+1) (.iface (some (d, x))) = valNodes k x := rfl

theorem valNodes_pos (k : Nat) (v : Val) : 1 ≤ valNodes k v := by
  induction k generalizing v with
  | zero => exact Nat.le_refl _
  | succ k ih =>
    cases v with
    | slice o => cases o with
      | none => exact Nat.le_refl _
      | some l => rw [valNodes_slice]; omega
    | map o => cases o with
      | none => exact Nat.le_refl _
      | some l => rw [valNodes_map]; omega
    | ptr o => cases o with
      | none => exact Nat.le_refl _
      | some x => rw [valNodes_ptr]; exact ih x
    | iface o => cases o with
      | none => exact Nat.le_refl _
      | some p => obtain ⟨d, x⟩ := p; rw [valNodes_iface]; exact ih x
    | arr l => rw [valNodes_arr]; omega
    | struct l => rw [valNodes_struct]; omega
    | _ => exact Nat.le_refl _

theorem valNodes_mono (k : Nat) (v : Val) : valNodes k v ≤ valNodes (k + 1) v := by
  induction k generalizing v with
  | zero => simpa [valNodes] using valNodes_pos 1 v
  | succ k ih =>
    cases v with
    | slice o => cases o with
      | none => exact Nat.le_refl _
      | some l =>
        rw [valNodes_slice, valNodes_slice]
        have := sum_map_le l (valNodes k) (valNodes (k+1)) (fun x _ => ih x)
        omega
    | map o => cases o with
      | none => exact Nat.le_refl _
      | some l =>
        rw [valNodes_map, valNodes_map]
        have := sum_map_le l (fun p => 1 + valNodes k p.2) (fun p => 1 + valNodes (k+1) p.2)
          (fun x _ => by have := ih x.2; omega)
        omega
    | ptr o => cases o with
      | none => exact Nat.le_refl _
      | some x => rw [valNodes_ptr, valNodes_ptr]; exact ih x
    | iface o => cases o with
      | none => exact Nat.le_refl _
      | some p => obtain ⟨d, x⟩ := p; rw [valNodes_iface, valNodes_iface]; exact ih x
    | arr l =>
      rw [valNodes_arr, valNodes_arr]
      have := sum_map_le l (valNodes k) (valNodes (k+1)) (fun x _ => ih x)
      omega
    | struct l =>
      rw [valNodes_struct, valNodes_struct]
      have := sum_map_le l (fun x => 1 + valNodes k x) (fun x => 1 + valNodes (k+1) x)
        (fun x _ => by have := ih x; omega)
      omega
    | _ => exact Nat.le_refl _

theorem valNodes_mono_le {k k' : Nat} (h : k ≤ k') (v : Val) : valNodes k v ≤ valNodes k' v := by
  induction h with
  | refl => exact Nat.le_refl _
  | step _ ih => exact Nat.le_trans ih (valNodes_mono _ v)

/-! The induction is run once for a coefficient `c ≥ 2`: a node pays for its own token or its two brackets.  A keyed
  union costs three more tokens (`{`, member name, `}`) that `valNodes` does not count; an atlas that has one fixes
  `c = 5` (`PlainAtlasC.unions`), and `leavesSlack` says where the three tokens come from. -/

def SimpleFields (fs : List SMField) : Prop :=
  (∀ f ∈ fs, ∃ i, f.route = [i]) ∧ (fs.map (·.route)).Nodup

structure PlainAtlasC (c : Nat) (a : Atlas) : Prop where
  notr : ∀ e ∈ a.pool, ∀ fn m u, e.k ≠ .transform fn m u
  fields : ∀ e ∈ a.pool, ∀ fs, e.k = .structMap fs → SimpleFields fs
  unions : ∀ e ∈ a.pool, ∀ ms, e.k = .union ms →
    c = 5 ∧ ∀ p ∈ ms, ∀ me, a.pool[p.2]? = some me → ∀ ms', me.k ≠ .union ms'

def NoPtrPtr (ts : Types) : Prop := ∀ id e e', ts.get id = .ptr e → ts.get e ≠ .ptr e'

def MOk (c : Nat) (a : Atlas) : Mach → Prop
  | .structMap _ fs => SimpleFields fs
  | .transform _ _ _ => False
  | .union _ ms => c = 5 ∧ ∀ p ∈ ms, ∀ me, a.pool[p.2]? = some me → ∀ ms', me.k ≠ .union ms'
  | _ => True

/-- the machines a keyed union can delegate to (struct maps, maps, or machines that fail): their output stays
    `c - 2` tokens below the bound, which is what pays for the union's own `{`, member name and `}` -/
def leavesSlack : Mach → Bool
  | .structMap _ _ | .map _ _ _ | .panic | .errThunk => true
  | _ => false

theorem mok_entry (ts : Types) {c : Nat} {a : Atlas} (hpa : PlainAtlasC c a) {e : Entry} (he : e ∈ a.pool) :
    MOk c a (machForEntry ts e) := by
  unfold machForEntry
  split
  · next fn m u hk => exact absurd hk (hpa.notr e he fn m u)
  · next fs hk => exact hpa.fields e he fs hk
  · next ms hk => exact hpa.unions e he ms hk
  · split <;> trivial
  · trivial

theorem leavesSlack_entry (ts : Types) {c : Nat} {a : Atlas} (hpa : PlainAtlasC c a) {e : Entry} (he : e ∈ a.pool)
    (hnu : ∀ ms, e.k ≠ .union ms) : leavesSlack (machForEntry ts e) = true := by
  unfold machForEntry
  split
  · next fn m u hk => exact absurd hk (hpa.notr e he fn m u)
  · rfl
  · next ms hk => exact absurd hk (hnu ms)
  · split <;> rfl
  · rfl

theorem mok_pick (ts : Types) {c : Nat} {a : Atlas} (hpa : PlainAtlasC c a) (id : Nat) : MOk c a (pickBare ts a id) := by
  unfold pickBare
  split
  · trivial
  · trivial
  · split
    · next e he => exact mok_entry ts hpa (List.mem_of_find?_eq_some he)
    · split <;> trivial

theorem peel_cases {ts : Types} (h : NoPtrPtr ts) (id : Nat) :
    (peel ts 64 0 id).1 = 0 ∨ (peel ts 64 0 id).1 = 1 := by
  rw [show (64 : Nat) = 63 + 1 from rfl, peel]
  split
  · next e he => right; rw [peel_nonptr ts 63 (0+1) e (fun e' => h id e e' he)]
  · left; rfl

theorem derefN_one {v inner : Val} (h : derefN 1 v = some inner) : v = .ptr (some inner) := by
  cases v with
  | ptr o => cases o with
    | none => simp [derefN] at h
    | some x => simp [derefN] at h; rw [h]
  | _ => simp [derefN] at h

theorem structFields_nodes (j : Nat) (v : Val) :
    1 + ((structFields v).map fun x => 1 + valNodes j x).sum ≤ valNodes (j + 2) v := by
  have hs : ∀ fs : List Val, 1 + (fs.map fun x => 1 + valNodes j x).sum ≤ valNodes (j + 1) (.struct fs) := by
    intro fs; rw [valNodes_struct]; omega
  unfold structFields
  split
  · next fs hd =>
    cases v with
    | struct fs' => cases hd; exact Nat.le_trans (hs fs) (valNodes_mono _ _)
    | ptr o =>
      cases o with
      | none => cases hd
      | some x => cases hd; rw [valNodes_ptr]; exact hs fs
    | _ => cases hd
  · exact valNodes_pos _ _

theorem stringify_snd {trs : Trs} {kf : Option Nat} {l : List (Val × Val)} {kvs : List (Bytes × Val)}
    (h : MM.stringify trs kf l = some kvs) : kvs.map (·.2) = l.map (·.2) := by
  refine mapM_map_eq ?_ _ _ h
  rintro ⟨k, x⟩ y hxy
  simp only at hxy
  split at hxy
  · cases hxy; rfl
  · split at hxy
    · cases hxy; rfl
    · cases hxy
  · cases hxy

section
variable (ts : Types) (a : Atlas) (trs : Trs) (c : Nat)

def fieldW (c j : Nat) (v : Val) (f : SMField) : Nat :=
  match traverse f.route v with
  | some fv => 1 + c * valNodes j fv
  | none => 0

/-- for a bare machine also the slack a union member leaves (see `leavesSlack`): the one idea of the coefficient 5 -/
def Bd (k : Nat) : MRun.Job → List Tok → Prop
  | .v _ v, toks => toks.length ≤ c * valNodes k v
  | .bare _ m v, toks => MOk c a m →
    toks.length ≤ c * valNodes k v ∧ (leavesSlack m = true → toks.length + (c - 2) ≤ c * valNodes k v)
  | .list _ es, toks => toks.length ≤ c * (es.map (valNodes k)).sum
  | .entries _ kvs, toks => toks.length ≤ (kvs.map fun p => 1 + c * valNodes k p.2).sum
  | .fields fs v, toks => toks.length ≤ (fs.map (fieldW c (k - 1) v)).sum

theorem fieldW_mono (j : Nat) (v : Val) (f : SMField) : fieldW c j v f ≤ fieldW c (j + 1) v f := by
  unfold fieldW
  split
  · exact Nat.add_le_add_left (Nat.mul_le_mul_left c (valNodes_mono j _)) 1
  · exact Nat.le_refl _

theorem one_slack (hc : 2 ≤ c) (k : Nat) (v : Val) : 1 + (c - 2) ≤ c * valNodes k v := by
  have := Nat.le_mul_of_pos_right c (valNodes_pos k v)
  omega

/-- a key token per entry is paid for by counting the entry as a node -/
theorem sum_key_le {α : Type} (hc : 2 ≤ c) (l : List α) (n : α → Nat) :
    (l.map fun x => 1 + c * n x).sum ≤ c * (l.map fun x => 1 + n x).sum := by
  rw [← sum_map_mul]
  exact sum_map_le _ _ _ (fun x _ => by rw [Nat.mul_add]; omega)

theorem simpleFields_filter {fs : List SMField} (p : SMField → Bool) (h : SimpleFields fs) : SimpleFields (fs.filter p) :=
  ⟨fun f hf => h.1 f (List.mem_filter.mp hf).1, List.Nodup.sublist (List.Sublist.map _ List.filter_sublist) h.2⟩

theorem struct_sum (j : Nat) (v : Val) (fs : List SMField) (h : SimpleFields fs) :
    (fs.map (fieldW c j v)).sum ≤ ((structFields v).map fun x => 1 + c * valNodes j x).sum := by
  have hnd : (fs.map fun f => f.route.headD 0).Nodup := by
    have h2 := h.2
    rw [List.nodup_iff_pairwise_ne, List.pairwise_map] at h2 ⊢
    refine List.Pairwise.imp_of_mem ?_ h2
    intro x y hx hy hne heq
    obtain ⟨i, hi⟩ := h.1 x hx
    obtain ⟨i', hi'⟩ := h.1 y hy
    simp only [hi, hi', List.headD_cons] at heq hne
    exact hne (by rw [heq])
  have := sum_idx_le _ hnd ((structFields v).map fun x => 1 + c * valNodes j x)
  rw [List.map_map] at this
  refine Nat.le_trans (Nat.le_of_eq ?_) this
  congr 1
  apply List.map_congr_left
  intro f hf
  obtain ⟨i, hi⟩ := h.1 f hf
  simp only [fieldW, hi, traverse_single, Function.comp, List.headD_cons, List.getElem?_map]
  cases (structFields v)[i]? <;> simp

theorem struct_bound_aux (hc : 2 ≤ c) (j : Nat) (v : Val) (fields : List SMField) (p : SMField → Bool) (n : Nat)
    (hm : SimpleFields fields) (a1 : n ≤ ((fields.filter p).map (fieldW c j v)).sum) :
    n + c ≤ c * valNodes (j + 2) v := by
  have a2 := struct_sum c j v _ (simpleFields_filter p hm)
  have a3 := Nat.mul_le_mul_left c (structFields_nodes j v)
  have a4 := sum_key_le c hc (structFields v) (valNodes j)
  rw [Nat.mul_add] at a3
  omega

theorem prim_len (id : Nat) (v : Val) (toks : List Tok) (h : primTok ts id v = ⟨toks, none⟩) : toks.length = 1 := by
  obtain ⟨b, rfl, _, _⟩ := primTok_inv h
  rfl

theorem writes_bound (hc : 2 ≤ c) (hpp : NoPtrPtr ts) (hpa : PlainAtlasC c a) {k : Nat} {job : MRun.Job} {toks : List Tok}
    (h : MRun.Writes ts a trs k job toks) : Bd a c k job toks := by
  induction h with
  | @v_direct f _ _ v _ _ _ ih =>
    exact Nat.le_trans (ih (mok_pick ts hpa _)).1 (Nat.mul_le_mul_left c (valNodes_mono f v))
  | @v_nil f _ _ _ v => have := one_slack c hc (f+1) v; simp only [Bd, List.length_singleton]; omega
  | @v_deref _ id n _ _ _ _ hp hd _ ih =>
    have h1 : n = 0 := by have := peel_cases hpp id; rw [hp] at this; omega
    subst h1
    simp only [Bd, derefN_one hd, valNodes_ptr]
    exact (ih (mok_pick ts hpa _)).1
  | @prim f _ v _ h =>
    intro _
    have := one_slack c hc (f+1) v
    rw [prim_len ts _ v _ h]
    exact ⟨by omega, by simp [leavesSlack]⟩
  | wildNil | sliceNil | mapNil =>
    intro _
    suffices hs : 1 + (c - 2) ≤ c * valNodes _ _ from ⟨by simp only [List.length_singleton]; omega, fun _ => hs⟩
    exact one_slack c hc _ _
  | wild _ ih => intro _; exact ⟨by rw [valNodes_iface]; exact ih, by simp [leavesSlack]⟩
  | slice _ ih =>
    intro _
    simp only [Bd] at ih
    refine ⟨?_, by simp [leavesSlack]⟩
    rw [valNodes_slice, Nat.mul_add]
    simp only [List.length_append, List.length_cons, List.length_nil]
    omega
  | array _ ih =>
    intro _
    simp only [Bd] at ih
    refine ⟨?_, by simp [leavesSlack]⟩
    rw [valNodes_arr, Nat.mul_add]
    simp only [List.length_append, List.length_cons, List.length_nil]
    omega
  | @map f _ _ _ mode _ l kvs _ _ hkvs _ ih =>
    intro _
    simp only [Bd] at ih
    suffices hs : (⟨.mapOpen l.length, none⟩ :: (_ ++ [(⟨.mapClose, none⟩ : Tok)])).length + (c - 2)
        ≤ c * valNodes (f + 1) (.map (some l)) from ⟨by omega, fun _ => hs⟩
    have p1 : ((sortKeys mode kvs).map fun p => 1 + c * valNodes f p.2).sum
        = (kvs.map fun p => 1 + c * valNodes f p.2).sum :=
      List.Perm.sum_nat ((sortKeys_perm mode kvs).map _)
    have p3 : (kvs.map fun p => 1 + c * valNodes f p.2).sum = (l.map fun p => 1 + c * valNodes f p.2).sum := by
      have e1 : ∀ l' : List (Bytes × Val), (l'.map fun p => 1 + c * valNodes f p.2) = (l'.map (·.2)).map (fun x => 1 + c * valNodes f x) := by
        simp [List.map_map, Function.comp]
      have e2 : (l.map fun p => 1 + c * valNodes f p.2) = (l.map (·.2)).map (fun x => 1 + c * valNodes f x) := by
        simp [List.map_map, Function.comp]
      rw [e1, e2, stringify_snd hkvs]
    have p4 := sum_key_le c hc l fun p => valNodes f p.2
    rw [valNodes_map, Nat.mul_add]
    simp only [List.length_append, List.length_cons, List.length_nil]
    omega
  | @struct f _ _ fields v _ h1 ih =>
    intro hm
    suffices hs : (_ :: (_ ++ [(⟨.mapClose, none⟩ : Tok)])).length + (c - 2) ≤ c * valNodes (f + 1) v from
      ⟨by omega, fun _ => hs⟩
    obtain ⟨j, rfl⟩ := h1.fuel_pos
    have a2 : _ ≤ c * valNodes (j + 1 + 1) v := struct_bound_aux c hc j v fields _ _ hm ih
    simp only [List.length_append, List.length_cons, List.length_nil]
    omega
  | transform => intro hm; exact absurd hm (by simp [MOk])
  | @union _ _ _ _ _ _ name idx me _ hfind hme _ ih =>
    intro hm
    refine ⟨?_, by simp [leavesSlack]⟩
    have hmem : me ∈ a.pool := List.mem_of_getElem? hme
    have hc5 := hm.1
    have hnu := hm.2 (name, idx) (List.mem_of_find?_eq_some hfind) me hme
    have a1 := (ih (mok_entry ts hpa hmem)).2 (leavesSlack_entry ts hpa hmem hnu)
    rw [valNodes_iface]
    simp only [List.length_append, List.length_cons, List.length_nil]
    omega
  | listNil | entriesNil | fieldsNil => simp [Bd]
  | @listCons f _ x xs _ _ _ _ a1 a2 =>
    simp only [Bd] at a1 a2 ⊢
    have m1 := Nat.mul_le_mul_left c (valNodes_mono f x)
    have m2 := Nat.mul_le_mul_left c (sum_map_le xs (valNodes f) (valNodes (f+1)) (fun y _ => valNodes_mono f y))
    simp only [List.length_append, List.map_cons, List.sum_cons, Nat.mul_add]
    omega
  | @entriesCons f _ _ x rest _ _ _ _ a1 a2 =>
    simp only [Bd] at a1 a2 ⊢
    have m1 := Nat.mul_le_mul_left c (valNodes_mono f x)
    have m2 := sum_map_le rest (fun p => 1 + c * valNodes f p.2) (fun p => 1 + c * valNodes (f+1) p.2)
      (fun y _ => Nat.add_le_add_left (Nat.mul_le_mul_left c (valNodes_mono f y.2)) 1)
    simp only [List.length_append, List.map_cons, List.sum_cons, List.length_cons]
    omega
  | @fieldsCons f fe rest v fv _ _ hfv _ _ a1 a2 =>
    simp only [Bd] at a1 a2 ⊢
    have m2 : (rest.map (fieldW c (f - 1) v)).sum ≤ (rest.map (fieldW c f v)).sum := by
      apply sum_map_le
      intro y _
      cases f with
      | zero => exact Nat.le_refl _
      | succ f => exact fieldW_mono c f v y
    simp only [List.length_append, List.map_cons, List.sum_cons, List.length_cons, Nat.add_sub_cancel]
    have : fieldW c f v fe = 1 + c * valNodes f fv := by simp [fieldW, hfv]
    omega

end

/-- atlas hypotheses of `marshal_bound`: no transforms; every struct-map field is a direct field (route of length 1)
    and no field is listed twice; a keyed union never has a keyed union as a member -/
def PlainAtlas (a : Atlas) : Prop := PlainAtlasC 5 a

/-- atlas hypotheses of `marshal_bound_plain_fixed`: as `PlainAtlas`, and no keyed unions at all -/
def PlainAtlasNoUnion (a : Atlas) : Prop := PlainAtlasC 2 a

theorem plainAtlas_iff (a : Atlas) : PlainAtlas a ↔
    (∀ e ∈ a.pool, ∀ fn m u, e.k ≠ .transform fn m u) ∧
    (∀ e ∈ a.pool, ∀ fs, e.k = .structMap fs → SimpleFields fs) ∧
    (∀ e ∈ a.pool, ∀ ms, e.k = .union ms → ∀ p ∈ ms, ∀ me, a.pool[p.2]? = some me → ∀ ms', me.k ≠ .union ms') :=
  ⟨fun h => ⟨h.notr, h.fields, fun e he ms hk => (h.unions e he ms hk).2⟩,
   fun h => ⟨h.1, h.2.1, fun e he ms hk => ⟨rfl, h.2.2 e he ms hk⟩⟩⟩

theorem plainAtlasNoUnion_iff (a : Atlas) : PlainAtlasNoUnion a ↔
    (∀ e ∈ a.pool, ∀ fn m u, e.k ≠ .transform fn m u) ∧
    (∀ e ∈ a.pool, ∀ fs, e.k = .structMap fs → SimpleFields fs) ∧
    (∀ e ∈ a.pool, ∀ ms, e.k ≠ .union ms) :=
  ⟨fun h => ⟨h.notr, h.fields, fun e he ms hk => absurd (h.unions e he ms hk).1 (by decide)⟩,
   fun h => ⟨h.1, h.2.1, fun e he ms hk => absurd hk (h.2.2 e he ms)⟩⟩

/-- Corrected bound, keyed unions allowed: at most five tokens per node of the value.
    (The coefficient 5 is needed: `n` union-wrapped empty structs in a slice give `5 n + 2` tokens for `n + 1` nodes.) -/
theorem marshal_bound (ts : Types) (a : Atlas) (trs : Trs) (fuel id : Nat) (v : Val) (toks : List Tok)
    (hpp : NoPtrPtr ts) (hpa : PlainAtlas a)
    (h : marshalV ts a trs fuel id v = ⟨toks, none⟩) :
    toks.length ≤ 5 * valNodes fuel v :=
  writes_bound ts a trs 5 (by decide) hpp hpa (MRun.of_out (job := .v id v) h)

theorem marshal_bound_two (ts : Types) (a : Atlas) (trs : Trs) (fuel id : Nat) (v : Val) (toks : List Tok)
    (hpp : NoPtrPtr ts) (hpa : PlainAtlasNoUnion a)
    (h : marshalV ts a trs fuel id v = ⟨toks, none⟩) :
    toks.length ≤ 2 * valNodes fuel v :=
  writes_bound ts a trs 2 (Nat.le_refl 2) hpp hpa (MRun.of_out (job := .v id v) h)

/-- The bound `3 · valNodes + 2` of the property, under three hypotheses: direct, pairwise distinct struct fields; no
    keyed unions; no pointer-to-pointer types. -/
theorem marshal_bound_plain_fixed (ts : Types) (a : Atlas) (trs : Trs) (fuel id : Nat) (v : Val) (toks : List Tok)
    (hpp : NoPtrPtr ts) (hpa : PlainAtlasNoUnion a)
    (h : marshalV ts a trs fuel id v = ⟨toks, none⟩) :
    toks.length ≤ 3 * valNodes fuel v + 2 := by
  have := marshal_bound_two ts a trs fuel id v toks hpp hpa h
  omega

section
variable (ts : Types) (a : Atlas) (trs : Trs)

theorem out_succ (n : Nat) : ∀ job : MRun.Job, (job.out ts a trs n).fail ≠ some .panic → job.out ts a trs (n+1) = job.out ts a trs n := by
  induction n with
  | zero =>
    intro job h
    exact absurd (by rw [MRun.Job.out_zero]; rfl) h
  | succ n ih =>
    have hv : ∀ id v, (marshalV ts a trs n id v).fail ≠ some .panic → marshalV ts a trs (n+1) id v = marshalV ts a trs n id v :=
      fun id v => ih (.v id v)
    have hb : ∀ id m v, (marshalBare ts a trs n id m v).fail ≠ some .panic →
        marshalBare ts a trs (n+1) id m v = marshalBare ts a trs n id m v := fun id m v => ih (.bare id m v)
    intro job hnp
    cases job with
    | v id v =>
      simp only [MRun.Job.out, MachL.marshalV_succ] at hnp ⊢
      by_cases h0 : (peel ts 64 0 id).1 = 0
      · rw [if_pos h0] at hnp
        rw [if_pos h0, if_pos h0]
        exact hb _ _ _ hnp
      · rw [if_neg h0] at hnp
        rw [if_neg h0, if_neg h0]
        cases hin : derefN (peel ts 64 0 id).1 v with
        | none => rfl
        | some inner => rw [hin] at hnp; exact hb _ _ _ hnp
    | list e es =>
      simp only [MRun.Job.out] at hnp ⊢
      cases es with
      | nil => rw [MachL.marshalList_nil, MachL.marshalList_nil]
      | cons x xs =>
        rw [MachL.marshalList_cons] at hnp
        rw [MachL.marshalList_cons, MachL.marshalList_cons]
        exact seq_congr_np hnp (hv _ _) (ih (.list e xs))
    | entries e es =>
      simp only [MRun.Job.out] at hnp ⊢
      cases es with
      | nil => rw [MachL.marshalEntries_nil, MachL.marshalEntries_nil]
      | cons kx xs =>
        rw [MachL.marshalEntries_cons] at hnp
        rw [MachL.marshalEntries_cons, MachL.marshalEntries_cons]
        exact ok_seq_seq_congr_np hnp (hv _ _) (ih (.entries e xs))
    | fields fs v =>
      simp only [MRun.Job.out] at hnp ⊢
      cases fs with
      | nil => rw [MachL.marshalFields_nil, MachL.marshalFields_nil]
      | cons f rest =>
        rw [MachL.marshalFields_cons] at hnp
        rw [MachL.marshalFields_cons, MachL.marshalFields_cons]
        split at hnp
        · rfl
        · exact ok_seq_seq_congr_np hnp (hv _ _) (ih (.fields rest v))
    | bare id m v =>
      simp only [MRun.Job.out] at hnp ⊢
      cases m with
      | prim => rw [MachL.marshalBare_prim, MachL.marshalBare_prim]
      | errThunk => rw [MachL.marshalBare_errThunk, MachL.marshalBare_errThunk]
      | panic => rw [MachL.marshalBare_panic, MachL.marshalBare_panic]
      | wildcard =>
        rw [MachL.marshalBare_wild] at hnp; rw [MachL.marshalBare_wild, MachL.marshalBare_wild]
        split at hnp
        · rfl
        · exact hv _ _ hnp
        · exact absurd rfl hnp
      | slice e =>
        rw [MachL.marshalBare_slice] at hnp; rw [MachL.marshalBare_slice, MachL.marshalBare_slice]
        split at hnp
        · rfl
        · exact bracket_congr_np hnp (ih (.list _ _))
        · exact absurd rfl hnp
      | array e =>
        rw [MachL.marshalBare_array] at hnp; rw [MachL.marshalBare_array, MachL.marshalBare_array]
        split at hnp
        · exact bracket_congr_np hnp (ih (.list _ _))
        · exact absurd rfl hnp
      | map kt vt mode =>
        rw [MachL.marshalBare_map] at hnp; rw [MachL.marshalBare_map, MachL.marshalBare_map]
        split at hnp
        · rfl
        · next kf es h1 =>
          split at hnp
          · rfl
          · next kvs h2 =>
            split at hnp
            · next h3 => simp only [if_pos h3]
            · next h3 =>
              simp only [if_neg h3]
              exact bracket_congr_np hnp (ih (.entries _ _))
        · exact absurd rfl hnp
      | structMap e fields =>
        rw [MachL.marshalBare_struct] at hnp; rw [MachL.marshalBare_struct, MachL.marshalBare_struct]
        exact bracket_congr_np hnp (ih (.fields _ _))
      | transform e fn mty =>
        rw [MachL.marshalBare_transform] at hnp; rw [MachL.marshalBare_transform, MachL.marshalBare_transform]
        split at hnp
        · rfl
        · next tv h1 =>
          rw [retagFirst_fail] at hnp
          rw [hv _ _ hnp]
      | union e members =>
        rw [MachL.marshalBare_union_out] at hnp; rw [MachL.marshalBare_union_out, MachL.marshalBare_union_out]
        split at hnp
        · rfl
        · split at hnp
          · rfl
          · split at hnp
            · rfl
            · exact MachL.unionOut_congr_np hnp (hb _ _ _)
        · exact absurd rfl hnp
end

theorem out_mono_le (ts : Types) (a : Atlas) (trs : Trs) (job : MRun.Job) {f f' : Nat}
    (hp : (job.out ts a trs f).fail ≠ some .panic) (hle : f ≤ f') : job.out ts a trs f' = job.out ts a trs f := by
  induction hle with
  | refl => rfl
  | step _ ih => rw [← ih]; exact out_succ ts a trs _ job (by rw [ih]; exact hp)

theorem marshal_fuel_mono (ts : Types) (a : Atlas) (trs : Trs) (fuel id : Nat) (v : Val) (o : MOut)
    (h : marshalV ts a trs fuel id v = o) (hp : o.fail ≠ some .panic) :
    marshalV ts a trs (fuel + 1) id v = o := by
  subst h
  exact out_succ ts a trs fuel (.v id v) hp

theorem marshal_fuel_mono_le (ts : Types) (a : Atlas) (trs : Trs) (fuel fuel' id : Nat) (v : Val) (o : MOut)
    (h : marshalV ts a trs fuel id v = o) (hp : o.fail ≠ some .panic) (hle : fuel ≤ fuel') :
    marshalV ts a trs fuel' id v = o := by
  subst h
  exact out_mono_le ts a trs (.v id v) hp hle

theorem struct_count_matches_walk_strong (ts : Types) (a : Atlas) (trs : Trs) (fuel id : Nat) (e : Entry) (fields : List SMField)
    (v : Val) (toks : List Tok) (h : marshalBare ts a trs fuel id (.structMap e fields) v = ⟨toks, none⟩) :
    ∃ es : List (TV × TV),
      es.length = (fields.filter fun f =>
          !f.ignore && (match traverse f.route v with
                        | none => false
                        | some fv => !(f.omitEmpty && isEmpty 1000 fv))).length ∧
      toks = (TV.map e.tag (es.length : Nat) es).flatten ∧ GoodE es := by
  cases MRun.of_out (job := .bare id (.structMap e fields) v) h with
  | struct h1 =>
    obtain ⟨es, rfl, hlen, g⟩ := writes_wf h1
    exact ⟨es, hlen, by rw [← hlen]; simp [TV.flatten], g⟩

theorem struct_count_matches_walk (ts : Types) (a : Atlas) (trs : Trs) (fuel id : Nat) (e : Entry) (fields : List SMField)
    (v : Val) (toks : List Tok) (h : marshalBare ts a trs fuel id (.structMap e fields) v = ⟨toks, none⟩) :
    ∃ n es, toks = ⟨.mapOpen (n : Nat), e.tag⟩ :: es ∧
      ∃ tv : TV, toks = tv.flatten ∧ tv.lengthsOk = true := by
  obtain ⟨es, _, rfl, g⟩ := struct_count_matches_walk_strong ts a trs fuel id e fields v toks h
  exact ⟨es.length, _, by simp only [TV.flatten]; rfl, _, rfl, (good_map g).1⟩

end Refmt.C07
