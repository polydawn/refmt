/-
  C10, composed with the round-trip theorems: the transcoded document DENOTES the same value.
  `C10.c2j_accepts` / `j2c_pump` say the pump succeeds and what it writes; C03 / C02 say what those bytes
  decode to.  `common` is enough: `C03.JWF v` needs the leaves inside the wire ranges (integers, float bit
  patterns below 2^64, strings made of bytes), and `Spec.Cbor.parse` on bytes guarantees that
  (`CborLeaves.parse_LB`).  Strings need not be valid UTF-8: the JSON text then decodes to the `toValidUtf8`
  image, which is what `retypeTok` says.
-/
import RefmtModel
import RefmtProofs.Props.C10
import RefmtProofs.Props.C03Float
import RefmtProofs.Props.C03Sem
import RefmtProofs.Lemmas.ParsedJWF
namespace Refmt.C10Value
open Refmt

theorem c2j_out (c : JsonEnc.Cfg) (bs : Bytes) (v : TV) (rest : Bytes) (hb : ∀ x ∈ bs, x < 256)
    (hp : Spec.Cbor.parse false bs = some (v, rest)) (hc : C10.common v = true) :
    let r := Pump.run (Pump.cborSrc false) (JsonEnc.step c FloatText.jsonFloat) (2 * bs.length + 4) CborDec.init
      (Rd.ofBytes bs) JsonEnc.init []
    r.ok = true ∧ r.rd.data = rest ∧ r.out.flatten = C03.out c v := by
  intro r
  obtain ⟨g1, g2, g3⟩ := C10.c2j_accepts c FloatText.jsonFloat bs v rest hb hp hc
  exact ⟨g1, g2, congrArg List.flatten g3⟩

theorem c2j_denotes (c : JsonEnc.Cfg) (bs : Bytes) (v : TV) (rest : Bytes) (hb : ∀ x ∈ bs, x < 256)
    (hp : Spec.Cbor.parse false bs = some (v, rest)) (hc : C10.common v = true) (hcfg : C03.cfgOk c = true) :
    let r := Pump.run (Pump.cborSrc false) (JsonEnc.step c FloatText.jsonFloat) (2 * bs.length + 4) CborDec.init
      (Rd.ofBytes bs) JsonEnc.init []
    let o := JsonDec.decode (Rd.ofBytes r.out.flatten)
    r.ok = true ∧ r.rd.data = rest ∧ o.res = .ok () ∧ o.toks = v.flatten.map Spec.Json.retypeTok := by
  intro r o
  obtain ⟨g1, g2, g3⟩ := c2j_out c bs v rest hb hp hc
  have hj := CborLeaves.parse_common_JWF false bs v rest hb hp hc
  obtain ⟨r1, r2⟩ := C03Float.roundtrip c v hj hcfg
  have ho : o = JsonDec.decode (Rd.ofBytes (C03.out c v)) := congrArg (fun x => JsonDec.decode (Rd.ofBytes x)) g3
  exact ⟨g1, g2, ho ▸ r2, ho ▸ r1⟩

theorem c2j_denotes_ref (c : JsonEnc.Cfg) (bs : Bytes) (v : TV) (rest : Bytes) (hb : ∀ x ∈ bs, x < 256)
    (hp : Spec.Cbor.parse false bs = some (v, rest)) (hc : C10.common v = true) (hcfg : C03.cfgOk c = true) :
    let r := Pump.run (Pump.cborSrc false) (JsonEnc.step c FloatText.jsonFloat) (2 * bs.length + 4) CborDec.init
      (Rd.ofBytes bs) JsonEnc.init []
    (Spec.Json.parse r.out.flatten).map (fun p => (p.1.flatten, p.2)) =
      some (v.flatten.map Spec.Json.retypeTok, C03.trailer c v) := by
  intro r
  obtain ⟨_, _, g3⟩ := c2j_out c bs v rest hb hp hc
  have hj := CborLeaves.parse_common_JWF false bs v rest hb hp hc
  rw [g3]
  exact C03Float.enc_valid c v hj hcfg

mutual
  theorem jwf_memV : ∀ (v : TV), C03.JWF v = true → ∀ t ∈ v.flatten, t.body.isScalar = true → C03.jsonScalarOk t = true
    | .scalar t, h, t', ht, _ => by
      simp only [TV.flatten, List.mem_singleton] at ht
      subst ht
      simpa [C03.JWF] using h
    | .arr tag len items, h, t, ht, hs => by
      simp only [TV.flatten, List.mem_cons, List.mem_append, List.not_mem_nil, or_false] at ht
      rcases ht with rfl | ht | rfl
      · simp [Body.isScalar] at hs
      · exact jwf_memL items (by simpa [C03.JWF] using h) t ht hs
      · simp [Body.isScalar] at hs
    | .map tag len es, h, t, ht, hs => by
      simp only [TV.flatten, List.mem_cons, List.mem_append, List.not_mem_nil, or_false] at ht
      rcases ht with rfl | ht | rfl
      · simp [Body.isScalar] at hs
      · exact jwf_memE es (by simpa [C03.JWF] using h) t ht hs
      · simp [Body.isScalar] at hs
  theorem jwf_memL : ∀ (vs : List TV), C03.JWFl vs = true → ∀ t ∈ TV.flattenList vs, t.body.isScalar = true →
      C03.jsonScalarOk t = true
    | [], _, t, ht, _ => by simp [TV.flattenList] at ht
    | v :: vs, h, t, ht, hs => by
      simp only [C03.JWFl, Bool.and_eq_true] at h
      simp only [TV.flattenList, List.mem_append] at ht
      rcases ht with ht | ht
      · exact jwf_memV v h.1 t ht hs
      · exact jwf_memL vs h.2 t ht hs
  theorem jwf_memE : ∀ (es : List (TV × TV)), C03.JWFe es = true → ∀ t ∈ TV.flattenEntries es,
      t.body.isScalar = true → C03.jsonScalarOk t = true
    | [], _, t, ht, _ => by simp [TV.flattenEntries] at ht
    | (k, v) :: es, h, t, ht, hs => by
      simp only [C03.JWFe, Bool.and_eq_true] at h
      obtain ⟨⟨hk, hv⟩, hes⟩ := h
      simp only [TV.flattenEntries, List.mem_append] at ht
      rcases ht with ht | ht | ht
      · obtain ⟨s, tag, rfl⟩ := C03L.key_form hk
        simp only [TV.flatten, List.mem_singleton] at ht
        subst ht
        simpa [C03.jsonScalarOk] using hk
      · exact jwf_memV v hv t ht hs
      · exact jwf_memE es hes t ht hs
end

section leaves
variable (bs : Bytes) (v : TV) (rest : Bytes) (hb : ∀ x ∈ bs, x < 256)
  (hp : Spec.Cbor.parse false bs = some (v, rest)) (hc : C10.common v = true)
include hb hp hc

theorem c2j_float_leaf (t : Tok) (ht : t ∈ v.flatten) (x : Nat) (hx : t.body = .float x) :
    C03Sem.ReadsAs x (Spec.Json.retypeTok t).body := by
  have hj := CborLeaves.parse_common_JWF false bs v rest hb hp hc
  have hs := jwf_memV v hj t ht (by rw [hx]; rfl)
  simp only [C03.jsonScalarOk, hx, Bool.and_eq_true, decide_eq_true_eq, Bool.not_eq_true'] at hs
  obtain ⟨h1, h2⟩ := hs
  simp only [Spec.Json.retypeTok, hx]
  rcases C03Sem.numTok_jsonFloat_kinds x h1 h2 with h | ⟨i, h, hi⟩
  · rw [h]; exact rfl
  · rw [h]; exact hi

end leaves

theorem c2j_uint_leaf (t : Tok) (n : Nat) (hx : t.body = .uint n) :
    (Spec.Json.retypeTok t).body = (if n < two63 then .int (n : Int) else .uint n) := by
  simp only [Spec.Json.retypeTok, hx]

theorem c2j_str_leaf (t : Tok) (s : Bytes) (hx : t.body = .str s) :
    (Spec.Json.retypeTok t).body = .str (toValidUtf8 s) ∧
    (toValidUtf8 s = s → (Spec.Json.retypeTok t).body = .str s) := by
  refine ⟨by simp only [Spec.Json.retypeTok, hx], fun h => ?_⟩
  simp only [Spec.Json.retypeTok, hx, h]

theorem c2j_other_leaf (t : Tok)
    (hx : t.body = .null ∨ (∃ b, t.body = .bool b) ∨ (∃ i, t.body = .int i)) :
    (Spec.Json.retypeTok t).body = t.body := by
  rcases hx with hx | ⟨b, hx⟩ | ⟨i, hx⟩ <;> simp only [Spec.Json.retypeTok, hx]

def OpenOk (t : Tok) : Prop := ∀ l, (t.body = .arrOpen l ∨ t.body = .mapOpen l) → -1 ≤ l

theorem jt_len_all : (∀ v, PumpL.JT v = true → ∀ t ∈ v.flatten, OpenOk t) ∧
    (∀ vs, PumpL.JTl vs = true → ∀ t ∈ TV.flattenList vs, OpenOk t) ∧
    (∀ es, PumpL.JTe es = true → ∀ t ∈ TV.flattenEntries es, OpenOk t) := by
  have indef : ∀ b, (b = Body.arrOpen (-1) ∨ b = Body.mapOpen (-1)) → OpenOk ⟨b, none⟩ := by
    intro b hb l hl
    rcases hb with rfl | rfl <;> rcases hl with hl | hl <;> cases hl <;> exact Int.le_refl _
  have other : ∀ b, (b = Body.arrClose ∨ b = Body.mapClose ∨ ∃ s, b = Body.str s) → OpenOk ⟨b, none⟩ := by
    intro b hb l hl
    rcases hb with rfl | rfl | ⟨s, rfl⟩ <;> rcases hl with hl | hl <;> cases hl
  refine PumpL.JT_induct ?_ ?_ ?_ ?_ ?_ ?_ ?_
  · intro body hb
    refine List.forall_mem_singleton.mpr fun l hl => ?_
    rcases hl with hl | hl <;> rw [show body = _ from hl] at hb <;> cases hb
  · intro items hi
    exact List.forall_mem_cons.mpr ⟨indef _ (.inl rfl), List.forall_mem_append.mpr
      ⟨hi, List.forall_mem_singleton.mpr (other _ (.inl rfl))⟩⟩
  · intro es he
    exact List.forall_mem_cons.mpr ⟨indef _ (.inr rfl), List.forall_mem_append.mpr
      ⟨he, List.forall_mem_singleton.mpr (other _ (.inr (.inl rfl)))⟩⟩
  · intro t ht
    cases ht
  · intro v vs hv hvs
    exact List.forall_mem_append.mpr ⟨hv, hvs⟩
  · intro t ht
    cases ht
  · intro s v es _ hv hes
    exact List.forall_mem_append.mpr ⟨List.forall_mem_singleton.mpr (other _ (.inr (.inr ⟨s, rfl⟩))),
      List.forall_mem_append.mpr ⟨hv, hes⟩⟩

theorem jt_lenV : ∀ (v : TV), PumpL.JT v = true → ∀ t ∈ v.flatten, ∀ l,
      (t.body = .arrOpen l ∨ t.body = .mapOpen l) → -1 ≤ l := jt_len_all.1

theorem jt_lenL : ∀ (vs : List TV), PumpL.JTl vs = true → ∀ t ∈ TV.flattenList vs, ∀ l,
      (t.body = .arrOpen l ∨ t.body = .mapOpen l) → -1 ≤ l := jt_len_all.2.1

theorem jt_lenE : ∀ (es : List (TV × TV)), PumpL.JTe es = true → ∀ t ∈ TV.flattenEntries es, ∀ l,
      (t.body = .arrOpen l ∨ t.body = .mapOpen l) → -1 ≤ l := jt_len_all.2.2

theorem j2c_denotes (bs : Bytes) (v : TV) (rest : Bytes) (hb : ∀ x ∈ bs, x < 256)
    (hp : Spec.Json.parse bs = some (v, rest))
    (hbig : ∀ t ∈ v.flatten, ∀ s, t.body = .str s → s.length ≤ 33554432) :
    let r := Pump.run Pump.jsonSrc CborEnc.step (2 * bs.length + 4) JsonDec.init (Rd.ofBytes bs) CborEnc.init []
    let o := CborDec.decode false (Rd.ofBytes r.out.flatten)
    r.ok = true ∧ r.rd.data = rest ∧ o.res = .ok () ∧ o.rd.data = [] ∧
    o.toks = v.flatten.map C02.normTok ∧ o.toks = v.flatten.map C02.canonTok := by
  intro r o
  obtain ⟨g1, g2, g3⟩ := C10.j2c_pump bs v rest hb hp
  have hj := PumpL.parse_JT bs v rest hb hp
  have hrt := C02.roundtrip_norm v [] (PumpL.wfV v hj) (PumpL.supV v hj hbig)
  simp only [List.append_nil] at hrt
  obtain ⟨r1, r2, r3⟩ := hrt
  have ho : o = CborDec.decode false (Rd.ofBytes (Spec.Cbor.enc v)) :=
    congrArg (fun x => CborDec.decode false (Rd.ofBytes x)) g2
  rw [ho]
  exact ⟨g1, g3, r2, r3, r1, r1.trans (List.map_congr_left fun t ht => C02.normTok_eq_canonTok t (jt_lenV v hj t ht))⟩

-- CBOR `{"a": [1, 1.5]}` = a1 61 61 82 01 f9 3e 00 (half-precision 1.5)
example : Spec.Cbor.parse false [0xa1, 0x61, 0x61, 0x82, 0x01, 0xf9, 0x3e, 0x00] =
    some (.map none 1 [(.scalar ⟨.str [0x61], none⟩,
      .arr none 2 [.scalar ⟨.uint 1, none⟩, .scalar ⟨.float 0x3ff8000000000000, none⟩])], []) := rfl
example : C10.common (.map none 1 [(.scalar ⟨.str [0x61], none⟩,
      .arr none 2 [.scalar ⟨.uint 1, none⟩, .scalar ⟨.float 0x3ff8000000000000, none⟩])]) = true := by decide
example :
    let r := Pump.run (Pump.cborSrc false) (JsonEnc.step ⟨none, []⟩ FloatText.jsonFloat)
      (2 * [0xa1, 0x61, 0x61, 0x82, 0x01, 0xf9, 0x3e, 0x00].length + 4) CborDec.init
      (Rd.ofBytes [0xa1, 0x61, 0x61, 0x82, 0x01, 0xf9, 0x3e, 0x00]) JsonEnc.init []
    (JsonDec.decode (Rd.ofBytes r.out.flatten)).res = .ok () :=
  (c2j_denotes ⟨none, []⟩ [0xa1, 0x61, 0x61, 0x82, 0x01, 0xf9, 0x3e, 0x00] _ [] (by decide) rfl (by decide)
    (by decide)).2.2.1

-- JSON `[1,"a"]` → CBOR
example : Spec.Json.parse [91, 49, 44, 34, 97, 34, 93] =
    some (.arr none (-1) [.scalar ⟨.int 1, none⟩, .scalar ⟨.str [97], none⟩], []) := rfl
example :
    let r := Pump.run Pump.jsonSrc CborEnc.step (2 * [91, 49, 44, 34, 97, 34, 93].length + 4) JsonDec.init
      (Rd.ofBytes [91, 49, 44, 34, 97, 34, 93]) CborEnc.init []
    (CborDec.decode false (Rd.ofBytes r.out.flatten)).toks =
      [⟨.arrOpen (-1), none⟩, ⟨.uint 1, none⟩, ⟨.str [97], none⟩, ⟨.arrClose, none⟩] :=
  (j2c_denotes [91, 49, 44, 34, 97, 34, 93] (.arr none (-1) [.scalar ⟨.int 1, none⟩, .scalar ⟨.str [97], none⟩]) []
    (by decide) rfl
    (by intro t ht s hs
        simp [TV.flatten, TV.flattenList] at ht
        rcases ht with rfl | rfl | rfl | rfl <;> simp at hs
        subst hs; decide)).2.2.2.2.2

end Refmt.C10Value
