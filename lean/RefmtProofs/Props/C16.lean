/-
  C16 — I/O failures are reported, never swallowed.
  Writers: the k-th `Write` call returns an error, a short count, or both (fail-once or fail-stop).  Both encoder
  models keep the first failure sticky and return it from `Step` (`Ret.ck`); the run below is what the token
  pump does (stop at the first error).  The only nil-error return (`Ret.plain`) of the CBOR encoder model is the
  definite-length close, which writes nothing; the JSON encoder model has none (`C16L.cbor_honest`,
  `C16L.json_honest`).
  Readers: the abstract cursor carries an injected fault `(k, stop)`: a distinguished error after `k` delivered
  bytes, once or forever.  The faulted reader is the fault-free one under `C16R.inj M stop` (the fault fires when
  `M` bytes of data are left).  Of the hypotheses of the read-fault statements only `hk` is needed: a fault-free
  decode that reads past the fault position, whatever it returns, reports the fault when it is there
  (`C16R.Cbor.decode_fault_reported`, `C16R.Json.decode_fault_reported`).
-/
import RefmtModel
import RefmtProofs.Props.C02
import RefmtProofs.Props.C14
import RefmtProofs.Lemmas.PumpL
import RefmtProofs.Lemmas.WFaults
import RefmtProofs.Lemmas.RecTree
import RefmtProofs.Lemmas.RFaultsCbor
import RefmtProofs.Lemmas.RFaultsJson
namespace Refmt.C16
open Refmt

/-! ### JSON document domain: the text of `C03.JWF`, written again because this module does not import Props/C03;
    that the two agree is `CborLeaves.jwf_eqV` (Lemmas/ParsedJWF.lean) -/

def jsonScalarOk (t : Tok) : Bool :=
  match t.body with
  | .uint n => n < two64
  | .int i => - (two63 : Int) ≤ i && i < (two63 : Int)
  | .float b => b < two64 && !floatNonFinite b
  | .str s => s.all (· < 256)
  | .null => true
  | .bool _ => true
  | _ => false

mutual
  def JWF : TV → Bool
    | .scalar t => jsonScalarOk t
    | .arr _ _ items => JWFl items
    | .map _ _ es => JWFe es
  def JWFl : List TV → Bool
    | [] => true
    | v :: vs => JWF v && JWFl vs
  def JWFe : List (TV × TV) → Bool
    | [] => true
    | (k, v) :: es =>
      (match k with | .scalar t => (match t.body with | .str s => s.all (· < 256) | _ => false) | _ => false) &&
      JWF v && JWFe es
end

/-- the fault is observable: not a "short count" on an empty buffer -/
def effective (f : WFault) (allWrites : List Bytes) : Prop :=
  f.mode ≠ .short ∨ allWrites.getD f.k [] ≠ []

theorem no_fault_same {σ : Type} (step : σ → Tok → EncOut σ) (s : σ) (w : WSt) (hw : w.failed = false) (ts : List Tok) :
    (runFaulty step none s w ts).1 = runFlags step s ts :=
  C16L.no_fault_same step ts s w hw

theorem effective_hits (f : WFault) (all : List Bytes) (h : effective f all) :
    f.hits f.k (all.getD f.k []) = true := by
  unfold WFault.hits
  rcases h with h | h
  · cases hm : f.mode <;> simp_all
  · generalize all.getD f.k [] = x at h ⊢
    cases x with
    | nil => exact absurd rfl h
    | cons _ _ => cases hm : f.mode <;> simp

theorem write_fault {σ : Type} (step : σ → Tok → EncOut σ) (hH : C16L.Honest step) (s0 : σ) (ts : List Tok)
    (hfl : C16L.FlagsOk (runOut step s0 ts).1) (f : WFault) (hk : f.k < (runOut step s0 ts).2.length)
    (heff : effective f (runOut step s0 ts).2) :
    (runFaulty step (some f) s0 {} ts).1.getLast? = some Flag.err :=
  C16L.fault_reported step f hH ts s0 {} rfl (Nat.zero_le _) (by simpa using hk)
    (by simpa using effective_hits f _ heff) hfl

theorem cbor_write_fault (v : TV) (h : C02.WFv v = true) (f : WFault)
    (hk : f.k < (runOut CborEnc.step CborEnc.init v.flatten).2.length)
    (heff : effective f (runOut CborEnc.step CborEnc.init v.flatten).2) :
    (runFaulty CborEnc.step (some f) CborEnc.init {} v.flatten).1.getLast? = some Flag.err := by
  refine write_fault _ C16L.cbor_honest _ _ ?_ f hk heff
  rw [(C02.enc_eq_spec v h).1]
  exact C16L.flagsOk_replicate C16L.flagsOk_done _

theorem jwf_fam : RecTree.Fam .json (JWF · = true) (JWFl · = true) (JWFe · = true) where
  scalar := by
    intro t h
    simp only [JWF, jsonScalarOk] at h
    cases hb : t.body <;> simp [hb] at h <;> simp [Body.isScalar, valOk, h]
  arr := by intro tag len items h; simpa [JWF] using h
  map := by intro tag len es h; simpa [JWF] using h
  cons := by intro v vs h; simpa [JWFl] using h
  entry := by
    intro k v es h
    simp only [JWFe, Bool.and_eq_true] at h
    obtain ⟨⟨hk, hv⟩, hes⟩ := h
    refine ⟨?_, hv, hes⟩
    cases k with
    | scalar t =>
      exact ⟨t, rfl, RecTree.keyOk_json_of hk⟩
    | arr _ _ _ => simp at hk
    | map _ _ _ => simp at hk

open C16L in
theorem recL : ∀ (vs : List TV), JWFl vs = true → ∀ (stk : List Frame) (rest : List Tok),
      FlagsOk (recFlags .json (.arr :: stk) rest) →
      FlagsOk (recFlags .json (.arr :: stk) (TV.flattenList vs ++ rest)) := by
  intro vs h stk rest hr
  rw [RecTree.recFlags_cont .json _ (jwf_fam.items vs h stk) rest]
  exact flagsOk_replicate hr _

open C16L in
theorem recE : ∀ (es : List (TV × TV)), JWFe es = true → ∀ (stk : List Frame) (rest : List Tok),
      FlagsOk (recFlags .json (.mapKey :: stk) rest) →
      FlagsOk (recFlags .json (.mapKey :: stk) (TV.flattenEntries es ++ rest)) := by
  intro es h stk rest hr
  rw [RecTree.recFlags_cont .json _ (jwf_fam.entries es h stk) rest]
  exact flagsOk_replicate hr _

theorem json_flags_ok (c : JsonEnc.Cfg) (ff : Nat → Bytes) (v : TV) (h : JWF v = true) :
    C16L.FlagsOk (runOut (JsonEnc.step c ff) JsonEnc.init v.flatten).1 := by
  rw [PumpL.runOut_fst, C14.json_accepts_exactly, jwf_fam.top v h]
  exact C16L.flagsOk_replicate C16L.flagsOk_done _

theorem json_write_fault (c : JsonEnc.Cfg) (ff : Nat → Bytes) (v : TV) (h : JWF v = true) (f : WFault)
    (hk : f.k < (runOut (JsonEnc.step c ff) JsonEnc.init v.flatten).2.length)
    (heff : effective f (runOut (JsonEnc.step c ff) JsonEnc.init v.flatten).2) :
    (runFaulty (JsonEnc.step c ff) (some f) JsonEnc.init {} v.flatten).1.getLast? = some Flag.err :=
  write_fault _ (C16L.json_honest c ff) _ _ (json_flags_ok c ff v h) f hk heff

-- `hb` and `h0` are not needed, here and in `json_read_fault`
set_option linter.unusedVariables false in
theorem cbor_read_fault (coerce : Bool) (bs : Bytes) (k : Nat) (stop : Bool) (hb : ∀ x ∈ bs, x < 256)
    (h0 : (CborDec.decode coerce (Rd.ofBytes bs)).res = .ok ())
    (hk : k < bs.length - (CborDec.decode coerce (Rd.ofBytes bs)).rd.data.length) :
    (CborDec.decode coerce ⟨bs, some (k, stop), 0⟩).res = .error .injected :=
  C16R.Cbor.decode_fault_reported coerce bs k stop hk

set_option linter.unusedVariables false in
theorem json_read_fault (bs : Bytes) (k : Nat) (stop : Bool) (hb : ∀ x ∈ bs, x < 256)
    (h0 : (JsonDec.decode (Rd.ofBytes bs)).res = .ok ())
    (hk : k < bs.length - (JsonDec.decode (Rd.ofBytes bs)).rd.data.length) :
    (JsonDec.decode ⟨bs, some (k, stop), 0⟩).res = .error .injected :=
  C16R.Json.decode_fault_reported bs k stop hk

example : (runFaulty CborEnc.step (some ⟨1, .short, false⟩) CborEnc.init {} [⟨.uint 500, none⟩]).1 = [Flag.err] := by decide

/-- evaluate the CBOR decoder model on closed input (`acceptValue` does not reduce by `decide`) -/
local macro "cbor_eval" : tactic =>
  `(tactic| simp [CborDec.decode, CborDec.run, CborDec.step, CborDec.subStep, CborDec.withMajor, CborDec.acceptValue,
    Rd.read1, Rd.readN, Rd.ofBytes, Rd.afterFault, CborDec.init, CborDec.inContainer, CborDec.scalarOut,
    CborDec.decUint, CborDec.decLen, CborDec.decString, CborDec.push, CborDec.maxInt, CborDec.cap32M,
    CborEnc.sigNil, CborEnc.sigUndef, CborEnc.sigFalse, CborEnc.sigTrue, CborEnc.sigF16, CborEnc.sigF32,
    CborEnc.sigF64, CborEnc.sigIndefBytes, CborEnc.sigIndefStr, CborEnc.sigIndefArr, CborEnc.sigIndefMap,
    CborEnc.majNeg, CborEnc.majBytes, CborEnc.majStr, CborEnc.majArr, CborEnc.majMap, CborEnc.majTag,
    CborEnc.sigBreak])

-- CBOR `[42, "a"]` followed by one more byte: five bytes are read, one is left
example : (CborDec.decode false (Rd.ofBytes [0x82, 0x18, 0x2a, 0x61, 0x61, 0x00])).res = .ok () ∧
    (CborDec.decode false (Rd.ofBytes [0x82, 0x18, 0x2a, 0x61, 0x61, 0x00])).rd.data.length = 1 := by cbor_eval
-- a fault before the last byte of the item is reported (as `cbor_read_fault` says) ...
example : (CborDec.decode false ⟨[0x82, 0x18, 0x2a, 0x61, 0x61, 0x00], some (4, false), 0⟩).res = .error .injected := by
  cbor_eval
-- ... a fault right after the item is never reached
example : (CborDec.decode false ⟨[0x82, 0x18, 0x2a, 0x61, 0x61, 0x00], some (5, true), 0⟩).res = .ok () := by
  cbor_eval

-- JSON `[12 ,"a"] x`: nine bytes are read, two are left
example : (JsonDec.decode (Rd.ofBytes [91, 49, 50, 32, 44, 34, 97, 34, 93, 32, 120])).res = .ok () ∧
    (JsonDec.decode (Rd.ofBytes [91, 49, 50, 32, 44, 34, 97, 34, 93, 32, 120])).rd.data.length = 2 := ⟨rfl, rfl⟩
example : (JsonDec.decode ⟨[91, 49, 50, 32, 44, 34, 97, 34, 93, 32, 120], some (8, false), 0⟩).res =
    .error .injected := rfl
-- top-level number followed by a space: the look-ahead byte is pushed back, so it is not counted as
-- read (`rd.data.length = 1`) and the theorem claims offsets 0 and 1 only; the model also reports a
-- fault that hits the look-ahead read itself (offset 2), which the theorem does not need
example : (JsonDec.decode (Rd.ofBytes [49, 50, 32])).res = .ok () ∧
    (JsonDec.decode (Rd.ofBytes [49, 50, 32])).rd.data.length = 1 := ⟨rfl, rfl⟩
example : (JsonDec.decode ⟨[49, 50, 32], some (1, true), 0⟩).res = .error .injected := rfl
example : (JsonDec.decode ⟨[49, 50, 32], some (2, true), 0⟩).res = .error .injected := rfl
end Refmt.C16
