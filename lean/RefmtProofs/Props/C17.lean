/-
  C17 — reused marshallers / unmarshallers equal fresh ones; items frame cleanly.

  `frame_cbor` needs the whole reader record after each item (`cbor_one_item`: no fault, no push-back; the
  decoder run on the encoding of a tree leaves `Rd.ofBytes rest`, `C04.EncRuns.decode`);
  `frame_json` is the instance `w = []`, `pb = 0` of `frame_json_gen`, where the reader in front of item
  i+1 holds the trailing `Line` and newline of item i as leading whitespace and, after a number, the
  look-ahead byte in push-back (`C03L.decTop_ws`, Lemmas/JsonParseL.lean).
-/
import RefmtModel
import RefmtProofs.Props.C02
import RefmtProofs.Props.C03
import RefmtProofs.Lemmas.JsonParseL
namespace Refmt.C17
open Refmt

theorem reset_is_fresh (s1 : CborEnc.St) (s2 : JsonEnc.St) (s3 : CborDec.St) (s4 : JsonDec.St) (s5 : Pretty.St) :
    CborEnc.reset s1 = CborEnc.init ∧ JsonEnc.reset s2 = JsonEnc.init ∧
    CborDec.reset s3 = CborDec.init ∧ JsonDec.reset s4 = JsonDec.init ∧ Pretty.reset s5 = Pretty.init :=
  ⟨rfl, rfl, rfl, rfl, rfl⟩

def readItems (coerce : Bool) : Nat → Rd → List (List Tok) → Option (List (List Tok) × Rd)
  | 0, rd, acc => some (acc.reverse, rd)
  | n+1, rd, acc =>
    let o := CborDec.run coerce (2 * rd.data.length + 2) CborDec.init rd [] 0 0
    match o.res with
    | .ok _ => readItems coerce n o.rd (o.toks :: acc)
    | .error _ => none

theorem cbor_one_item (v : TV) (rest : Bytes) (hw : C02.WFv v = true) (hs : C02.Supported v = true) :
    let o := CborDec.run false (2 * (Spec.Cbor.enc v ++ rest).length + 2) CborDec.init
      (Rd.ofBytes (Spec.Cbor.enc v ++ rest)) [] 0 0
    o.toks = v.flatten.map C02.normTok ∧ o.res = .ok () ∧ o.rd = Rd.ofBytes rest := by
  exact (C02.decV v hw hs false).decode rest (by rw [List.length_map]; exact C02.lenV v hw)

theorem frame_cbor_gen (rest : Bytes) : ∀ (vs : List TV) (acc : List (List Tok)),
    (∀ v ∈ vs, C02.WFv v = true) → (∀ v ∈ vs, C02.Supported v = true) →
    readItems false vs.length (Rd.ofBytes ((vs.map Spec.Cbor.enc).flatten ++ rest)) acc =
      some (acc.reverse ++ vs.map (fun v => v.flatten.map C02.normTok), Rd.ofBytes rest)
  | [], acc, _, _ => by simp [readItems]
  | v :: vs, acc, hw, hs => by
    obtain ⟨h1, h2, h3⟩ := cbor_one_item v ((vs.map Spec.Cbor.enc).flatten ++ rest)
      (hw v (by simp)) (hs v (by simp))
    have ih := frame_cbor_gen rest vs ((v.flatten.map C02.normTok) :: acc)
      (fun x hx => hw x (by simp [hx])) (fun x hx => hs x (by simp [hx]))
    simp only [List.map_cons, List.flatten_cons, List.append_assoc, List.length_cons, readItems]
    have e : (Rd.ofBytes (Spec.Cbor.enc v ++ ((vs.map Spec.Cbor.enc).flatten ++ rest))).data =
      Spec.Cbor.enc v ++ ((vs.map Spec.Cbor.enc).flatten ++ rest) := rfl
    rw [e, h2]
    rw [h1, h3, ih]
    simp

theorem frame_cbor (vs : List TV) (rest : Bytes)
    (hw : ∀ v ∈ vs, C02.WFv v = true) (hs : ∀ v ∈ vs, C02.Supported v = true) :
    readItems false vs.length (Rd.ofBytes ((vs.map Spec.Cbor.enc).flatten ++ rest)) [] =
      some (vs.map (fun v => v.flatten.map C02.normTok), Rd.ofBytes rest) := by
  simpa using frame_cbor_gen rest vs [] hw hs

def readItemsJson : Nat → Rd → List (List Tok) → Option (List (List Tok) × Rd)
  | 0, rd, acc => some (acc.reverse, rd)
  | n+1, rd, acc =>
    let o := JsonDec.run (2 * rd.data.length + 2) JsonDec.init rd [] 0
    match o.res with
    | .ok _ => readItemsJson n o.rd (o.toks :: acc)
    | .error _ => none

theorem frame_json_gen (c : JsonEnc.Cfg) (hc : C03.cfgOk c = true) : ∀ (vs : List TV) (w : Bytes) (pb : Nat)
    (acc : List (List Tok)), C03L.WsOnly w →
    (∀ v ∈ vs, C03.JWF v = true) → (∀ v ∈ vs, C03.FloatsOk v) →
    ∃ rd', readItemsJson vs.length (C03L.rdOf (w ++ (vs.map fun v => C03.out c v ++ [10]).flatten) pb) acc =
      some (acc.reverse ++ vs.map (fun v => v.flatten.map Spec.Json.retypeTok), rd') ∧
      rd'.data.all JsonDec.isWs = true
  | [], w, pb, acc, hw, _, _ => by
    refine ⟨C03L.rdOf (w ++ []) pb, by simp [readItemsJson], ?_⟩
    simp only [List.append_nil, List.all_eq_true]
    exact hw
  | v :: vs, w, pb, acc, hw, hj, hf => by
    have hcw := C03.cfgOk_ws hc
    have hjv := hj v (by simp)
    have hd := C03.dok_of_floatsOk hjv (hf v (by simp))
    have hout := (C03.run_eq c v hjv).2
    have htw := C03.trailer_ws hcw v
    have hw' : C03L.WsOnly (C03.trailer c v ++ [10]) :=
      C03L.WsOnly.append htw (by intro x hx; simp at hx; subst hx; decide)
    have hdata : w ++ ((v :: vs).map fun v => C03.out c v ++ [10]).flatten =
        w ++ (C03L.txtV c 0 v ++ ((C03.trailer c v ++ [10]) ++ (vs.map fun v => C03.out c v ++ [10]).flatten)) := by
      simp only [List.map_cons, List.flatten_cons, hout, List.append_assoc]
    have hstop : C03L.Stop ((C03.trailer c v ++ [10]) ++ (vs.map fun v => C03.out c v ++ [10]).flatten) = true := by
      have := C03L.Stop_ws_cons (C03.trailer c v) 10 ((vs.map fun v => C03.out c v ++ [10]).flatten) htw (by decide)
      simpa [List.append_assoc] using this
    rw [hdata]
    obtain ⟨pb', hrun⟩ := C03L.decTop_ws c hcw v hd
      (2 * (w ++ (C03L.txtV c 0 v ++ ((C03.trailer c v ++ [10]) ++ (vs.map fun v => C03.out c v ++ [10]).flatten))).length + 2)
      w _ pb hw hstop (by have := C03L.lenV c v hd 0; simp only [List.length_append]; omega)
    obtain ⟨rd', ih1, ih2⟩ := frame_json_gen c hc vs (C03.trailer c v ++ [10]) pb'
      ((v.flatten.map Spec.Json.retypeTok) :: acc) hw'
      (fun x hx => hj x (by simp [hx])) (fun x hx => hf x (by simp [hx]))
    refine ⟨rd', ?_, ih2⟩
    simp only [List.length_cons, readItemsJson]
    rw [hrun]
    rw [ih1]
    simp

theorem frame_json (c : JsonEnc.Cfg) (vs : List TV)
    (hw : ∀ v ∈ vs, C03.JWF v = true) (hc : C03.cfgOk c = true) (hf : ∀ v ∈ vs, C03.FloatsOk v) :
    ∃ rd', readItemsJson vs.length (Rd.ofBytes ((vs.map fun v => C03.out c v ++ [10]).flatten)) [] =
      some (vs.map (fun v => v.flatten.map Spec.Json.retypeTok), rd') ∧ rd'.data.all JsonDec.isWs = true := by
  obtain ⟨rd', h1, h2⟩ := frame_json_gen c hc vs [] 0 [] C03L.WsOnly.nil hw hf
  exact ⟨rd', by simpa [Rd.ofBytes, C03L.rdOf] using h1, h2⟩

end Refmt.C17
