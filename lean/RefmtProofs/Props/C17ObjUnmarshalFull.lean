/-
  C17 (object unmarshaller): the refinement of the FUNCTIONAL model `unmV` by the STATEFUL model
  (`UM.bind`, `UM.urun`: slab rows, machine stack, one token per Step), beyond single-token targets.

  1. `unmarshaller_refines_fixed_statement` of C17ObjUnmarshal.lean is FALSE
     (`unmarshaller_refines_fixed_statement_false`, derived from the input of `clash_deep_ptr`: more than 64 pointer
     levels, excluded by `PtrOk`).  `clash_union_reset` states a second input on which the two models differ (a union
     member whose `Reset` fails, excluded by `UnionOk`), at machine fuel 30; `q_atlasOk` and `q_itOk` state that this
     input meets the hypotheses of the statement; the refutation is not derived from it a second time.
     `unmarshaller_refines_fixed2_statement` is the statement with both hypotheses added: neither proved nor refuted.

  2. PROVED: `unmarshaller_refines_frag` / `unmarshaller_refines_target` (same conclusion as the corrected statement,
     for ANY current content of the target, not only the zero value; only hypothesis on the run: the functional model
     does not panic; machine fuel 14 is enough whatever the functional fuel):
       for every type `id` of a set `S` with `Closed ts a S wi` (decidable; `FragTarget ts a it id` computes `S`),
     i.e. every type reachable from `id` selects (pointer levels peeled off, at most 64) one of
       * the primitive machine (all scalar kinds, byte slices, byte arrays) or an error thunk,
       * the slice machine, the array machine (too many elements, short arrays padded),
       * the map machine (string keys and keys made from strings by an atlas transform; duplicate keys; unsupported
         key type reported at Reset),
       * the struct-map machine (unknown keys, expected-length check, route allocation, field not reachable), with
         IGNORED keys (the value is slurped by a wildcard machine),
       * the wildcard machine for untyped slots (scalars, nested `[]interface{}` / `map[string]interface{}` in
         `slab.tip()`, which need not be the machine's own row: rows leak when a slice / array / map machine receives
         null; interface types with methods), for atlases WITHOUT tagged entries (`NoTags`) and with `ItOk`,
       * the transform machine over one of the primitive / slice / array / map / struct machines (receive type not a
         pointer type, no chained transform: the two cases the library refuses and C17ObjUnmarshal.lean shows to
         disagree); the user function failing is an error at the token that completes the value,
     each directly or behind pointers.  Recursive types are fine (`fS`, `exS`).
     NOT covered here: keyed unions, tagged tokens found in the atlas (C17ObjUnmarshalUnion.lean; they need one more
     wrapping machine in a chain, and machine fuel 17).
-/
import RefmtProofs.Props.C17ObjUnmarshal
import RefmtProofs.Lemmas.UnmarshalMachPlain
open Refmt Refmt.Obj Refmt.Obj.UM Refmt.UMachL

namespace Refmt.C17ObjUnmarshal

def NoTags (a : Atlas) : Prop := ∀ e ∈ a.pool, e.tag = none

instance (a : Atlas) : Decidable (NoTags a) := by unfold NoTags; infer_instance

/-- the side condition for untyped slots, needed only when the closed set asks for them (`wi ≠ none`) -/
def UntypedOk (ts : Types) (a : Atlas) (it : IfaceTys) (wi : Option Nat) : Prop :=
  wi = none ∨ (wi = some it.iface ∧ ItOk ts a it ∧ NoTags a)

theorem getByTag_some {a : Atlas} {g : Int} {e : Entry} (h : a.getByTag g = some e) : e ∈ a.pool ∧ e.tag = some g := by
  have hp := List.find?_some h
  simp only [Bool.and_eq_true, beq_iff_eq] at hp
  exact ⟨List.mem_of_find?_eq_some h, hp.2⟩

theorem wildHyp_ofIt {ts : Types} {a : Atlas} {it : IfaceTys} {ub : Nat} {S : List Nat} (h : ItOk ts a it)
    (hw : it.iface ∈ S)
    (ht : ∀ g e, a.getByTag g = some e → UMachU.okMember ts a S (some it.iface) (upickBare ts a e.ty) ∧ 1 ≤ ub) :
    UMachU.WildHyp ts a it ub S := by
  obtain ⟨h1, h2, h3, h4, _⟩ := h
  refine ⟨h3, h4, hw, ?_, ?_, ?_, fun g e hg => (ht g e hg).1, fun g e hg => (ht g e hg).2⟩
  · simp [peel, h1]
  · simp [upickBare, h1, h2]
  · simp [hasMethods, h1]

theorem wildHyp_of {ts : Types} {a : Atlas} {it : IfaceTys} {S : List Nat} {wi : Option Nat}
    (h : UntypedOk ts a it wi) (hw : wildIn S wi) : UMachU.WildHyp ts a it 0 S := by
  rcases h with rfl | ⟨rfl, hi, hnt⟩
  · exact hw.elim
  · refine wildHyp_ofIt hi hw fun g e hg => ?_
    have hp := (getByTag_some hg).2
    rw [hnt e (getByTag_some hg).1] at hp
    cases hp

theorem unmarshaller_refines_frag (ts : Types) (a : Atlas) (trs : Trs) (it : IfaceTys) (S : List Nat)
    (wi : Option Nat) (hS : Closed ts a S wi) (hU : UntypedOk ts a it wi) (id : Nat) (hid : id ∈ S) (fuel : Nat)
    (cur : Val) (toks : List Tok) (hnp : NoPanic (unmV ts a trs it fuel id cur toks)) :
    ∃ N, ∀ sf, N ≤ sf → ∀ dirty : UState,
      urun ts a trs it sf (UM.bind ts a sf dirty id cur) toks = unmV ts a trs it fuel id cur toks :=
  ⟨14, fun sf hsf dirty => refines_closed hS (wildHyp_of hU) hid fuel cur toks hnp sf hsf dirty⟩

/-- the types the machine selected for `id` requisitions machines for -/
def kids (ts : Types) (a : Atlas) (it : IfaceTys) (id : Nat) : List Nat :=
  match upickBare ts a (peel ts 64 0 id).2 with
  | .slice e | .array _ e | .map _ e => [e]
  | .structMap fs => fs.map fun f => if f.ignore then it.iface else f.ty
  | .wildcard => [it.iface]
  | .transform _ uty =>
    (match upickBare ts a uty with
     | .slice e | .array _ e | .map _ e => [e]
     | .structMap fs => fs.map fun f => if f.ignore then it.iface else f.ty
     | _ => [])
  | _ => []

def reach (ts : Types) (a : Atlas) (it : IfaceTys) : Nat → List Nat → List Nat
  | 0, S => S
  | n+1, S => reach ts a it n ((S ++ S.flatMap (kids ts a it)).eraseDups)

/-- `id` is a covered target: the types reachable from it select covered machines only; when untyped slots or ignored
    keys are among them, the untyped-slot ids are right and the atlas has no tags -/
def FragTarget (ts : Types) (a : Atlas) (it : IfaceTys) (id : Nat) : Prop :=
  id ∈ reach ts a it (ts.length + 1) [id] ∧
  (Closed ts a (reach ts a it (ts.length + 1) [id]) none ∨
   (Closed ts a (reach ts a it (ts.length + 1) [id]) (some it.iface) ∧ ItOk ts a it ∧ NoTags a))

instance (ts : Types) (a : Atlas) (it : IfaceTys) (id : Nat) : Decidable (FragTarget ts a it id) := by
  unfold FragTarget; infer_instance

theorem unmarshaller_refines_target (ts : Types) (a : Atlas) (trs : Trs) (it : IfaceTys) (id : Nat)
    (h : FragTarget ts a it id) (fuel : Nat) (cur : Val) (toks : List Tok)
    (hnp : NoPanic (unmV ts a trs it fuel id cur toks)) :
    ∃ N, ∀ sf, N ≤ sf → ∀ dirty : UState,
      urun ts a trs it sf (UM.bind ts a sf dirty id cur) toks = unmV ts a trs it fuel id cur toks := by
  obtain ⟨hid, h | ⟨hc, hi, hn⟩⟩ := h
  · exact unmarshaller_refines_frag ts a trs it _ none h (Or.inl rfl) id hid fuel cur toks hnp
  · exact unmarshaller_refines_frag ts a trs it _ (some it.iface) hc (Or.inr ⟨rfl, hi, hn⟩) id hid fuel cur toks hnp

/-- `unmarshaller_refines_fixed_statement` of C17ObjUnmarshal.lean, restricted to covered targets (its hypotheses
    `AtlasOk`, `ItOk` are not needed: `FragTarget` asks for what it uses) -/
theorem unmarshaller_refines_fixed_frag :
    ∀ (ts : Types) (a : Atlas) (trs : Trs) (it : IfaceTys),
    ∀ (fuel id : Nat) (toks : List Tok), FragTarget ts a it id →
    NoPanic (unmV ts a trs it fuel id (zeroVal ts 64 id) toks) →
    ∃ N, ∀ sf, N ≤ sf → ∀ dirty : UState,
      urun ts a trs it sf (UM.bind ts a sf dirty id (zeroVal ts 64 id)) toks
        = unmV ts a trs it fuel id (zeroVal ts 64 id) toks :=
  fun ts a trs it fuel id toks h hnp => unmarshaller_refines_target ts a trs it id h fuel _ toks hnp

/-! ### Non-vacuity: a closed set with a recursive struct type -/

/-- 0 string, 1 int, 2 map[string]int, 3 struct{A map[string]int; B []int; C *struct3; D [2]int}, 5 []int, 6 *struct3,
    9 [2]int, 10 [][]*int, 11 []*int, 12 *int, 13 struct without atlas entry, 14 []struct13 -/
def fTs : Types :=
  [(0, .prim .string true), (1, .prim .int true), (2, .map 0 1),
   (3, .struct [⟨[65], 2, true, false, none⟩, ⟨[66], 5, true, false, none⟩, ⟨[67], 6, true, false, none⟩,
     ⟨[68], 9, true, false, none⟩]),
   (5, .slice 1), (6, .ptr 3), (9, .arr 2 1), (10, .slice 11), (11, .slice 12), (12, .ptr 1), (13, .struct []),
   (14, .slice 13)]
def fAtlas : Atlas :=
  ⟨[⟨true, 3, none, .structMap [⟨[97], false, [0], 2, false⟩, ⟨[98], false, [1], 5, false⟩,
      ⟨[99], false, [2], 6, false⟩, ⟨[100], false, [3], 9, false⟩]⟩], .default⟩
def fS : List Nat := [0, 1, 2, 3, 5, 6, 9, 10, 11, 12, 13, 14]

theorem fS_closed : Closed fTs fAtlas fS none := by decide +kernel

/-- {"a":{"k":1},"c":{"b":[2,3],"c":null,"d":[4]}} -/
def fToks : List Tok :=
  [tk (.mapOpen 2), tk (.str [97]), tk (.mapOpen 1), tk (.str [107]), tk (.int 1), tk .mapClose,
   tk (.str [99]), tk (.mapOpen 3), tk (.str [98]), tk (.arrOpen 2), tk (.int 2), tk (.int 3), tk .arrClose,
   tk (.str [99]), tk .null, tk (.str [100]), tk (.arrOpen 1), tk (.int 4), tk .arrClose, tk .mapClose, tk .mapClose]

example : sameRes (unmV fTs fAtlas exTrs exIt 40 3 (zeroVal fTs 64 3) fToks)
    (.ok (.struct [.map (some [(.str [107], .int 1)]), .slice none,
      .ptr (some (.struct [.map none, .slice (some [.int 2, .int 3]), .ptr none, .arr [.int 4, .int 0]])),
      .arr [.int 0, .int 0]]) [] 21) = true := by decide +kernel

def notPanic : URes → Bool
  | .panic _ => false
  | _ => true
theorem NoPanic_of (x : URes) (h : notPanic x = true) : NoPanic x := by
  intro u hu; rw [hu] at h; cases h

/-- the theorem applied: the stateful model from the dirty instance of C17ObjUnmarshal.lean (abandoned in the middle
    of a nested map, non-empty stack), every machine fuel ≥ 14 -/
example (sf : Nat) (h : 14 ≤ sf) :
    urun fTs fAtlas exTrs exIt sf (UM.bind fTs fAtlas sf dirty 3 (zeroVal fTs 64 3)) fToks
      = unmV fTs fAtlas exTrs exIt 40 3 (zeroVal fTs 64 3) fToks :=
  refines_closed fS_closed (fun h => h.elim) (by decide) 40 _ fToks (NoPanic_of _ (by decide +kernel)) sf h dirty

/-! ### Non-vacuity: the zoo of C17ObjUnmarshal.lean (untyped slots, ignored keys) -/

def exS : List Nat := [0, 1, 2, 3, 4, 5, 6, 7, 8, 9, 12]

theorem exS_closed : Closed exTs exAtlas exS (some 4) := by decide +kernel

theorem ex_untypedOk : UntypedOk exTs exAtlas exIt (some 4) :=
  Or.inr ⟨rfl, ⟨by decide +kernel, by decide +kernel, by decide +kernel, by decide +kernel, ⟨true, by decide +kernel⟩,
    by decide +kernel, by decide +kernel⟩, by decide +kernel⟩

/-- `toks1` of C17ObjUnmarshal.lean from the dirty instance: every machine fuel ≥ 14 -/
example (sf : Nat) (h : 14 ≤ sf) :
    urun exTs exAtlas exTrs exIt sf (UM.bind exTs exAtlas sf dirty 3 (zeroVal exTs 64 3)) toks1
      = unmV exTs exAtlas exTrs exIt 40 3 (zeroVal exTs 64 3) toks1 :=
  refines_closed exS_closed (wildHyp_of ex_untypedOk) (by decide) 40 _ toks1 (NoPanic_of _ (by decide +kernel)) sf h
    dirty

example : (match unmV exTs exAtlas exTrs exIt 40 3 (zeroVal exTs 64 3) toks1 with
    | .ok _ r u => (r.length, u) | _ => (0, 0)) = (1, 23) := by decide +kernel

/-- the predicate decides: every type of the two zoos is a covered target; the counterexamples below are not -/
example : (exS.all fun id => decide (FragTarget exTs exAtlas exIt id)) = true := by decide +kernel
example : (fS.all fun id => decide (FragTarget fTs fAtlas exIt id)) = true := by decide +kernel

/-! ### Non-vacuity: transforms (as values, as elements, behind pointers, as map keys) -/

/-- the types of `cxTs` (10 = struct T made from a string by transform 0) and 20 []T, 21 *T, 22 map[T]T, 23 [][]*T -/
def tTs : Types := cxTs ++ [(20, .slice 10), (21, .ptr 10), (22, .map 10 10), (23, .slice 24), (24, .slice 21)]
def tAtlas : Atlas := ⟨[⟨true, 10, none, .transform 0 0 0⟩], .default⟩
def tTrs : Trs := ⟨fun _ _ => none, fun _ v => match v with | .str (66 :: _) => none | .str x => some (.struct [.str x]) | _ => none⟩

example : ([10, 20, 21, 22, 23].all fun id => decide (FragTarget tTs tAtlas exIt id)) = true := by decide +kernel

/-- [[null, "A"], [], ["C"]] into [][]*T; {"A": "C"} into map[T]T; the user function refusing "B…" (an error at the
    token that completes the value) -/
def tToks1 : List Tok :=
  [tk (.arrOpen 3), tk (.arrOpen 2), tk .null, tk (.str [65]), tk .arrClose, tk (.arrOpen 0), tk .arrClose,
   tk (.arrOpen 1), tk (.str [67]), tk .arrClose, tk .arrClose]
def tToks2 : List Tok := [tk (.mapOpen 1), tk (.str [65]), tk (.str [67]), tk .mapClose]
def tToks3 : List Tok := [tk (.arrOpen 2), tk (.str [65]), tk (.str [66]), tk .arrClose]

example : sameRes (unmV tTs tAtlas tTrs exIt 40 23 (zeroVal tTs 64 23) tToks1)
      (.ok (.slice (some [.slice (some [.ptr none, .ptr (some (.struct [.str [65]]))]), .slice (some []),
        .slice (some [.ptr (some (.struct [.str [67]]))])])) [] 11) &&
    sameRes (unmV tTs tAtlas tTrs exIt 40 22 (zeroVal tTs 64 22) tToks2)
      (.ok (.map (some [(.struct [.str [65]], .struct [.str [67]])])) [] 4) &&
    sameRes (unmV tTs tAtlas tTrs exIt 40 20 (zeroVal tTs 64 20) tToks3) (.err 2) = true := by decide +kernel

example (sf : Nat) (h : 14 ≤ sf) (id : Nat) (hid : id = 23 ∨ id = 22 ∨ id = 20) (toks : List Tok)
    (htoks : toks = tToks1 ∨ toks = tToks2 ∨ toks = tToks3)
    (hnp : NoPanic (unmV tTs tAtlas tTrs exIt 40 id (zeroVal tTs 64 id) toks)) :
    urun tTs tAtlas tTrs exIt sf (UM.bind tTs tAtlas sf dirty id (zeroVal tTs 64 id)) toks
      = unmV tTs tAtlas tTrs exIt 40 id (zeroVal tTs 64 id) toks := by
  have hS : Closed tTs tAtlas [0, 10, 20, 21, 22, 23, 24] none := by decide +kernel
  exact refines_closed hS (fun hw => hw.elim) (by rcases hid with rfl | rfl | rfl <;> decide) 40 _ toks hnp sf h dirty

/-! ### The corrected statement of C17ObjUnmarshal.lean is still false: more than 64 pointer levels

`peel` (both models) gives up after 64 levels and the remaining pointer type selects the panicking machine.  The
stateful model (as the library: `requisitionMachine` in the slice / array / map machine's `Reset`) selects the ELEMENT
machine when the container machine is Reset, i.e. in `Bind`; the functional model only when an element arrives.
For an empty container the functional model succeeds, the stateful model panics. -/

/-- 0..64: 65 nested pointer types over 65 = int; 100 = [] of type 0; 200.. the untyped-slot types -/
def pTs : Types := (List.range 65).map (fun i => (i, TyDesc.ptr (i+1))) ++
  [(65, .prim .int true), (100, .slice 0), (200, .iface false), (201, .map 202 200), (202, .prim .string true),
   (203, .slice 200)]
def pAtlas : Atlas := ⟨[], .default⟩
def pIt : IfaceTys := ⟨202, 202, 202, 65, 65, 65, 201, 203, 200⟩
def pToks : List Tok := [tk (.arrOpen (-1)), tk .arrClose]

theorem clash_deep_ptr :
    sameRes (urun pTs pAtlas exTrs pIt 30 (UM.bind pTs pAtlas 30 dirty 100 (zeroVal pTs 64 100)) pToks) (.panic 0) &&
    sameRes (unmV pTs pAtlas exTrs pIt 40 100 (zeroVal pTs 64 100) pToks) (.ok (.slice (some [])) [] 2) = true := by
  decide +kernel

theorem p_fun : unmV pTs pAtlas exTrs pIt 40 100 (zeroVal pTs 64 100) pToks = .ok (.slice (some [])) [] 2 := by
  with_unfolding_all rfl

theorem p_bind (f : Nat) (d : UState) (cur : Val) :
    (UM.bind pTs pAtlas (f + 6) d 100 cur).bindErr = some (.f .panic) := by
  have h100 : upickBare pTs pAtlas 100 = .slice 0 := by with_unfolding_all rfl
  have h64 : upickBare pTs pAtlas 64 = .panic := by with_unfolding_all rfl
  have hp100 : peel pTs 64 0 100 = (0, 100) := by decide +kernel
  have hp0 : peel pTs 64 0 0 = (64, 64) := by decide +kernel
  have hg : pTs.get 100 = .slice 0 := by decide +kernel
  simp [UM.bind, requisition, yieldU, hp100, hp0, yieldBare, cfgU, h100, h64, resetM, resetBody, resetSlice, hg]

/-- by the input of `clash_deep_ptr` -/
theorem unmarshaller_refines_fixed_statement_false : ¬ unmarshaller_refines_fixed_statement := by
  intro h
  have hit : ItOk pTs pAtlas pIt :=
    ⟨by decide +kernel, rfl, by decide +kernel, by decide +kernel, ⟨true, by decide +kernel⟩, rfl, rfl⟩
  exact no_bound (t := tk (.arrOpen (-1))) p_fun (p_bind · · _)
    (h pTs pAtlas exTrs pIt (fun e he => nomatch he) hit 40 100 pToks (by rw [p_fun]; intro u hu; cases hu))

/-! ### A second input on which the models differ: a keyed union whose member's `Reset` fails

`step_acceptKey` Resets the member's machine while it processes the KEY token; when that Reset fails (a map member
whose key type is not string-kinded, a transform member whose receive type has no machine, ...) the stateful model
(and the library) report the error at the key token.  The functional model raises it one token later, at the first
token of the member value, and asks for more tokens when there is none.  Stated for machine fuel 30 only
(`clash_union_reset`), with the two hypotheses of the corrected statement on the input (`q_atlasOk`, `q_itOk`); that the
statement fails on this input as well (for every machine fuel) is not derived. -/

/-- 2 = map[int]int, registered; 3 = an interface type, keyed union {m: type 2} -/
def qTs : Types := [(0, .prim .string true), (1, .prim .int true), (2, .map 1 1), (3, .iface false),
  (200, .iface false), (201, .map 0 200), (203, .slice 200)]
def qAtlas : Atlas := ⟨[⟨true, 3, none, .union [([109], 1)]⟩, ⟨true, 2, none, .mapMorph .default⟩], .default⟩
def qIt : IfaceTys := ⟨0, 0, 0, 1, 1, 1, 201, 203, 200⟩
def qToks : List Tok := [tk (.mapOpen 1), tk (.str [109])]

theorem clash_union_reset :
    sameRes (urun qTs qAtlas exTrs qIt 30 (UM.bind qTs qAtlas 30 dirty 3 (zeroVal qTs 64 3)) qToks) (.err 1) &&
    sameRes (unmV qTs qAtlas exTrs qIt 40 3 (zeroVal qTs 64 3) qToks) (.more 2) &&
    sameRes (urun qTs qAtlas exTrs qIt 30 (UM.bind qTs qAtlas 30 dirty 3 (zeroVal qTs 64 3)) (qToks ++ [tk (.mapOpen 0)]))
      (.err 1) &&
    sameRes (unmV qTs qAtlas exTrs qIt 40 3 (zeroVal qTs 64 3) (qToks ++ [tk (.mapOpen 0)])) (.err 2) = true := by
  decide +kernel

theorem q_atlasOk : AtlasOk qTs qAtlas := by
  intro e he
  simp only [qAtlas, List.mem_cons, List.not_mem_nil, or_false] at he
  rcases he with rfl | rfl
  · refine ⟨by with_unfolding_all trivial, ?_⟩
    intro m hm me hme
    simp only [List.mem_cons, List.not_mem_nil, or_false] at hm
    subst hm
    simp only [qAtlas] at hme
    cases hme
    trivial
  · exact ⟨by with_unfolding_all trivial, trivial⟩
theorem q_itOk : ItOk qTs qAtlas qIt := by
  refine ⟨by decide +kernel, by decide +kernel, by decide +kernel, by decide +kernel, ⟨true, by decide +kernel⟩,
    by decide +kernel, by decide +kernel⟩

/-- no type of the table has more than 64 pointer levels -/
def PtrOk (ts : Types) : Prop := ∀ p ∈ ts, isPtrTy ts (peel ts 64 0 p.1).2 = false

instance (ts : Types) : Decidable (PtrOk ts) := by unfold PtrOk; infer_instance

/-- the `Reset` of a machine selected for a union member, or of a transform member's delegate, cannot fail -/
def resetSafe (ts : Types) (a : Atlas) : UMach → Bool
  | .structMap _ | .prim | .slice _ | .array _ _ => true
  | .map kt _ => (keyFnOfU ts a kt).isSome
  | _ => false

def unionOkB (ts : Types) (a : Atlas) : Bool :=
  a.pool.all fun e =>
    match e.k with
    | .union ms => ms.all fun m =>
        match a.pool[m.2]? with
        | none => true
        | some me =>
          (match umachForEntry ts me with
           | .transform _ uty => resetSafe ts a (upickBare ts a uty)
           | M => resetSafe ts a M)
    | _ => true

def UnionOk (ts : Types) (a : Atlas) : Prop := unionOkB ts a = true

instance (ts : Types) (a : Atlas) : Decidable (UnionOk ts a) := by unfold UnionOk; infer_instance

def unmarshaller_refines_fixed2_statement : Prop :=
  ∀ (ts : Types) (a : Atlas) (trs : Trs) (it : IfaceTys), AtlasOk ts a → ItOk ts a it → PtrOk ts → UnionOk ts a →
    ∀ (fuel id : Nat) (toks : List Tok),
    NoPanic (unmV ts a trs it fuel id (zeroVal ts 64 id) toks) →
    ∃ N, ∀ sf, N ≤ sf → ∀ dirty : UState,
      urun ts a trs it sf (UM.bind ts a sf dirty id (zeroVal ts 64 id)) toks
        = unmV ts a trs it fuel id (zeroVal ts 64 id) toks

/-- the two hypotheses do exclude the counterexamples, and are satisfiable (the zoo of C17ObjUnmarshal.lean) -/
example : ¬ PtrOk pTs := by decide +kernel
example : PtrOk exTs ∧ PtrOk qTs := by decide +kernel
example : ¬ UnionOk qTs qAtlas := by decide +kernel
example : UnionOk exTs exAtlas ∧ UnionOk uxTs uxAtlas ∧ PtrOk uxTs := by decide +kernel

/-- the counterexamples' targets are outside the covered class (so are unions and tagged atlases) -/
example : ¬ FragTarget pTs pAtlas pIt 100 ∧ ¬ FragTarget qTs qAtlas qIt 3 ∧ ¬ FragTarget cxTs cxAtlas exIt 11 ∧
    ¬ FragTarget cxTs cxAtlas exIt 14 ∧ ¬ FragTarget uxTs uxAtlas uxIt 22 := by decide +kernel

end Refmt.C17ObjUnmarshal

#print axioms Refmt.C17ObjUnmarshal.unmarshaller_refines_frag
#print axioms Refmt.C17ObjUnmarshal.unmarshaller_refines_target
#print axioms Refmt.C17ObjUnmarshal.unmarshaller_refines_fixed_frag
#print axioms Refmt.C17ObjUnmarshal.unmarshaller_refines_fixed_statement_false
#print axioms Refmt.C17ObjUnmarshal.clash_deep_ptr
#print axioms Refmt.C17ObjUnmarshal.clash_union_reset
