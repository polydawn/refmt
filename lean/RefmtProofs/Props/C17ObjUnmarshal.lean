/-
  C17 (object unmarshaller): the STATEFUL model of obj.Unmarshaller (RefmtModel/Model/Obj/UnmarshalMach.lean: slab
  rows, machine stack, current machine, Bind, one token per Step) against the FUNCTIONAL model `unmV`
  (RefmtModel/Model/Obj/Unmarshal.lean), from ANY state the instance was left in.

  `unmarshaller_refines_statement`, the refinement for all atlases and all types, is FALSE
  (`unmarshaller_refines_statement_false`): the library refuses chained transforms, the functional model unmarshals
  through them (`clash_chain`; also `clash_ptr_recv`, `clash_union`).  `unmarshaller_refines_fixed_statement` adds
  hypotheses on the atlas and on the untyped-slot type ids; C17ObjUnmarshalFull.lean shows that it is still false and
  proves it for a decidable class of targets.  Proved here: `unmarshaller_refines_partial` (scalar targets: an equation,
  no no-panic hypothesis) and `reused_eq_fresh` (a reused instance behaves as a fresh one, for every atlas); the
  `decide +kernel` examples run the stateful model from a dirty state (an instance abandoned in the middle of a nested
  map, non-empty stack) against the functional model.
-/
import RefmtProofs.Lemmas.UnmarshalMachScalar
open Refmt Refmt.Obj Refmt.Obj.UM Refmt.UMachL

namespace Refmt.C17ObjUnmarshal

/-- the functional model did not panic (in particular: it did not run out of fuel) -/
def NoPanic (x : URes) : Prop := ∀ u, x ≠ .panic u

def unmarshaller_refines_statement : Prop :=
  ∀ (ts : Types) (a : Atlas) (trs : Trs) (it : IfaceTys) (fuel id : Nat) (toks : List Tok),
    NoPanic (unmV ts a trs it fuel id (zeroVal ts 64 id) toks) →
    ∃ N, ∀ sf, N ≤ sf → ∀ dirty : UState,
      urun ts a trs it sf (UM.bind ts a sf dirty id (zeroVal ts 64 id)) toks
        = unmV ts a trs it fuel id (zeroVal ts 64 id) toks

/-- no atlas entry selects a panicking machine; a transform's receive type is not a pointer type and does not need a
    transform itself (the library refuses both); a union's members are struct-map, map or transform entries -/
def AtlasOk (ts : Types) (a : Atlas) : Prop :=
  ∀ e ∈ a.pool,
    (match umachForEntry ts e with | .panic => False | _ => True) ∧
    (match e.k with
     | .transform _ _ uty =>
       isPtrTy ts uty = false ∧ (match upickBare ts a uty with | .transform _ _ | .union _ | .wildcard => False | _ => True)
     | .union ms => ∀ m ∈ ms, ∀ me, a.pool[m.2]? = some me →
         (match me.k with | .union _ | .invalid => False | _ => True)
     | _ => True)

def ItOk (ts : Types) (a : Atlas) (it : IfaceTys) : Prop :=
  ts.get it.iface = .iface false ∧ a.get it.iface = none ∧ ts.get it.mapSI = .map it.str it.iface ∧
  ts.get it.sliceI = .slice it.iface ∧ (∃ b, ts.get it.str = .prim .string b) ∧ a.get it.mapSI = none ∧
  a.get it.sliceI = none

instance (ts : Types) (a : Atlas) (it : IfaceTys) : Decidable (ItOk ts a it) := by
  unfold ItOk
  have : Decidable (∃ b, ts.get it.str = .prim .string b) :=
    if h1 : ts.get it.str = .prim .string true then isTrue ⟨true, h1⟩
    else if h2 : ts.get it.str = .prim .string false then isTrue ⟨false, h2⟩
    else isFalse (by rintro ⟨b, hb⟩; cases b <;> simp_all)
  infer_instance

def unmarshaller_refines_fixed_statement : Prop :=
  ∀ (ts : Types) (a : Atlas) (trs : Trs) (it : IfaceTys), AtlasOk ts a → ItOk ts a it →
    ∀ (fuel id : Nat) (toks : List Tok),
    NoPanic (unmV ts a trs it fuel id (zeroVal ts 64 id) toks) →
    ∃ N, ∀ sf, N ≤ sf → ∀ dirty : UState,
      urun ts a trs it sf (UM.bind ts a sf dirty id (zeroVal ts 64 id)) toks
        = unmV ts a trs it fuel id (zeroVal ts 64 id) toks

theorem reused_eq_fresh (ts : Types) (a : Atlas) (trs : Trs) (it : IfaceTys) (sf : Nat) (dirty : UState) (id : Nat)
    (cur : Val) (toks : List Tok) :
    urun ts a trs it sf (UM.bind ts a sf dirty id cur) toks
      = urun ts a trs it sf (UM.bind ts a sf UState.fresh id cur) toks := by
  cases toks with
  | nil => simp [urun]
  | cons t rest =>
    unfold UM.bind
    cases requisition ts a sf [] id with
    | error x => simp [urun]
    | ok p =>
      obtain ⟨R, m⟩ := p
      cases resetM ts a sf m id cur R <;> rfl

/-- scalar targets: the machine selected for the target type (pointer levels peeled off) is the
    primitive machine (bool, string, all integer and float kinds with their range checks, byte slices, byte arrays,
    typedef'd or not) or an error thunk (struct without atlas entry, func / chan / ...).  Decidable. -/
abbrev ScalarTarget (ts : Types) (a : Atlas) (id : Nat) : Prop := Scalar ts a id

instance (ts : Types) (a : Atlas) (id : Nat) : Decidable (ScalarTarget ts a id) := by
  unfold ScalarTarget Scalar
  cases upickBare ts a (peel ts 64 0 id).2 <;> simp <;> infer_instance

/-- the refinement for scalar targets behind any number of pointers: EVERY dirty state, every current content of the
    target (not only the zero value), every token list (too short, too long, ill-typed, out of range), without
    any no-panic hypothesis; fuel 2 for the functional model and 4 for the stateful one are enough -/
theorem unmarshaller_refines_partial (ts : Types) (a : Atlas) (trs : Trs) (it : IfaceTys) (id : Nat)
    (h : ScalarTarget ts a id) (fuel sf : Nat) (hfuel : 2 ≤ fuel) (hsf : 4 ≤ sf) (dirty : UState) (cur : Val)
    (toks : List Tok) :
    urun ts a trs it sf (UM.bind ts a sf dirty id cur) toks = unmV ts a trs it fuel id cur toks :=
  refines_scalar hfuel hsf h dirty cur toks

/-! ### Non-vacuity: the stateful model run from a deliberately dirty state -/

/-- 0 string, 1 int, 2 map[string]int, 3 struct{A map[string]int; B []interface{}; C *struct3}, 4 interface{},
    5 []interface{}, 6 *struct3, 7 map[string]interface{}, 8 uint8, 9 [2]uint8, 12 map[string]map[string]int -/
def exTs : Types :=
  [(0, .prim .string true), (1, .prim .int true), (2, .map 0 1),
   (3, .struct [⟨[65], 2, true, false, none⟩, ⟨[66], 5, true, false, none⟩, ⟨[67], 6, true, false, none⟩]),
   (4, .iface false), (5, .slice 4), (6, .ptr 3), (7, .map 0 4), (8, .prim .uint8 true), (9, .arr 2 8), (12, .map 0 2)]
/-- fields a, b, c and an ignored key x -/
def exAtlas : Atlas :=
  ⟨[⟨true, 3, none, .structMap [⟨[97], false, [0], 2, false⟩, ⟨[98], false, [1], 5, false⟩,
      ⟨[99], false, [2], 6, false⟩, ⟨[120], true, [], 0, false⟩]⟩], .default⟩
def exTrs : Trs := ⟨fun _ _ => none, fun _ _ => none⟩
def exIt : IfaceTys := ⟨0, 0, 0, 1, 1, 1, 7, 5, 4⟩
def tk (b : Body) : Tok := ⟨b, none⟩

def feed (sf : Nat) (s : UState) (toks : List Tok) : UState :=
  toks.foldl (fun s t => match ustep exTs exAtlas exTrs exIt sf s t with | .ok r => r.st | .error _ => s) s

/-- an instance abandoned in the middle of a nested map (`{"k": {"j":` into a map[string]map[string]int, then a
    token that is rejected): rows left over, a non-empty stack -/
def dirty0 : UState :=
  feed 20 (UM.bind exTs exAtlas 20 UState.fresh 12 (.map none))
    [tk (.mapOpen 1), tk (.str [107]), tk (.mapOpen 1), tk (.str [106]), tk .arrClose]

/-- the rejected step itself had already pushed the inner map machine and made the value machine current -/
def dirty : UState := { dirty0 with stack := ⟨1, .map⟩ :: dirty0.stack, step := some ⟨2, .prim⟩ }

example : dirty0.rows.length = 3 ∧ dirty0.stack = [⟨0, .map⟩] ∧ dirty0.step = some ⟨1, .map⟩ := by decide +kernel
example : dirty.rows.length = 3 ∧ dirty.stack.length = 2 ∧
    (dirty.rows.map fun r => r.map.phase) = [.acceptAnotherKeyOrClose, .acceptValue, .initial] := by decide +kernel

/-- a Bool comparison of values (fuelled), for `decide`: `Val` has no decidable equality -/
def veq : Nat → Val → Val → Bool
  | 0, _, _ => false
  | n+1, x, y =>
    let all2 (xs ys : List Val) : Bool := xs.length == ys.length && (xs.zip ys).all fun (p, q) => veq n p q
    match x, y with
    | .bool p, .bool q => p == q
    | .int p, .int q => p == q
    | .uint p, .uint q => p == q
    | .float p, .float q => p == q
    | .str p, .str q => p == q
    | .bytes p, .bytes q => p == q
    | .byteArr p, .byteArr q => p == q
    | .slice none, .slice none => true
    | .slice (some p), .slice (some q) => all2 p q
    | .arr p, .arr q => all2 p q
    | .map none, .map none => true
    | .map (some p), .map (some q) =>
      p.length == q.length && (p.zip q).all fun (e, f) => veq n e.1 f.1 && veq n e.2 f.2
    | .ptr none, .ptr none => true
    | .ptr (some p), .ptr (some q) => veq n p q
    | .iface none, .iface none => true
    | .iface (some p), .iface (some q) => p.1 == q.1 && veq n p.2 q.2
    | .struct p, .struct q => all2 p q
    | _, _ => false

def sameRes : URes → URes → Bool
  | .ok v r u, .ok v' r' u' => veq 100 v v' && r == r' && u == u'
  | .more u, .more u' => u == u'
  | .err u, .err u' => u == u'
  | .panic u, .panic u' => u == u'
  | _, _ => false

def runBoth (id : Nat) (toks : List Tok) : URes × URes :=
  (urun exTs exAtlas exTrs exIt 20 (UM.bind exTs exAtlas 20 dirty id (zeroVal exTs 64 id)) toks,
   unmV exTs exAtlas exTrs exIt 40 id (zeroVal exTs 64 id) toks)

/-- struct with a map, an ignored key holding `[{}]`, a slice of untyped values, a pointer to a nested struct with a
    null field; one token left over -/
def toks1 : List Tok :=
  [tk (.mapOpen 4), tk (.str [97]), tk (.mapOpen 1), tk (.str [107]), tk (.int 5), tk .mapClose,
   tk (.str [120]), tk (.arrOpen 1), tk (.mapOpen 0), tk .mapClose, tk .arrClose,
   tk (.str [98]), tk (.arrOpen 2), tk (.int 3), tk (.arrOpen 0), tk .arrClose, tk .arrClose,
   tk (.str [99]), tk (.mapOpen (-1)), tk (.str [97]), tk .null, tk .mapClose, tk .mapClose, tk .null]

example : sameRes (runBoth 3 toks1).1 (runBoth 3 toks1).2 = true := by decide +kernel
example : (match (runBoth 3 toks1).1 with | .ok _ r u => (r.length, u) | _ => (0, 0)) = (1, 23) := by decide +kernel

/-- rejected and truncated inputs: range check inside an array, array overflow, repeated map key, unknown struct
    key, declared length not met, close of the wrong kind, every proper prefix of `toks1`, nulls -/
def badCases : List (Nat × List Tok) :=
  [(9, [tk (.arrOpen 2), tk (.int 3), tk (.int 300)]),
   (9, [tk (.arrOpen 3), tk (.int 3), tk (.int 4), tk (.int 5)]),
   (9, [tk (.arrOpen 1), tk (.int 3), tk .arrClose]),
   (2, [tk (.mapOpen 2), tk (.str [1]), tk (.int 1), tk (.str [1]), tk (.int 2), tk .mapClose]),
   (3, [tk (.mapOpen 1), tk (.str [122]), tk (.int 1), tk .mapClose]),
   (3, [tk (.mapOpen 2), tk (.str [97]), tk .null, tk .mapClose]),
   (5, [tk (.arrOpen 1), tk (.mapOpen 1), tk (.str [1]), tk .arrClose]),
   (12, [tk (.mapOpen 1), tk (.str [107]), tk (.mapOpen 1), tk (.str [106]), tk .arrClose]),
   (6, [tk .null]), (6, []), (4, [tk .mapClose]), (4, [tk (.uint (2^63))])]
  ++ (List.range 24).map fun n => (3, toks1.take n)

example : (badCases.all fun (id, toks) => sameRes (runBoth id toks).1 (runBoth id toks).2) = true := by decide +kernel
example : (badCases.take 8).map (fun (id, toks) => match (runBoth id toks).1 with | .err u => some u | _ => none) =
    [some 2, some 3, none, some 3, some 1, some 3, some 3, some 4] := by decide +kernel

/-! ### Transforms, keyed unions and tags, from the same dirty state (an atlas outside the fragments of
C17ObjUnmarshalFull.lean and C17ObjUnmarshalUnion.lean: the member `t` and the tagged entry are transforms from a scalar)

0 string, 1 int, 4 interface{}, 5 []interface{}, 7 map[string]interface{}, 10 struct T{S string} (transform 0 from string,
tag 5), 20 interface Shape = union {c: Circle, t: T}, 21 struct Circle{r int; t T; a interface{}}, 22 []Shape -/

def uxTs : Types :=
  [(0, .prim .string true), (1, .prim .int true), (4, .iface false), (5, .slice 4), (7, .map 0 4),
   (10, .struct [⟨[83], 0, true, false, none⟩]), (20, .iface true),
   (21, .struct [⟨[82], 1, true, false, none⟩, ⟨[84], 10, true, false, none⟩, ⟨[65], 4, true, false, none⟩]), (22, .slice 20)]
def uxAtlas : Atlas :=
  ⟨[⟨true, 10, some 5, .transform 0 0 0⟩,
    ⟨true, 21, none, .structMap [⟨[114], false, [0], 1, false⟩, ⟨[116], false, [1], 10, false⟩, ⟨[97], false, [2], 4, false⟩]⟩,
    ⟨true, 20, none, .union [([99], 1), ([116], 0)]⟩], .default⟩
def uxTrs : Trs := ⟨fun _ _ => none, fun _ v => match v with | .str x => some (.struct [.str x]) | _ => none⟩
def uxIt : IfaceTys := ⟨0, 0, 0, 1, 1, 1, 7, 5, 4⟩
def uxBoth (id : Nat) (toks : List Tok) : URes × URes :=
  (urun uxTs uxAtlas uxTrs uxIt 20 (UM.bind uxTs uxAtlas 20 dirty id (zeroVal uxTs 64 id)) toks,
   unmV uxTs uxAtlas uxTrs uxIt 40 id (zeroVal uxTs 64 id) toks)
/-- `[{"c": {"r": 4, "t": "A", "a": 5("B")}}, {"t": "Q"}]` -/
def uxToks : List Tok :=
  [tk (.arrOpen 2), tk (.mapOpen 1), tk (.str [99]), tk (.mapOpen 3), tk (.str [114]), tk (.int 4), tk (.str [116]),
   tk (.str [65]), tk (.str [97]), ⟨.str [66], some 5⟩, tk .mapClose, tk .mapClose,
   tk (.mapOpen 1), tk (.str [116]), tk (.str [81]), tk .mapClose, tk .arrClose]

example : sameRes (uxBoth 22 uxToks).1 (uxBoth 22 uxToks).2 = true := by decide +kernel
example : sameRes (uxBoth 22 uxToks).1 (.ok (.slice (some [
      .iface (some (21, .struct [.int 4, .struct [.str [65]], .iface (some (10, .struct [.str [66]]))])),
      .iface (some (10, .struct [.str [81]]))])) [] 17) = true := by decide +kernel
/-- every proper prefix, an unknown member, a missing tag, a wrong close -/
example : (((List.range 17).map fun n => uxToks.take n) ++
      [[tk (.arrOpen 1), tk (.mapOpen 1), tk (.str [120])], [tk (.arrOpen 1), tk (.mapOpen 2)],
       (uxToks.take 9) ++ [⟨.str [66], some 6⟩], (uxToks.take 15) ++ [tk .arrClose]]).all
      (fun toks => sameRes (uxBoth 22 toks).1 (uxBoth 22 toks).2) = true := by decide +kernel

/-! ### The statement at full strength is false: chained transforms

`_yieldUnmarshalMachinePtrForAtlasEntry` picks a transform machine's delegate in the SAME row; the library
(/repo/obj/unmarshalSlab.go) REFUSES a receive type that needs the row's transform machine itself ("chained transforms are not
supported") and a receive type that is a pointer type: it returns an error thunk, so `Bind` (or the first token of
such a value) reports an error.  The functional model `unmV` unmarshals through the chain, and panics on the pointer
receive type.  Checked against the real library: C17ObjUnmarshal_chain_test.go.txt. -/

/-- 0 string; 10 struct T (transform 0 from string); 11 struct U (transform 1 from T); 14 struct W (transform 2 from
    *string); 15 *string -/
def cxTs : Types := [(0, .prim .string true), (10, .struct []), (11, .struct []), (14, .struct []), (15, .ptr 0)]
def cxAtlas : Atlas :=
  ⟨[⟨true, 10, none, .transform 0 0 0⟩, ⟨true, 11, none, .transform 1 10 10⟩, ⟨true, 14, none, .transform 2 15 15⟩], .default⟩
def cxTrs : Trs := ⟨fun _ _ => none, fun _ _ => some (.struct [])⟩
def tA : Tok := ⟨.str [65], none⟩
def cxBoth (id : Nat) : URes × URes :=
  (urun cxTs cxAtlas cxTrs exIt 20 (UM.bind cxTs cxAtlas 20 dirty id (zeroVal cxTs 64 id)) [tA],
   unmV cxTs cxAtlas cxTrs exIt 40 id (zeroVal cxTs 64 id) [tA])

/-- a single transform: both models unmarshal -/
example : sameRes (cxBoth 10).1 (.ok (.struct []) [] 1) && sameRes (cxBoth 10).2 (.ok (.struct []) [] 1) = true := by
  decide +kernel
/-- a chained transform: the functional model unmarshals, the stateful model (and Go) report an error -/
theorem clash_chain : sameRes (cxBoth 11).1 (.err 0) && sameRes (cxBoth 11).2 (.ok (.struct []) [] 1) = true := by
  decide +kernel
/-- a transform receiving a pointer type: the functional model panics, the stateful model (and Go) report an error -/
theorem clash_ptr_recv : sameRes (cxBoth 14).1 (.err 0) && sameRes (cxBoth 14).2 (.panic 0) = true := by
  decide +kernel

theorem no_bound {ts : Types} {a : Atlas} {trs : Trs} {it : IfaceTys} {fuel id : Nat} {cur v : Val} {t : Tok}
    {toks r : List Tok} {u : Nat} {x : XFail} (hfun : unmV ts a trs it fuel id cur (t :: toks) = .ok v r u)
    (hbind : ∀ (f : Nat) (d : UState), (UM.bind ts a (f + 6) d id cur).bindErr = some x) :
    ¬ ∃ N, ∀ sf, N ≤ sf → ∀ dirty : UState,
      urun ts a trs it sf (UM.bind ts a sf dirty id cur) (t :: toks) = unmV ts a trs it fuel id cur (t :: toks) := by
  intro ⟨N, hN⟩
  have hrun := hN (N + 6) (by omega) UState.fresh
  rw [hfun] at hrun
  simp only [urun, hbind] at hrun
  cases x with
  | stuck => cases hrun
  | f e => cases e <;> cases hrun

theorem cx_fun : unmV cxTs cxAtlas cxTrs exIt 40 11 (zeroVal cxTs 64 11) [tA] = .ok (.struct []) [] 1 := by
  with_unfolding_all rfl

theorem cx_bind (f : Nat) (d : UState) (cur : Val) :
    (UM.bind cxTs cxAtlas (f + 6) d 11 cur).bindErr = some (.f .err) := by
  have h11 : upickBare cxTs cxAtlas 11 = .transform 1 10 := by with_unfolding_all rfl
  have h10 : upickBare cxTs cxAtlas 10 = .transform 0 0 := by with_unfolding_all rfl
  have h0 : upickBare cxTs cxAtlas 0 = .prim := by with_unfolding_all rfl
  have hp : peel cxTs 64 0 11 = (0, 11) := by decide +kernel
  have hq10 : isPtrTy cxTs 10 = false := by decide +kernel
  have hq0 : isPtrTy cxTs 0 = false := by decide +kernel
  simp [UM.bind, requisition, yieldU, hp, yieldBare, cfgU, h11, h10, h0, hq10, hq0, resetM, resetBody, resetErr]

theorem unmarshaller_refines_statement_false : ¬ unmarshaller_refines_statement :=
  fun h => no_bound cx_fun (cx_bind · · _) (h cxTs cxAtlas cxTrs exIt 40 11 [tA] (by rw [cx_fun]; intro u hu; cases hu))

/-! ### A second disagreement: a keyed union whose member is a keyed union

`step_acceptKey` configures the member's machine in `slab.tip()`, which is the union machine's OWN row when nothing has
leaked above it.  A member that is itself a union is the row's one union machine: the machine would become its own
delegate.  /repo (obj/unmarshalUnionKeyed.go, `step_acceptKey`) refuses such a member with an error at its key; the
stateful model has no such check and is `stuck` at token 2 (reported as a panic); the functional model unmarshals.
Input `{"u":{"c":{}}}`, run against the library in C17ObjUnmarshal_union_test.go.txt. -/

/-- 20 interface Outer = union {u: Inner}; 30 interface Inner = union {c: Circle}; 21 struct Circle -/
def unTs : Types := [(0, .prim .string true), (20, .iface true), (30, .iface true), (21, .struct [])]
def unAtlas : Atlas :=
  ⟨[⟨true, 20, none, .union [([117], 1)]⟩, ⟨true, 30, none, .union [([99], 2)]⟩, ⟨true, 21, none, .structMap []⟩], .default⟩
def unToks : List Tok :=
  [tk (.mapOpen 1), tk (.str [117]), tk (.mapOpen 1), tk (.str [99]), tk (.mapOpen 0), tk .mapClose, tk .mapClose, tk .mapClose]

theorem clash_union :
    sameRes (urun unTs unAtlas exTrs exIt 30 (UM.bind unTs unAtlas 30 dirty 20 (zeroVal unTs 64 20)) unToks) (.panic 2) &&
    sameRes (unmV unTs unAtlas exTrs exIt 40 20 (zeroVal unTs 64 20) unToks)
      (.ok (.iface (some (30, .iface (some (21, .struct []))))) [] 8) = true := by decide +kernel

end Refmt.C17ObjUnmarshal

#print axioms Refmt.C17ObjUnmarshal.unmarshaller_refines_partial
#print axioms Refmt.C17ObjUnmarshal.reused_eq_fresh
#print axioms Refmt.C17ObjUnmarshal.unmarshaller_refines_statement_false
#print axioms Refmt.C17ObjUnmarshal.clash_chain
#print axioms Refmt.C17ObjUnmarshal.clash_union
