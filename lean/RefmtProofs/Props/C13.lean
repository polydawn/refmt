/-
  C13 — the object unmarshaller accepts exactly the token streams that fit the target.

  `unmV` (RefmtModel/Model/Obj/Unmarshal.lean) is the functional model of obj.Unmarshaller: feed a token list to a
  target of a given type; the result is the value with the number of tokens consumed (`ok`), "more tokens needed"
  (`more`), or the index of the token at which an error (`err`) / panic (`panic`) is raised.

  What the property claims, and the theorems that stand for each part:
  * completion is signalled only when the tokens consumed so far form exactly one well-formed value (the
    flattening of a token tree) and the rest is untouched.  The statement with `TV.flatten` itself
    (`done_is_complete_statement`) is false: a close token carrying a tag is accepted by the unmarshaller but is
    not the flattening of any `TV` (`done_is_complete_false`).  It holds modulo tags on close tokens
    (`done_is_complete_modTags`) and when the consumed close tokens are untagged (`done_is_complete_fixed`).
  * `no_early_done`, `rest_irrelevant`: no proper prefix of an accepted value is itself accepted, and what follows the
    value does not matter.
  * every token rendering the marshaller produces for a value of the target type is accepted, completes exactly on
    its last token and reconstructs the value (`normV`): the token-level round trip underlying C01 / C11.  With
    `normV` on the right (`complete_plain_statement`) this is false: map entries come back in marshalling = key
    order while `normV` keeps the order of the value (`complete_plain_false`); duplicate keys are rejected as well
    (`reject_duplicate_key`), hence `distinctKeys` in what follows.
    `complete_plain_rt` is the exact round trip (`rtV` = `normV` with entries in key order),
    `complete_plain_sorted` the conclusion with `normV` for values whose maps are listed in key order,
    `complete_plain_perm` the general statement up to the order of map entries (`ValEqv`).  `rt_plain` is the induction
    on fuel over `plainTy`, from the round trip of each machine (Lemmas/ObjMachRT); `rt_rel_norm` compares `rtV` with
    `normV` up to a relation (`NormRel`: equality, `ValEqv`).
  * `reject_*`: unknown struct field, duplicate map key, declared struct length that disagrees, too many elements
    for a fixed array, token of the wrong kind: each an error at the offending token.
  * for a well-formed atlas no token list makes the model panic.  With the bound `|toks| + 64 < fuel`
    (`total_statement`) this is false: nested slices of a recursive type need 3 units of fuel per token
    (`nested_opens_panic`), and, whatever the fuel, a transform whose receive type is the transformed type itself
    loops (`transform_loop_panics`, `total_false`).  `total_fixed` has the hypothesis that same-list delegation
    chains are bounded by `D`, and the bound `(2D+3)·|toks| + 2D+2 ≤ fuel`.
-/
import RefmtModel
import RefmtProofs.Lemmas.Basics
import RefmtProofs.Lemmas.ObjUnmarshal
import RefmtProofs.Lemmas.ObjNoPanic
import RefmtProofs.Lemmas.ObjMachRT
import RefmtProofs.Lemmas.ObjTyping
namespace Refmt.C13
open Refmt Refmt.Obj
open Refmt.MachL

/-- A successful `unmV` is a `Reads` of the tokens it consumed (`reads_iff`); what is said here of those tokens is
    `Reads.shape`, `Reads.sound` and `Reads.prefix_more`. -/
theorem stream (ts : Types) (a : Atlas) (trs : Trs) (it : IfaceTys) (fuel id : Nat) (cur : Val)
    (toks : List Tok) (v : Val) (rest : List Tok) (used : Nat)
    (h : unmV ts a trs it fuel id cur toks = .ok v rest used) :
    used ≤ toks.length ∧ rest = toks.drop used ∧ toks = toks.take used ++ rest ∧
    TreeS (toks.take used) ∧
    (∀ more, unmV ts a trs it fuel id cur (toks.take used ++ more) = .ok v more used) ∧
    (∀ k, k < used → ∃ u, unmV ts a trs it fuel id cur (toks.take k) = .more u) := by
  obtain ⟨c, rfl, rfl, hr⟩ := (reads_iff (j := .v id cur)).1 h
  simp only [List.take_left', List.drop_left', List.length_append]
  refine ⟨by omega, trivial, trivial, hr.shape, hr.sound, fun k hk => ?_⟩
  rw [List.take_append_of_le_length (by omega)]
  exact hr.prefix_more k hk

/-- The first part of the property with `TV.flatten` itself: false (`done_is_complete_false`). -/
def done_is_complete_statement : Prop :=
  ∀ (ts : Types) (a : Atlas) (trs : Trs) (it : IfaceTys) (fuel id : Nat) (cur : Val)
    (toks : List Tok) (v : Val) (rest : List Tok) (used : Nat),
    unmV ts a trs it fuel id cur toks = .ok v rest used →
    used ≤ toks.length ∧ rest = toks.drop used ∧ ∃ tv : TV, toks.take used = tv.flatten

def ceToks : List Tok := [⟨.arrOpen 0, none⟩, ⟨.arrClose, some 7⟩]
def ceTs : Types := [(0, .slice 1), (1, .prim .int true)]
def ceA : Atlas := ⟨[], .default⟩

theorem ce_no_tree : ¬ ∃ tv : TV, ceToks = tv.flatten := by
  rintro ⟨tv, h⟩
  cases tv with
  | scalar t => simp [TV.flatten, ceToks] at h
  | arr tag len items =>
    simp [TV.flatten, ceToks] at h
    obtain ⟨_, h⟩ := h
    cases items with
    | nil => simp [TV.flattenList] at h
    | cons x xs =>
      -- an item has at least one token, so a close token cannot stand at the second place
      have := congrArg List.length h
      have hx := x.flatten_pos
      simp [TV.flattenList] at this
      omega
  | map tag len es => simp [TV.flatten, ceToks] at h

/-- `done_is_complete_statement` fails on `[arrOpen, arrClose#7]` into a slice: the unmarshaller does not look at the
    tag of a close token, whereas `TV.flatten` only produces untagged close tokens.  (The culprit is the
    statement: no decoder emits tagged close tokens.) -/
theorem done_is_complete_false : ¬ done_is_complete_statement := by
  intro h
  have h1 : unmV ceTs ceA ⟨fun _ _ => none, fun _ _ => none⟩ default 5 0 (.slice none) ceToks = .ok (.slice (some [])) [] 2 := by
    with_unfolding_all rfl
  obtain ⟨-, -, tv, htv⟩ := h _ _ _ _ _ _ _ _ _ _ _ h1
  exact ce_no_tree ⟨tv, by simpa [ceToks] using htv⟩

theorem done_is_complete_modTags (ts : Types) (a : Atlas) (trs : Trs) (it : IfaceTys) (fuel id : Nat) (cur : Val)
    (toks : List Tok) (v : Val) (rest : List Tok) (used : Nat)
    (h : unmV ts a trs it fuel id cur toks = .ok v rest used) :
    used ≤ toks.length ∧ rest = toks.drop used ∧ ∃ tv : TV, (toks.take used).map nc = tv.flatten := by
  obtain ⟨h1, h2, -, h4, -, -⟩ := stream ts a trs it fuel id cur toks v rest used h
  exact ⟨h1, h2, h4⟩

theorem nc_eq_self {t : Tok} (h : (t.body = .arrClose ∨ t.body = .mapClose) → t.tag = none) : nc t = t := by
  obtain ⟨body, tag⟩ := t
  unfold nc
  split
  · rename_i hb; cases hb; cases h (Or.inl rfl); rfl
  · rename_i hb; cases hb; cases h (Or.inr rfl); rfl
  · rfl

theorem done_is_complete_fixed (ts : Types) (a : Atlas) (trs : Trs) (it : IfaceTys) (fuel id : Nat) (cur : Val)
    (toks : List Tok) (v : Val) (rest : List Tok) (used : Nat)
    (h : unmV ts a trs it fuel id cur toks = .ok v rest used)
    (hct : ∀ t ∈ toks.take used, (t.body = .arrClose ∨ t.body = .mapClose) → t.tag = none) :
    used ≤ toks.length ∧ rest = toks.drop used ∧ ∃ tv : TV, toks.take used = tv.flatten := by
  obtain ⟨h1, h2, tv, h4⟩ := done_is_complete_modTags ts a trs it fuel id cur toks v rest used h
  refine ⟨h1, h2, tv, ?_⟩
  rw [← h4, List.map_congr_left (fun t ht => nc_eq_self (hct t ht)), List.map_id']

theorem no_early_done (ts : Types) (a : Atlas) (trs : Trs) (it : IfaceTys) (fuel id : Nat) (cur : Val)
    (toks : List Tok) (v : Val) (rest : List Tok) (used k : Nat)
    (h : unmV ts a trs it fuel id cur toks = .ok v rest used) (hk : k < used) :
    ∃ u, unmV ts a trs it fuel id cur (toks.take k) = .more u :=
  let ⟨_, _, _, _, _, hprefix⟩ := stream ts a trs it fuel id cur toks v rest used h
  hprefix k hk

theorem rest_irrelevant (ts : Types) (a : Atlas) (trs : Trs) (it : IfaceTys) (fuel id : Nat) (cur : Val)
    (toks : List Tok) (v : Val) (rest : List Tok) (used : Nat) (more : List Tok)
    (h : unmV ts a trs it fuel id cur toks = .ok v rest used) :
    unmV ts a trs it fuel id cur (toks.take used ++ more) = .ok v more used :=
  let ⟨_, _, _, _, hmore, _⟩ := stream ts a trs it fuel id cur toks v rest used h
  hmore more

/-! each rejection is one branch of the step equation of the function concerned (Lemmas/ObjUnmEq) -/

theorem reject_unknown_field (ts : Types) (a : Atlas) (trs : Trs) (it : IfaceTys) (fuel id : Nat) (fields : List SMField)
    (len : Int) (idx : Nat) (cur : Val) (name : Bytes) (tag : Option Int) (rest : List Tok)
    (h : fields.find? (fun f => f.name == name) = none) :
    unmStruct ts a trs it (fuel + 1) id fields len idx cur (⟨.str name, tag⟩ :: rest) = .err 0 := by
  simp only [unmStruct_cons, h]
theorem reject_struct_length_mismatch (ts : Types) (a : Atlas) (trs : Trs) (it : IfaceTys) (fuel id : Nat) (fields : List SMField)
    (len : Int) (idx : Nat) (cur : Val) (tag : Option Int) (rest : List Tok) (h0 : 0 ≤ len) (h : len ≠ idx) :
    unmStruct ts a trs it (fuel + 1) id fields len idx cur (⟨.mapClose, tag⟩ :: rest) = .err 0 := by
  simp [unmStruct_cons, h0, h]
theorem reject_duplicate_key (ts : Types) (a : Atlas) (trs : Trs) (it : IfaceTys) (fuel vt : Nat) (es : List (Val × Val))
    (s : Bytes) (tag : Option Int) (rest : List Tok) (h : hasKey (.str s) es = true) :
    unmMapEntries ts a trs it (fuel + 1) none vt es (⟨.str s, tag⟩ :: rest) = .err 0 := by
  simp only [unmMapEntries_cons, mapKey_none, h, if_true]

theorem reject_array_overflow (ts : Types) (a : Atlas) (trs : Trs) (it : IfaceTys) (fuel e n : Nat) (acc : List Val)
    (t : Tok) (rest : List Tok) (hfull : acc.length ≥ n) (ht : t.body ≠ .arrClose) (ht2 : t.body ≠ .mapClose) :
    unmElems ts a trs it (fuel + 1) e (some n) acc (t :: rest) = .err 0 := by
  rw [unmElems_cons]
  split
  · contradiction
  · contradiction
  · simp [capFull_some, hfull]

theorem reject_wrong_kind_scalar (d : TyDesc) (t : Tok) (h : storePrim d t = none) (ts : Types) (a : Atlas) (trs : Trs)
    (it : IfaceTys) (fuel id : Nat) (cur : Val) (rest : List Tok) (hd : ts.get id = d) :
    unmBare ts a trs it (fuel + 1) id .prim cur (t :: rest) = .err 0 := by
  rw [unmBare_prim, hd, h]

/-- the atlas is internally consistent: union members point into the pool at struct-map or transform entries
    and no entry is `invalid`; map-morphism entries sit on map types; the receive type of a transform is not a
    pointer type.  Struct-map routes are not looked at: `getRoute`/`setRoute` return `none` on one that does not
    resolve → an error, not a panic. -/
def atlasOk (ts : Types) (a : Atlas) : Bool :=
  a.pool.all fun e =>
    match e.k with
    | .invalid => false
    | .union ms => ms.all fun (_, idx) =>
        (match a.pool[idx]? with
         | some me => (match me.k with | .structMap _ => true | .transform _ _ _ => true | _ => false)
         | none => false)
    | .mapMorph _ => (match ts.get e.ty with | .map _ _ => true | _ => false)
    | .transform _ _ uty => (match ts.get uty with | .ptr _ => false | _ => true)
    | .structMap _ => true

/-- no pointer-to-pointer chains longer than the peel bound, no type whose pointer chain ends in a pointer -/
def typesOk (ts : Types) : Bool :=
  ts.all fun (id, _) => match ts.get (peel ts 64 0 id).2 with | .ptr _ => false | _ => true

/-- The last part of the property with the bound `|toks| + 64 < fuel`: false (`total_false`). -/
def total_statement : Prop :=
  ∀ (ts : Types) (a : Atlas) (trs : Trs) (it : IfaceTys) (fuel id : Nat) (cur : Val) (toks : List Tok),
    atlasOk ts a = true → typesOk ts = true → toks.length + 64 < fuel → (ts.lookup id).isSome →
    ∀ u, unmV ts a trs it fuel id cur toks ≠ .panic u

/-! counterexample (a): nested slices of a recursive type need 3 units of fuel per token -/
def tsRec : Types := [(0, .slice 0)]
def aEmpty : Atlas := ⟨[], .default⟩
def opens (n : Nat) : List Tok := List.replicate n ⟨.arrOpen 0, none⟩

theorem nested_opens_panic (trs : Trs) (it : IfaceTys) : ∀ (n : Nat) (cur : Val),
    unmV tsRec aEmpty trs it (3 * n + 2) 0 cur (opens (n + 1)) = .panic (n + 1) := by
  have hpeel : peel tsRec 64 0 0 = (0, 0) := rfl
  have hpick : upickBare tsRec aEmpty 0 = .slice 0 := rfl
  intro n
  induction n with
  | zero =>
    intro cur
    show unmV tsRec aEmpty trs it (1 + 1) 0 cur (⟨.arrOpen 0, none⟩ :: []) = _
    rw [unmV_cons, hpeel]
    simp only [beq_self_eq_true, if_true, hpick]
    show unmBare tsRec aEmpty trs it (0 + 1) 0 (.slice 0) cur (⟨.arrOpen 0, none⟩ :: []) = _
    rw [unmBare_slice]
    show (unmElems tsRec aEmpty trs it 0 0 none [] []).shift 1 = _
    rw [unmElems_zero]; rfl
  | succ n ih =>
    intro cur
    have e1 : 3 * (n + 1) + 2 = (3 * n + 4) + 1 := by omega
    have e2 : opens (n + 1 + 1) = ⟨.arrOpen 0, none⟩ :: opens (n + 1) := rfl
    rw [e1, e2, unmV_cons, hpeel]
    simp only [beq_self_eq_true, if_true, hpick]
    show unmBare tsRec aEmpty trs it ((3 * n + 3) + 1) 0 (.slice 0) cur (⟨.arrOpen 0, none⟩ :: opens (n + 1)) = _
    rw [unmBare_slice]
    show (unmElems tsRec aEmpty trs it ((3 * n + 2) + 1) 0 none [] (⟨.arrOpen 0, none⟩ :: opens n)).shift 1 = _
    rw [unmElems_cons]
    simp only [capFull_none]
    have := ih (zeroVal tsRec 64 0)
    simp only [opens, List.replicate_succ] at this
    simp [opens, this]

/-! counterexample (b): a transform whose receive type is the transformed type itself never terminates -/
def tsInt : Types := [(0, .prim .int false)]
def aLoop : Atlas := ⟨[⟨true, 0, none, .transform 0 0 0⟩], .default⟩

theorem transform_loop_panics (trs : Trs) (it : IfaceTys) (t : Tok) (cur : Val) :
    ∀ fuel, unmV tsInt aLoop trs it fuel 0 cur [t] = .panic 0 := by
  have hpeel : peel tsInt 64 0 0 = (0, 0) := rfl
  have hpick : upickBare tsInt aLoop 0 = .transform 0 0 := rfl
  have hb : ∀ fuel cur, unmBare tsInt aLoop trs it fuel 0 (.transform 0 0) cur [t] = .panic 0 := by
    intro fuel
    induction fuel with
    | zero => intro cur; exact unmBare_zero ..
    | succ n ih => intro cur; rw [unmBare_transform, hpick, ih]; rfl
  intro fuel
  cases fuel with
  | zero => exact unmV_zero ..
  | succ n =>
    rw [unmV_cons, hpeel]
    simp only [beq_self_eq_true, if_true, hpick]
    exact hb n cur

/-- counterexample (a) satisfies every hypothesis of `total_statement`: 33 tokens, fuel 98 -/
theorem total_fuel_bound_false (trs : Trs) (it : IfaceTys) (cur : Val) :
    atlasOk tsRec aEmpty = true ∧ typesOk tsRec = true ∧ (opens 33).length + 64 < 98 ∧ (tsRec.lookup 0).isSome ∧
    unmV tsRec aEmpty trs it 98 0 cur (opens 33) = .panic 33 :=
  ⟨by decide, by decide, by simp [opens], by decide, nested_opens_panic trs it 32 cur⟩

theorem total_false : ¬ total_statement := by
  intro h
  exact h tsInt aLoop ⟨fun _ _ => none, fun _ _ => none⟩ default 66 0 (.int 0) [⟨.int 1, none⟩]
    (by decide) (by decide) (by simp) (by decide) 0 (transform_loop_panics _ _ _ _ 66)

theorem entry_mOk {ts a} (ha : atlasOk ts a = true) {e : Entry} (he : e ∈ a.pool) : mOk ts a (umachForEntry ts e) := by
  have hall := List.all_eq_true.mp ha
  have h := hall e he
  unfold umachForEntry
  cases hk : e.k with
  | invalid => simp [hk] at h
  | structMap fs => simp [mOk]
  | transform fn mty uty =>
    simp only [hk] at h
    intro x hx
    simp [hx] at h
  | mapMorph mode =>
    simp only [hk] at h
    split at h
    · rename_i k v hm; simp [hm, mOk]
    · cases h
  | union ms =>
    simp only [hk, List.all_eq_true] at h
    intro p hp
    have h2 := h p hp
    obtain ⟨nm, idx⟩ := p
    cases hme : a.pool[idx]? with
    | none => simp [hme] at h2
    | some me =>
      refine ⟨me, rfl, ?_⟩
      simp only [hme] at h2
      have hmem : me ∈ a.pool := List.mem_of_getElem? hme
      have h3 := hall me hmem
      cases hmk : me.k with
      | structMap fs => exact Or.inl ⟨fs, hmk⟩
      | transform fn mty uty =>
        refine Or.inr ⟨fn, mty, uty, hmk, ?_⟩
        simp only [hmk] at h3
        intro x hx
        simp [hx] at h3
      | union _ => simp [hmk] at h2
      | mapMorph _ => simp [hmk] at h2
      | invalid => simp [hmk] at h2

theorem pick_mOk {ts a} (ha : atlasOk ts a = true) (id : Nat) (h : notPtr (ts.get id) ∨ (a.get id).isSome) :
    mOk ts a (upickBare ts a id) := by
  unfold upickBare
  split
  · simp [mOk]
  · simp [mOk]
  · split
    · rename_i e he
      exact entry_mOk ha (List.mem_of_find?_eq_some he)
    · rename_i hn
      have hnp : notPtr (ts.get id) := by
        rcases h with h | h
        · exact h
        · simp [hn] at h
      split <;> simp [mOk]
      rename_i x hx
      exact hnp _ hx

theorem base_notPtr {ts} (ht : typesOk ts = true) (id : Nat) : notPtr (ts.get (peel ts 64 0 id).2) := by
  cases hl : ts.lookup id with
  | none =>
    have hg : ts.get id = .other := by simp [Types.get, hl]
    have : peel ts 64 0 id = (0, id) := ObjL.peel_nonptr ts 64 0 id (by simp [hg])
    rw [this]; simp only; rw [hg]; intro e he; cases he
  | some d =>
    have h := List.all_eq_true.mp ht _ (ObjL.lookup_mem hl)
    intro e he
    simp [he] at h

theorem ctx_of {ts a D} (ha : atlasOk ts a = true) (ht : typesOk ts = true)
    (hD : ∀ id, delegOk ts a D (upickBare ts a id)) : Ctx ts a D :=
  ⟨pick_mOk ha, base_notPtr ht, hD⟩

theorem total_fixed (ts : Types) (a : Atlas) (trs : Trs) (it : IfaceTys) (D fuel id : Nat) (cur : Val) (toks : List Tok)
    (ha : atlasOk ts a = true) (ht : typesOk ts = true) (hD : ∀ id, delegOk ts a D (upickBare ts a id))
    (hf : (2 * D + 3) * toks.length + (2 * D + 2) ≤ fuel) :
    ∀ u, unmV ts a trs it fuel id cur toks ≠ .panic u :=
  (allNP (ctx_of ha ht hD) fuel).v id cur toks hf

/-- The types whose rendering involves no untyped slot, transform, union or struct: scalars, byte slices and byte
    arrays, and slices, arrays, string-keyed maps and pointers over these, none with an atlas entry.  The token-level
    round trip is stated on this class first; `C11.structTy` adds struct maps, `Obj.fullTy` (Lemmas/FullDefs) the rest. -/
def plainTy (ts : Types) (a : Atlas) : Nat → Nat → Bool
  | 0, _ => false
  | fuel+1, id =>
    match ts.get id with
    | .prim _ _ => (a.get id).isNone
    | .bytes _ => (a.get id).isNone
    | .byteArr _ => (a.get id).isNone
    | .slice e => (a.get id).isNone && plainTy ts a fuel e
    | .arr _ e => (a.get id).isNone && plainTy ts a fuel e
    | .map k e => (a.get id).isNone && (match ts.get k with | .prim .string _ => true | _ => false) && plainTy ts a fuel e
    | .ptr e => plainTy ts a fuel e
    | _ => false

/-- The third part of the property with `normV` on the right: false (`complete_plain_false`). -/
def complete_plain_statement : Prop :=
  ∀ (ts : Types) (a : Atlas) (trs : Trs) (it : IfaceTys) (fuel id : Nat) (v : Val) (toks : List Tok),
    plainTy ts a 64 id = true → hasTy ts 1000 id v = true → typesOk ts = true → True →
    marshalV ts a trs fuel id v = ⟨toks, none⟩ → toks.length + 64 < fuel →
    unmV ts a trs it fuel id (zeroVal ts 64 id) toks = .ok (normV .pretty ts a trs it fuel id v) [] toks.length

variable (ts : Types) (a : Atlas) (trs : Trs) (it : IfaceTys)

theorem plain_peel : ∀ (p k c id : Nat), plainTy ts a p id = true → p ≤ k →
    ∃ n base p', peel ts k c id = (c + n, base) ∧ plainTy ts a (p' + 1) base = true ∧ (∀ e, ts.get base ≠ .ptr e) ∧ chain ts n id base ∧ p' + 1 + n ≤ p :=
  peel_chain ts (fun _ => rfl) (fun p id e hd h => by simpa [plainTy, hd] using h)

variable {ts a trs it}

variable (ts a) in
theorem plainTy_kinds {p id : Nat} (hp : plainTy ts a (p + 1) id = true) (hnp : ∀ e, ts.get id ≠ .ptr e) :
    (pickBare ts a id = .prim ∧ upickBare ts a id = .prim) ∨
    (∃ e, ts.get id = .slice e ∧ a.get id = none ∧ plainTy ts a p e = true) ∨
    (∃ n e, ts.get id = .arr n e ∧ a.get id = none ∧ plainTy ts a p e = true) ∨
    (∃ kt vt bk, ts.get id = .map kt vt ∧ a.get id = none ∧ ts.get kt = .prim .string bk ∧ plainTy ts a p vt = true) := by
  cases hd : ts.get id with
  | prim kk b => exact Or.inl (pick_prim hd (by simpa [plainTy, hd] using hp))
  | bytes b => exact Or.inl (pick_bytes hd (by simpa [plainTy, hd] using hp))
  | byteArr n => exact Or.inl (pick_byteArr hd (by simpa [plainTy, hd] using hp))
  | slice e => exact Or.inr (Or.inl ⟨e, rfl, by simpa [plainTy, hd] using hp⟩)
  | arr n e => exact Or.inr (Or.inr (Or.inl ⟨n, e, rfl, by simpa [plainTy, hd] using hp⟩))
  | map kt vt =>
    simp only [plainTy, hd, Bool.and_eq_true, Option.isNone_iff_eq_none] at hp
    obtain ⟨⟨hn, hkt⟩, hpv⟩ := hp
    split at hkt
    · rename_i bk hh; exact Or.inr (Or.inr (Or.inr ⟨kt, vt, bk, rfl, hn, hh, hpv⟩))
    · cases hkt
  | ptr e => exact absurd hd (hnp e)
  | iface m => simp [plainTy, hd] at hp
  | struct fs => simp [plainTy, hd] at hp
  | other => simp [plainTy, hd] at hp

variable (ts a) in
theorem plain_headFirst {p id : Nat} (hp : plainTy ts a (p + 1) id = true) (hnp : ∀ e, ts.get id ≠ .ptr e) :
    (pickBare ts a id).headFirst = true := by
  rcases plainTy_kinds ts a hp hnp with h | ⟨e, hd, hn, -⟩ | ⟨n, e, hd, hn, -⟩ | ⟨kt, vt, bk, hd, hn, -, -⟩
  · rw [h.1]; rfl
  · rw [(pick_slice hd hn).1]; rfl
  · rw [(pick_arr hd hn).1]; rfl
  · rw [(pick_map hd hn).1]; rfl

theorem plain_bare {f : Nat}
    (ih : ∀ f' < f, ∀ p h k id v g, p ≤ 64 → plainTy ts a p id = true → hasTy ts h id v = true → distinctKeys k v → f' ≤ g →
      VRt ts a trs it _root_.id 0 f' id v (rtV ts a trs it g id v)) :
    ∀ p h k id v g, p + 1 ≤ 64 → plainTy ts a (p + 1) id = true → (∀ e, ts.get id ≠ .ptr e) → hasTy ts h id v = true →
      distinctKeys k v → f ≤ g →
      BRt ts a trs it _root_.id 0 f id (zeroVal ts 64 id) v (rtBare ts a trs it g id (pickBare ts a id) v) := by
  intro p h k id v g hp64 hp hnp hv hk hg
  cases f with
  | zero => intro toks hm; cases hm
  | succ f =>
  obtain ⟨g, rfl⟩ : ∃ g', g = g' + 1 := ⟨g - 1, by omega⟩
  rcases plainTy_kinds ts a hp hnp with hpk | ⟨e, hd, hn, hpe⟩ | ⟨n, e, hd, hn, hpe⟩ | ⟨kt, vt, bk, hd, hn, hkt, hpv⟩
  · rw [hpk.1, rtBare_prim]
    exact prim_bare_rt hpk.1 hpk.2 (fun toks hm => prim_tok_rt ts h id v toks hv hm) _
  · have hpk := pick_slice hd hn
    obtain ⟨o, rfl, hvs⟩ := hasTy_slice ts hd hv
    rw [hpk.1, rtBare_slice]
    refine slice_rt TokMap.id hpk.1 hpk.2 _ o (fun es he f' hf' x hx => ?_) _
    subst he
    exact ih f' (by omega) p _ _ e x g (by omega) hpe (hvs _ rfl x hx) (distinctKeys_succ hk x hx) (by omega)
  · have hpk := pick_arr hd hn
    obtain ⟨es, rfl, hlen, hvs⟩ := hasTy_arr ts hd hv
    rw [hpk.1, rtBare_array]
    exact array_rt TokMap.id hpk.1 hpk.2 _ es hlen (fun f' hf' x hx =>
      ih f' (by omega) p _ _ e x g (by omega) hpe (hvs x hx) (distinctKeys_succ hk x hx) (by omega)) _
  · have hpk := pick_map hd hn
    obtain ⟨o, rfl, hvs⟩ := hasTy_map ts hd hv
    rw [hpk.1, rtBare_map]
    have hkeys : ∀ es, o = some es → (∀ p ∈ es, ∃ s, p.1 = Val.str s) ∧ (es.map fun p => keyStr p.1).Nodup ∧
        ∀ p ∈ es, distinctKeys (k - 1) p.2 := fun es he => distinctKeys_succ (v := .map (some es)) (he ▸ hk)
    exact map_rt TokMap.id hpk.1 hpk.2 hkt _ o
      (fun es he => ⟨fun q hq => ((hkeys es he).1 q hq).imp fun _ h => ⟨h, trivial⟩, (hkeys es he).2.1⟩)
      (fun es he f' hf' q hq => ih f' (by omega) p _ _ vt q.2 g (by omega) hpv (hvs es he q hq).2
        ((hkeys es he).2.2 q hq) (by omega))
      _ (zeroVal_mapEntries ts 64 id)

/-- `p`, `h`, `k` are the fuels of `plainTy`, `hasTy`, `distinctKeys`; `f` is the marshaller's fuel, on which the induction
    runs; `g ≥ f` is the fuel of `rtV`, which goes down by one per level while the items of a list are written at any
    `f' < f` (`elems_rt`). -/
theorem rt_plain : ∀ f p h k id v g, p ≤ 64 → plainTy ts a p id = true → hasTy ts h id v = true → distinctKeys k v → f ≤ g →
    VRt ts a trs it _root_.id 0 f id v (rtV ts a trs it g id v) := by
  intro f
  induction f using Nat.strongRecOn with
  | ind f ih =>
    intro p h k id v g hp64 hp hv hk hg
    cases f with
    | zero => intro toks hm; cases hm
    | succ f =>
      obtain ⟨g, rfl⟩ : ∃ g', g = g' + 1 := ⟨g - 1, by omega⟩
      obtain ⟨n, base, p', hpeel, hpb, hnp, hch, hp'p⟩ := plain_peel ts a p 64 0 id hp hp64
      simp only [Nat.zero_add] at hpeel
      rw [rtV_succ, hpeel]
      refine ptr_rt TokMap.id hpeel hch _ (fun inner hdn => ?_)
      obtain ⟨h', hvi⟩ := chain_hasTy_some ts hch hv hdn
      obtain ⟨k', hki⟩ := derefN_desc (P := distinctKeys) (fun _ _ h => distinctKeys_succ h) n k v inner hk hdn
      exact ⟨fun toks hm => NullSpec.of_writes hnp (plain_headFirst ts a hpb hnp) hm,
        plain_bare (fun f' hf' => ih f' (by omega)) p' h' k' base inner g (by omega) hpb hnp hvi hki (by omega)⟩

variable (ts a trs it)

theorem rt_rel_norm {Rel : Val → Val → Prop} {S : Nat → Val → Prop} (N : NormRel a.defaultSort Rel S) (g : Nat) :
    (∀ p k id v, p ≤ 64 → plainTy ts a p id = true → S k v →
      Rel (rtV ts a trs it g id v) (normV .pretty ts a trs it g id v)) ∧
    (∀ p k id v, p + 1 ≤ 64 → plainTy ts a (p + 1) id = true → (∀ e, ts.get id ≠ .ptr e) → S k v →
      Rel (rtBare ts a trs it g id (pickBare ts a id) v) (normBare .pretty ts a trs it g id (pickBare ts a id) v)) := by
  induction g with
  | zero => exact ⟨fun _ _ _ v _ _ _ => N.refl v, fun _ _ _ v _ _ _ _ => N.refl v⟩
  | succ g ih =>
    constructor
    · intro p k id v hp64 hp hs
      obtain ⟨n, base, p', hpeel, hpb, hnp, hch, hp'p⟩ := plain_peel ts a p 64 0 id hp hp64
      simp only [Nat.zero_add] at hpeel
      rw [rtV_succ, Norm.succ, hpeel]
      refine ptr_rel ts a trs N.refl N.wrap (fun inner hdn => ?_)
      obtain ⟨k', hs'⟩ := derefN_desc N.S_ptr n k v inner hs hdn
      exact ih.2 p' k' base inner (by omega) hpb hnp hs'
    · intro p k id v hp64 hp hnp hs
      rcases plainTy_kinds ts a hp hnp with ⟨hpk, -⟩ | ⟨e, hd, hp'⟩ | ⟨n, e, hd, hp'⟩ | ⟨kt, vt, bk, hd, hn, -, hpv⟩
      · rw [hpk, rtBare_prim, normBare_prim]; exact N.refl _
      · rw [(pick_slice hd hp'.1).1, rtBare_slice, Norm.slice]
        exact N.slice (fun vs hv x hx => ih.1 p _ e x (by omega) hp'.2 (N.S_slice (hv ▸ hs) x hx))
      · rw [(pick_arr hd hp'.1).1, rtBare_array, Norm.array]
        exact N.arr (fun vs hv x hx => ih.1 p _ e x (by omega) hp'.2 (N.S_arr (hv ▸ hs) x hx))
      · rw [(pick_map hd hn).1, rtBare_map, Norm.map]
        exact N.map hs (fun es _ q _ hq => ih.1 p _ vt q.2 (by omega) hpv hq)

theorem complete_plain_rt (ts : Types) (a : Atlas) (trs : Trs) (it : IfaceTys) (fuel id : Nat) (v : Val) (toks : List Tok)
    (hp : plainTy ts a 64 id = true) (hv : hasTy ts 1000 id v = true)
    (hkeys : distinctKeys 1000 v)
    (hm : marshalV ts a trs fuel id v = ⟨toks, none⟩) :
    unmV ts a trs it fuel id (zeroVal ts 64 id) toks = .ok (rtV ts a trs it fuel id v) [] toks.length := by
  simpa using (rt_plain fuel 64 1000 1000 id v fuel (Nat.le_refl _) hp hv hkeys (Nat.le_refl _)).unmV hm (F := fuel) (Nat.le_refl _) []

def ceTsM : Types := [(0, .map 1 2), (1, .prim .string true), (2, .prim .int true)]
def ceAM : Atlas := ⟨[], .default⟩
def ceV : Val := .map (some [(.str [98], .int 1), (.str [97], .int 2)])
def ceTrs : Trs := ⟨fun _ _ => none, fun _ _ => none⟩

theorem ce_plain : plainTy ceTsM ceAM 64 0 = true := by
  decide
theorem ce_hasTy : hasTy ceTsM 1000 0 ceV = true := by
  decide
theorem ce_distinct : distinctKeys 1000 ceV := by
  show distinctKeys (999 + 1) (.map (some [(.str [98], .int 1), (.str [97], .int 2)]))
  refine ⟨by simp, by simp [keyStr], fun p hp => ?_⟩
  simp at hp
  rcases hp with rfl | rfl <;> (show distinctKeys (998 + 1) (Val.int _); simp [distinctKeys])
theorem ce_sort : sortKeys .default [(([98] : Bytes), Val.int 1), ([97], Val.int 2)] = [([97], .int 2), ([98], .int 1)] := by
  simp [sortKeys, List.mergeSort, keyLe, bytesLe, bytesLt]

/-- by evaluation up to the sort (`List.mergeSort` does not reduce), which `ce_sort` then carries out; likewise `ce_rt` -/
theorem ce_marshal : marshalV ceTsM ceAM ceTrs 100 0 ceV =
    ⟨[⟨.mapOpen 2, none⟩, ⟨.str [97], none⟩, ⟨.int 2, none⟩, ⟨.str [98], none⟩, ⟨.int 1, none⟩, ⟨.mapClose, none⟩], none⟩ := by
  have h : marshalV ceTsM ceAM ceTrs 100 0 ceV = ((MOut.ok [⟨.mapOpen 2, none⟩]).seq fun _ =>
      (marshalEntries ceTsM ceAM ceTrs 98 2 (sortKeys .default [([98], .int 1), ([97], .int 2)])).seq
        fun _ => .ok [⟨.mapClose, none⟩]) := by with_unfolding_all rfl
  rw [h, ce_sort]; with_unfolding_all rfl

theorem ce_rt (it : IfaceTys) : rtV ceTsM ceAM ceTrs it 100 0 ceV = .map (some [(.str [97], .int 2), (.str [98], .int 1)]) := by
  have h : rtV ceTsM ceAM ceTrs it 100 0 ceV = .map (some ((sortKeys .default [([98], .int 1), ([97], .int 2)]).map
      fun (s, x) => (Val.str s, rtV ceTsM ceAM ceTrs it 98 2 x))) := rfl
  rw [h, ce_sort]; rfl
theorem ce_norm (it : IfaceTys) : normV .pretty ceTsM ceAM ceTrs it 100 0 ceV = ceV := by
  rfl

/-- `complete_plain_statement` fails for the map `{"b":1, "a":2}` (listed in that order): the marshaller emits the
    entries in key order, the unmarshaller commits them in stream order, so the value comes back as
    `{"a":2, "b":1}`, whereas `normV` keeps the original order.  (Go maps are unordered: the culprit is the use of
    order-sensitive equality on `Val.map` in the statement, not the model.) -/
theorem complete_plain_false : ¬ complete_plain_statement := by
  intro h
  have h1 := h ceTsM ceAM ceTrs default 100 0 ceV _ ce_plain ce_hasTy (by decide) trivial ce_marshal (by simp)
  have h2 := complete_plain_rt ceTsM ceAM ceTrs default 100 0 ceV _ ce_plain ce_hasTy ce_distinct ce_marshal
  rw [h2, ce_rt, ce_norm] at h1
  simp [ceV] at h1

theorem complete_plain_sorted (ts : Types) (a : Atlas) (trs : Trs) (it : IfaceTys) (fuel id : Nat) (v : Val) (toks : List Tok)
    (hp : plainTy ts a 64 id = true) (hv : hasTy ts 1000 id v = true)
    (hkeys : distinctKeys 1000 v) (hsorted : mapsSorted a.defaultSort 1000 v)
    (hm : marshalV ts a trs fuel id v = ⟨toks, none⟩) :
    unmV ts a trs it fuel id (zeroVal ts 64 id) toks = .ok (normV .pretty ts a trs it fuel id v) [] toks.length := by
  rw [complete_plain_rt ts a trs it fuel id v toks hp hv hkeys hm,
    (rt_rel_norm ts a trs it (normRel_eq _) fuel).1 64 1000 id v (Nat.le_refl _) hp hsorted]

theorem complete_plain_perm (ts : Types) (a : Atlas) (trs : Trs) (it : IfaceTys) (fuel id : Nat) (v : Val) (toks : List Tok)
    (hp : plainTy ts a 64 id = true) (hv : hasTy ts 1000 id v = true)
    (hkeys : distinctKeys 1000 v)
    (hm : marshalV ts a trs fuel id v = ⟨toks, none⟩) :
    ∃ v', unmV ts a trs it fuel id (zeroVal ts 64 id) toks = .ok v' [] toks.length ∧
      ValEqv v' (normV .pretty ts a trs it fuel id v) :=
  ⟨_, complete_plain_rt ts a trs it fuel id v toks hp hv hkeys hm,
    (rt_rel_norm ts a trs it (normRel_eqv _) fuel).1 64 1000 id v (Nat.le_refl _) hp hkeys⟩

end Refmt.C13
