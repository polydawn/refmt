/-
  C19 — autogenerated struct mappings follow Go's embedding and tag rules.

  `exploreFields` (RefmtModel/Model/Obj/Autogen.lean) models the breadth-first field resolution of
  obj/atlas/structMapAutogen.go; `promoted` is the specification: Go's promotion rule applied to
  refmt's serial names (tag name if given and valid, else the field name with its first letter
  lower-cased): at the minimal depth exactly one tagged candidate wins, else exactly one candidate;
  otherwise the name is dropped.
-/
import RefmtModel
import RefmtProofs.Lemmas.Autogen
import RefmtProofs.Lemmas.AutogenBfs
import RefmtProofs.Lemmas.AutogenFrontier
import RefmtProofs.Lemmas.AutogenDag
namespace Refmt.C19
open Refmt Refmt.Obj

/-- the type id of the field a route addresses -/
def fieldAt (ts : Types) : Nat → Nat → List Nat → Option Nat
  | 0, _, _ => none
  | _, id, [] => some id
  | fuel+1, id, i :: rest =>
    match ts.get (derefOnce ts id) with
    | .struct fds => (match fds[i]? with
        | some fd => (match rest with | [] => some fd.ty | _ => fieldAt ts fuel fd.ty rest)
        | none => none)
    | _ => none

def lastField (ts : Types) : Nat → Nat → List Nat → Option FieldDesc
  | 0, _, _ => none
  | _, _, [] => none
  | fuel+1, id, i :: rest =>
    match ts.get (derefOnce ts id) with
    | .struct fds => (match fds[i]?, rest with
        | some fd, [] => some fd
        | some fd, _ => lastField ts fuel fd.ty rest
        | none, _ => none)
    | _ => none

theorem derefOnce_struct (ts : Types) (id : Nat) (fds : List FieldDesc) (h : ts.get id = .struct fds) :
    derefOnce ts id = id := by
  unfold derefOnce; rw [h]

theorem derefOnce_of_kind (ts : Types) (id : Nat) (h : kindIsStruct ts id = true) : derefOnce ts id = id := by
  unfold kindIsStruct at h
  split at h
  · rename_i fds hf; exact derefOnce_struct ts id fds hf
  · cases h

theorem fieldAt_eq_lastField (ts : Types) : ∀ (fuel id : Nat) (route : List Nat), route ≠ [] →
    fieldAt ts fuel id route = (lastField ts fuel id route).map (·.ty) := by
  intro fuel
  induction fuel with
  | zero => intro id route _; simp [fieldAt, lastField]
  | succ fuel ih =>
    intro id route hne
    cases route with
    | nil => exact absurd rfl hne
    | cons i rest =>
      rw [fieldAt, lastField]
      cases hty : ts.get (derefOnce ts id) with
      | struct fds =>
        simp only []
        cases hfd : fds[i]? with
        | none => simp
        | some fd =>
          cases rest with
          | nil => simp
          | cons j r => exact ih fd.ty (j :: r) (by simp)
      | _ => simp

theorem lastField_deref (ts : Types) (fuel id : Nat) (rest : List Nat) (h : kindIsStruct ts (derefOnce ts id) = true) :
    lastField ts fuel id rest = lastField ts fuel (derefOnce ts id) rest := by
  cases fuel with
  | zero => simp [lastField]
  | succ fuel =>
    cases rest with
    | nil => simp [lastField]
    | cons i r => rw [lastField, lastField, derefOnce_of_kind ts _ h]

def NodeOK (ts : Types) (root : Nat) (k : Nat) (c : Autogen.Node) : Prop :=
  c.1.length = k ∧ ∀ fuel rest, rest ≠ [] → lastField ts (fuel + k) root (c.1 ++ rest) = lastField ts fuel c.2 rest

/-- field invariant: the entry records type, export status, tag (`[45]` is "-") and omitempty of the Go field its
    route addresses -/
def FieldOK (ts : Types) (root : Nat) (N : Nat) (x : AField) : Prop :=
  x.route ≠ [] ∧ ∃ sf, lastField ts N root x.route = some sf ∧ x.ty = sf.ty ∧ sf.exported = true ∧
    sf.tag ≠ some [45] ∧ x.omitEmpty = optContains (parseTag (sf.tag.getD [])).2 Autogen.omitemptyOpt

theorem lastField_step (ts : Types) (fuel sty i : Nat) (rest : List Nat) (fds : List FieldDesc) (sf : FieldDesc)
    (hty : ts.get sty = .struct fds) (hi : fds[i]? = some sf) :
    lastField ts (fuel + 1) sty (i :: rest) = match rest with | [] => some sf | _ => lastField ts fuel sf.ty rest := by
  rw [lastField, derefOnce_struct ts sty fds hty, hty]
  simp only [hi]
  cases rest <;> rfl

theorem nodeOK_child (ts : Types) (u : UTab) (root : Nat) (k : Nat) (c : Autogen.Node) (hc : NodeOK ts root k c)
    (n : Autogen.Node) (hn : n ∈ Autogen.childrenOf ts u c) : NodeOK ts root (k + 1) n := by
  obtain ⟨fds, sf, i, hty, hi, hm⟩ := Autogen.mem_childrenOf ts u c n hn
  obtain ⟨rfl, hk⟩ := Autogen.mem_childOut ts u c.1 sf i n hm
  obtain ⟨hlen, hres⟩ := hc
  refine ⟨by simp [hlen], ?_⟩
  intro fuel rest hne
  have h1 := hres (fuel + 1) (i :: rest) (by simp)
  have e1 : fuel + 1 + k = fuel + (k + 1) := by omega
  simp only [List.append_assoc, List.singleton_append]
  rw [← e1, h1, lastField_step ts fuel c.2 i rest fds sf hty hi]
  cases rest with
  | nil => exact absurd rfl hne
  | cons j r => exact lastField_deref ts fuel sf.ty (j :: r) hk

theorem nodeOK_field (ts : Types) (u : UTab) (root : Nat) (N : Nat) (k : Nat) (c : Autogen.Node)
    (hc : NodeOK ts root k c) (hk : k < N) (x : AField) (hx : x ∈ Autogen.fieldsOf ts u c) : FieldOK ts root N x := by
  obtain ⟨fds, sf, i, hty, hi, hm⟩ := Autogen.mem_fieldsOf ts u c x hx
  obtain ⟨hr, hxty, hexp, htag, hom⟩ := Autogen.mem_fieldOut ts u c.1 sf i x hm
  obtain ⟨hlen, hres⟩ := hc
  refine ⟨by rw [hr]; simp, sf, ?_, hxty, hexp, htag, hom⟩
  -- `N - k` levels are left below this node, at least one
  have h1 := hres (N - k) [i] (by simp)
  have e1 : N - k + k = N := by omega
  have e2 : N - k = (N - k - 1) + 1 := by omega
  rw [e1] at h1
  rw [hr, h1, e2, lastField_step ts (N - k - 1) c.2 i [] fds sf hty hi]

/-! #### the BFS result is the promoted set

    With the multiplicity of a type carried over to the structs it embeds, the BFS and Go's promotion rule agree
    on every type table (cyclic pointer embeddings included: the BFS cuts them by `visited`, `candidates` by its
    `path` check; both stop after 64 embedding levels).  Name by name, `selectName` gives the same answer on the
    raw BFS list and on the candidate list (`Autogen.bfs_sel`). -/

theorem raw_sel_candidates (ts : Types) (u : UTab) (root : Nat) (n : Bytes) :
    selectName (Autogen.rawFields ts u root) n = selectName (candidates ts u 64 [] [] root) n := by
  have h := Autogen.bfs_sel ts u 64 0 [([], [], root)] [([], root)] [] [] [] [] (Autogen.JInv.init ts u root)
    (Autogen.AccInv.init ts u) n
  rw [Autogen.candsX_singleton, List.nil_append] at h
  exact h

theorem explore_eq_promoted_all (ts : Types) (u : UTab) (root : Nat) (mode : KeySort) :
    ∀ f, f ∈ exploreFields ts u root mode ↔ f ∈ promoted ts u root := by
  intro f
  rw [Autogen.mem_exploreFields_iff, Autogen.mem_promoted_iff]
  simp only [raw_sel_candidates]

theorem cands_fieldOK (ts : Types) (u : UTab) (root : Nat) (f : AField) (h : f ∈ candidates ts u 64 [] [] root) :
    FieldOK ts root 64 f :=
  Autogen.candidates_mem ts u 64 (NodeOK ts root) (FieldOK ts root 64) (nodeOK_child ts u root) (nodeOK_field ts u root 64)
    64 0 [] [] root (by omega) ⟨rfl, fun fuel rest _ => by simp⟩ f h

theorem explore_fieldOK (ts : Types) (u : UTab) (root : Nat) (mode : KeySort) (f : AField)
    (h : f ∈ exploreFields ts u root mode) : FieldOK ts root 64 f :=
  let ⟨n, hn⟩ := (Autogen.mem_promoted_iff ts u root f).mp ((explore_eq_promoted_all ts u root mode f).mp h)
  cands_fieldOK ts u root f (Autogen.selectName_some _ n f hn).1

-- `hroot` is part of the property as stated; the proof does not need it
set_option linter.unusedVariables false in
theorem route_resolves (ts : Types) (u : UTab) (root : Nat) (mode : KeySort) (f : AField)
    (hroot : kindIsStruct ts root = true) (h : f ∈ exploreFields ts u root mode) :
    f.route ≠ [] ∧ fieldAt ts 64 root f.route = some f.ty := by
  obtain ⟨hne, sf, hl, hty, _⟩ := explore_fieldOK ts u root mode f h
  refine ⟨hne, ?_⟩
  rw [fieldAt_eq_lastField ts 64 root f.route hne, hl, hty]
  rfl

theorem names_distinct (ts : Types) (u : UTab) (root : Nat) (mode : KeySort) :
    ((exploreFields ts u root mode).map (·.name)).Nodup := by
  rw [((Autogen.exploreFields_perm ts u root mode).map (·.name)).nodup_iff, List.Nodup, List.pairwise_map]
  exact List.Pairwise.imp (fun {a b} hab => hab.2) (Autogen.picks_strict _)

theorem explore_lastField (ts : Types) (u : UTab) (root : Nat) (mode : KeySort) (f : AField) (fd : FieldDesc)
    (h : f ∈ exploreFields ts u root mode) (hl : lastField ts 64 root f.route = some fd) :
    fd.exported = true ∧ fd.tag ≠ some [45] ∧
    f.omitEmpty = optContains (parseTag (fd.tag.getD [])).2 Autogen.omitemptyOpt := by
  obtain ⟨_, sf, hl', _, hexp, htag, hom⟩ := explore_fieldOK ts u root mode f h
  rw [hl] at hl'
  cases hl'
  exact ⟨hexp, htag, hom⟩

theorem unexported_unmapped (ts : Types) (u : UTab) (root : Nat) (mode : KeySort) (f : AField) (fd : FieldDesc)
    (h : f ∈ exploreFields ts u root mode) (hl : lastField ts 64 root f.route = some fd) : fd.exported = true :=
  (explore_lastField ts u root mode f fd h hl).1

theorem dash_unmapped (ts : Types) (u : UTab) (root : Nat) (mode : KeySort) (f : AField) (fd : FieldDesc)
    (h : f ∈ exploreFields ts u root mode) (hl : lastField ts 64 root f.route = some fd) : fd.tag ≠ some [45] :=
  (explore_lastField ts u root mode f fd h hl).2.1

theorem omitempty_recorded (ts : Types) (u : UTab) (root : Nat) (mode : KeySort) (f : AField) (fd : FieldDesc)
    (h : f ∈ exploreFields ts u root mode) (hl : lastField ts 64 root f.route = some fd) :
    f.omitEmpty = optContains (parseTag (fd.tag.getD [])).2 [111, 109, 105, 116, 101, 109, 112, 116, 121] :=
  (explore_lastField ts u root mode f fd h hl).2.2

theorem dominant_is_select (g : List AField) (name : Bytes) (hn : ∀ f ∈ g, f.name = name) (hne : g ≠ [])
    (hs : g.Pairwise (fun x y => byNameLe x y = true)) :
    dominantField g = selectName g name :=
  Autogen.dominant_is_select g name hn hne hs

theorem sorted_by_mode (ts : Types) (u : UTab) (root : Nat) :
    (exploreFields ts u root .default).Pairwise (fun x y => routeLt y.route x.route = false) ∧
    (exploreFields ts u root .strings).Pairwise (fun x y => bytesLe x.name y.name = true) ∧
    (exploreFields ts u root .rfc7049).Pairwise (fun x y => rfcLe x y = true) := by
  refine ⟨?_, ?_, ?_⟩
  · rw [Autogen.exploreFields_eq]
    have := List.pairwise_mergeSort (le := fun (x y : AField) => Autogen.routeLe x.route y.route)
      (fun x y z h1 h2 => Autogen.routeLe_trans x.route y.route z.route h1 h2)
      (fun x y => by simpa using Autogen.routeLe_total x.route y.route) (Autogen.picks (Autogen.rawFields ts u root))
    exact List.Pairwise.imp (fun {a b} hab => by simpa [Autogen.routeLe] using hab) this
  · rw [Autogen.exploreFields_eq]
    exact List.Pairwise.imp (fun {a b} hab => hab.1) (Autogen.picks_strict _)
  · rw [Autogen.exploreFields_eq]
    exact List.pairwise_mergeSort (le := rfcLe) Autogen.rfcLe_trans
      (fun x y => by simpa using Autogen.rfcLe_total x y) (Autogen.picks (Autogen.rawFields ts u root))

/-- the struct types expanded along all embedding paths from `sty`; "the embedding graph is a tree" means this
    list has no duplicates (every struct type is reached by at most one path) -/
def expanded (ts : Types) (u : UTab) : Nat → List Nat → Nat → List Nat
  | 0, _, _ => []
  | fuel+1, path, sty =>
    if path.contains sty then [] else
    sty :: (match ts.get sty with
      | .struct fds =>
        fds.flatMap fun sf =>
          let skip := if sf.embedded then (!sf.exported && !kindIsStruct ts (derefOnce ts sf.ty)) else !sf.exported
          let tag := sf.tag.getD []
          let nm := if isValidTag u (parseTag tag).1 then (parseTag tag).1 else []
          let ft := derefOnce ts sf.ty
          if skip || tag == [45] || !nm.isEmpty || !sf.embedded || !kindIsStruct ts ft then []
          else expanded ts u fuel (sty :: path) ft
      | _ => [])

-- `htree` and `hroot` are part of the property as stated; the proof does not need them
set_option linter.unusedVariables false in
theorem explore_eq_promoted (ts : Types) (u : UTab) (root : Nat)
    (htree : (expanded ts u 64 [] root).Nodup) (hroot : kindIsStruct ts root = true) :
    ∀ f, f ∈ exploreFields ts u root .strings ↔ f ∈ promoted ts u root :=
  explore_eq_promoted_all ts u root .strings

-- `hroot` is part of the property as stated; the proof does not need it
set_option linter.unusedVariables false in
theorem explore_eq_promoted_dag (ts : Types) (u : UTab) (root : Nat) (hroot : kindIsStruct ts root = true) :
    ∀ f, f ∈ exploreFields ts u root .strings ↔ f ∈ promoted ts u root :=
  explore_eq_promoted_all ts u root .strings

/-! #### a diamond two embedding levels above a field

    `S{A;B}  A{C}  B{C}  C{D}  D{X int}` (all fields embedded and exported, `X` a plain field).  Go's rule finds
    `X` at depth 4 along `S.A.C.D.X` and `S.B.C.D.X`: ambiguous, not promoted.  The embedding graph is not a tree
    (`diamond_not_tree`).  The BFS reaches `C` twice at level 2; that multiplicity carries over to `D`, so `X` is
    recorded twice and annihilated, in agreement with `promoted` (`diamond_drops_ambiguous_name`). -/

def diamond : Types := [
  (0, .struct [⟨[65], 1, true, true, none⟩, ⟨[66], 2, true, true, none⟩]),
  (1, .struct [⟨[67], 3, true, true, none⟩]),
  (2, .struct [⟨[67], 3, true, true, none⟩]),
  (3, .struct [⟨[68], 4, true, true, none⟩]),
  (4, .struct [⟨[88], 5, true, false, none⟩]),
  (5, .prim .int true)]

theorem diamond_not_tree : ¬ (expanded diamond uTab 64 [] 0).Nodup := by decide

theorem diamond_drops_ambiguous_name (mode : KeySort) :
    kindIsStruct diamond 0 = true ∧
    candidates diamond uTab 64 [] [] 0 =
      [⟨[120], [0, 0, 0, 0], 5, false, false⟩, ⟨[120], [1, 0, 0, 0], 5, false, false⟩] ∧
    exploreFields diamond uTab 0 mode = [] ∧ promoted diamond uTab 0 = [] := by
  have hc : candidates diamond uTab 64 [] [] 0 =
      [⟨[120], [0, 0, 0, 0], 5, false, false⟩, ⟨[120], [1, 0, 0, 0], 5, false, false⟩] := by decide
  have hp : promoted diamond uTab 0 = [] := by
    apply List.eq_nil_iff_forall_not_mem.mpr
    intro f hf
    obtain ⟨n, hn⟩ := (Autogen.mem_promoted_iff diamond uTab 0 f).mp hf
    -- both candidates are named "x", and the promotion rule drops that name
    obtain ⟨hm, hname⟩ := Autogen.selectName_some _ n f hn
    have hn120 : n = [120] := by
      rw [hc] at hm
      simp only [List.mem_cons, List.not_mem_nil, or_false] at hm
      rcases hm with rfl | rfl <;> exact hname.symm
    subst hn120
    have : selectName (candidates diamond uTab 64 [] [] 0) [120] = none := by decide
    rw [this] at hn
    cases hn
  refine ⟨by decide, hc, ?_, hp⟩
  apply List.eq_nil_iff_forall_not_mem.mpr
  intro f hf
  rw [explore_eq_promoted_all, hp] at hf
  cases hf

end Refmt.C19
