/-
  C01 — Marshal then Unmarshal returns the original value (CBOR and JSON).

  In refmt, Marshal = object marshaller pumped into an encoder, Unmarshal = decoder pumped into an object
  unmarshaller.  The model composes the four machines the same way (`viaCbor`, `viaJson`), and the proof factors the
  round trip through the token-level one, `viaTokens` (marshaller straight into unmarshaller; the model of Clone,
  `C11.clone`, is a second definition with the same body: `C01Full.viaTokens_eq_clone`, by `rfl`):

  * `transport_cbor`: whatever token list the marshaller emits (a well-formed item by C07, with numbers a Go value can
    hold), the CBOR encoder accepts it with done exactly at the end and the decoder returns the same tokens up to
    `canonTok` (non-negative ints unsigned).  Besides C07's tree facts this uses that the marshaller only declares exact,
    non-negative lengths (`C01L.marshal_lenNN`).
  * `unm_canon_fixed`: no unmarshal machine, for any type, atlas, current value and fuel, can tell a token list from its
    `canonTok` image, provided signed-integer tokens fit an int64 (`intFits`, implied by `carryCbor`); without that it
    is false (`unm_canon_false`).  `C01L.unm_canon'` is the hypothesis-free form for `canon'` (= `canonTok` cut to int64).
  * `unm_via_cbor`, `cbor_eq_tokens`: hence every unmarshaller makes of the decoder's tokens what it makes of the
    marshaller's, and for EVERY type, atlas and value:  viaCbor v = viaTokens v.
  * `transport_json`: the same for JSON on what JSON can carry; tokens come back as `retypeTok`.
  * `unm_retype_typed_partial`, `json_eq_tokens_typed_partial`: on typed targets (`typedTy`: no untyped slot is
    reached), whenever the token-level unmarshal / round trip succeeds, the JSON one succeeds with the same value, when
    strings are valid UTF-8 and no float is -0 (`plainJson`) and no struct-map field is ignored (`C01L.noIgnore`).  As
    equalities the two statements are false (`*_statement`, `*_false`): nothing says the value inhabits the type.
  * `roundtrip_plain_*`: with `C13.complete_plain_perm` (the token-level round trip reconstructs `normV`), the full
    statement for the plain kinds; the whole type domain (structs, unions, transforms, untyped slots) is
    Props/C01Full.lean (CBOR) and Props/C01JsonFull.lean (JSON).
  * Non-vacuity: `exTs` / `exAtlas` / `exVal` at the end (slice of struct-map structs with int and float64 fields).
-/
import RefmtProofs.Props.C11
import RefmtProofs.Lemmas.Transport
import RefmtProofs.Lemmas.UnmCanon
import RefmtProofs.Lemmas.TransportJson
import RefmtProofs.Lemmas.UnmRetype
namespace Refmt.C01
open Refmt Refmt.Obj

def viaTokens (ts : Types) (a : Atlas) (trs : Trs) (it : IfaceTys) (fuel id : Nat) (v : Val) : Option Val :=
  let mo := marshalV ts a trs fuel id v
  match mo.fail with
  | some _ => none
  | none =>
    (match unmV ts a trs it fuel id (zeroVal ts 64 id) mo.toks with
     | .ok r [] _ => some r
     | _ => none)

def encodeCbor (toks : List Tok) : Option Bytes :=
  let (fl, ws) := runOut CborEnc.step CborEnc.init toks
  if fl.getLast? = some Flag.done then some ws.flatten else none

def encodeJson (c : JsonEnc.Cfg) (toks : List Tok) : Option Bytes :=
  let (fl, ws) := runOut (JsonEnc.step c FloatText.jsonFloat) JsonEnc.init toks
  if fl.getLast? = some Flag.done then some ws.flatten else none

/-- refmt.MarshalAtlased, then refmt.UnmarshalAtlased, for CBOR -/
def viaCbor (ts : Types) (a : Atlas) (trs : Trs) (it : IfaceTys) (fuel id : Nat) (v : Val) : Option Val :=
  let mo := marshalV ts a trs fuel id v
  match mo.fail with
  | some _ => none
  | none =>
    (match encodeCbor mo.toks with
     | none => none
     | some bs =>
       let o := CborDec.decode false (Rd.ofBytes bs)
       if o.res.isOk then
         (match unmV ts a trs it fuel id (zeroVal ts 64 id) o.toks with
          | .ok r [] _ => some r
          | _ => none)
       else none)

def viaJson (c : JsonEnc.Cfg) (ts : Types) (a : Atlas) (trs : Trs) (it : IfaceTys) (fuel id : Nat) (v : Val) : Option Val :=
  let mo := marshalV ts a trs fuel id v
  match mo.fail with
  | some _ => none
  | none =>
    (match encodeJson c mo.toks with
     | none => none
     | some bs =>
       let o := JsonDec.decode (Rd.ofBytes bs)
       if o.res.isOk then
         (match unmV ts a trs it fuel id (zeroVal ts 64 id) o.toks with
          | .ok r [] _ => some r
          | _ => none)
       else none)

/-- a token a Go program can produce and CBOR can carry: numbers within the 64-bit kinds, tags non-negative ints,
    strings within the decoder's built-in 32 MiB per-item cap -/
def carryCbor (t : Tok) : Bool :=
  (match t.body with
   | .uint n => decide (n < two64)
   | .int i => decide (-(two63 : Int) ≤ i) && decide (i < (two63 : Int))
   | .float b => decide (b < two64)
   | .str s => decide (s.length ≤ 33554432)
   | .bytes b => decide (b.length ≤ 33554432)
   | .mapOpen l | .arrOpen l => decide (l < (two63 : Int))
   | _ => true) &&
  (match t.tag with | some g => decide (0 ≤ g) && decide (g < (two63 : Int)) | none => true)

theorem carryCbor_eq : carryCbor = C01L.cborOk := rfl

theorem transport_cbor (ts : Types) (a : Atlas) (trs : Trs) (fuel id : Nat) (v : Val) (toks : List Tok)
    (hm : marshalV ts a trs fuel id v = ⟨toks, none⟩) (hc : toks.all carryCbor = true) :
    ∃ bs, encodeCbor toks = some bs ∧
      (let o := CborDec.decode false (Rd.ofBytes bs)
       o.toks = toks.map C02.canonTok ∧ o.res = .ok () ∧ o.rd.data = []) := by
  obtain ⟨tv, rfl, h1, h2, h3⟩ := C07.marshal_wf_strong ts a trs fuel id v toks hm
  have hn := C01L.marshal_lenNN ts a trs fuel id v _ hm
  obtain ⟨hd, hdec⟩ := C01L.transport_tree tv (carryCbor_eq ▸ hc) hn h1 h2 h3
  refine ⟨(runOut CborEnc.step CborEnc.init tv.flatten).2.flatten, ?_, hdec⟩
  unfold encodeCbor
  simp only [hd, if_true]

def URes.mapRest (f : List Tok → List Tok) : URes → URes
  | .ok v r k => .ok v (f r) k
  | x => x

/-- false (`unm_canon_false`); true with the hypothesis `intFits` on the tokens (`unm_canon_fixed`) -/
def unm_canon_statement : Prop :=
  ∀ (ts : Types) (a : Atlas) (trs : Trs) (it : IfaceTys) (fuel id : Nat) (cur : Val) (toks : List Tok),
    unmV ts a trs it fuel id cur (toks.map C02.canonTok) =
      URes.mapRest (List.map C02.canonTok) (unmV ts a trs it fuel id cur toks)

def cexIt : IfaceTys := ⟨0, 0, 0, 1, 2, 0, 0, 0, 0⟩
def cexTrs : Trs := ⟨fun _ _ => none, fun _ _ => none⟩

/-- `canonTok` also rewrites signed integers ≥ 2^63 (which no Go `int64` holds, but
    which are tokens of the model) and an untyped slot tells them apart: `.int 2^63` is stored as an `int`,
    `.uint 2^63` (its `canonTok` image) as a `uint64`. -/
theorem unm_canon_false : ¬ unm_canon_statement := by
  intro h
  have h0 := h [(0, .iface false)] ⟨[], .default⟩ cexTrs cexIt 3 0 (.iface none) [⟨.int 9223372036854775808, none⟩]
  have e1 : unmV [(0, .iface false)] ⟨[], .default⟩ cexTrs cexIt 3 0 (.iface none) [⟨.int 9223372036854775808, none⟩] =
      .ok (.iface (some (1, .int 9223372036854775808))) [] 1 := by with_unfolding_all rfl
  have e2 : unmV [(0, .iface false)] ⟨[], .default⟩ cexTrs cexIt 3 0 (.iface none)
      ([⟨.int 9223372036854775808, none⟩].map C02.canonTok) =
      .ok (.iface (some (2, .uint 9223372036854775808))) [] 1 := by with_unfolding_all rfl
  rw [e1, e2] at h0
  simp [URes.mapRest] at h0

/-- signed integer tokens fit an int64 (every token the marshaller emits for a Go value does; part of `carryCbor`) -/
def intFits (t : Tok) : Bool :=
  match t.body with
  | .int i => decide (i < (two63 : Int))
  | _ => true

theorem carryCbor_intFits {t : Tok} (h : carryCbor t = true) : intFits t = true := by
  obtain ⟨body, tag⟩ := t
  unfold carryCbor at h
  unfold intFits
  cases body with
  | int i =>
    simp only [Bool.and_eq_true, decide_eq_true_eq] at h ⊢
    exact h.1.2
  | _ => rfl

theorem canonTok_eq_canon' {t : Tok} (h : intFits t = true) : C02.canonTok t = C01L.canon' t := by
  obtain ⟨body, tag⟩ := t
  unfold intFits at h
  cases body with
  | int i =>
    simp only [decide_eq_true_eq] at h
    simp only [C02.canonTok, C01L.canon', h, and_true, ge_iff_le]
  | _ => rfl

theorem map_canonTok_eq {toks : List Tok} (h : toks.all intFits = true) :
    toks.map C02.canonTok = toks.map C01L.canon' :=
  List.map_congr_left fun t ht => canonTok_eq_canon' (List.all_eq_true.mp h t ht)

theorem mapRest_eq (f : List Tok → List Tok) (x : URes) : URes.mapRest f x = C01L.mapRest f x := by
  cases x <;> rfl

theorem unm_canon_fixed (ts : Types) (a : Atlas) (trs : Trs) (it : IfaceTys) (fuel id : Nat) (cur : Val) (toks : List Tok)
    (hfit : toks.all intFits = true) :
    unmV ts a trs it fuel id cur (toks.map C02.canonTok) =
      URes.mapRest (List.map C02.canonTok) (unmV ts a trs it fuel id cur toks) := by
  rw [map_canonTok_eq hfit, C01L.unm_canon', mapRest_eq]
  cases h : unmV ts a trs it fuel id cur toks with
  | ok v r u =>
    obtain ⟨c, rfl, -, -⟩ := (reads_iff (j := .v id cur)).1 h
    rw [List.all_append, Bool.and_eq_true] at hfit
    simp only [C01L.mapRest_ok, map_canonTok_eq hfit.2]
  | _ => rfl

theorem unm_via_cbor (ts : Types) (a : Atlas) (trs : Trs) (fuel id : Nat) (v : Val) (toks : List Tok)
    (hm : marshalV ts a trs fuel id v = ⟨toks, none⟩) (hc : toks.all carryCbor = true) :
    ∃ bs, encodeCbor toks = some bs ∧ (CborDec.decode false (Rd.ofBytes bs)).res = .ok () ∧
      ∀ (it : IfaceTys) (fuel' id' : Nat) (cur : Val),
        unmV ts a trs it fuel' id' cur (CborDec.decode false (Rd.ofBytes bs)).toks =
          URes.mapRest (List.map C02.canonTok) (unmV ts a trs it fuel' id' cur toks) := by
  obtain ⟨bs, hbs, ht, hr, -⟩ := transport_cbor ts a trs fuel id v toks hm hc
  have hfit : toks.all intFits = true :=
    List.all_eq_true.mpr fun t ht => carryCbor_intFits (List.all_eq_true.mp hc t ht)
  exact ⟨bs, hbs, hr, fun it fuel' id' cur => by rw [ht]; exact unm_canon_fixed ts a trs it fuel' id' cur toks hfit⟩

theorem cbor_eq_tokens (ts : Types) (a : Atlas) (trs : Trs) (it : IfaceTys) (fuel id : Nat) (v : Val)
    (hc : (marshalV ts a trs fuel id v).toks.all carryCbor = true) :
    viaCbor ts a trs it fuel id v = viaTokens ts a trs it fuel id v := by
  unfold viaCbor viaTokens
  cases hmo : marshalV ts a trs fuel id v with
  | mk toks fail =>
    rw [hmo] at hc
    cases fail with
    | some f => rfl
    | none =>
      obtain ⟨bs, hbs, hr, hu⟩ := unm_via_cbor ts a trs fuel id v toks hmo hc
      simp only [hbs, hr, hu, Except.isOk, Except.toBool, if_true]
      -- the unmarshaller's rest is compared with `[]` only
      cases unmV ts a trs it fuel id (zeroVal ts 64 id) toks with
      | ok r rest u => cases rest <;> rfl
      | _ => rfl

/-- what JSON can carry: no byte strings, no tags, finite floats whose text the decoder types as a number
    (`C03L.floatOk`; that the number read is the float again is `plainJson`), bytes < 256 in strings -/
def carryJson (t : Tok) : Bool :=
  t.tag.isNone &&
  (match t.body with
   | .uint n => decide (n < two64)
   | .int i => decide (-(two63 : Int) ≤ i) && decide (i < (two63 : Int))
   | .float b => decide (b < two64) && !floatNonFinite b && C03L.floatOk b
   | .str s => s.all (· < 256)
   | .bytes _ => false
   | _ => true)

theorem carryJson_eq : carryJson = C01L.jsonOk := rfl

theorem transport_json (c : JsonEnc.Cfg) (ts : Types) (a : Atlas) (trs : Trs) (fuel id : Nat) (v : Val) (toks : List Tok)
    (hcfg : C03.cfgOk c = true) (hm : marshalV ts a trs fuel id v = ⟨toks, none⟩) (hc : toks.all carryJson = true) :
    ∃ bs, encodeJson c toks = some bs ∧
      (let o := JsonDec.decode (Rd.ofBytes bs)
       o.toks = toks.map Spec.Json.retypeTok ∧ o.res = .ok ()) := by
  obtain ⟨tv, rfl, h1, h2, h3⟩ := C07.marshal_wf_strong ts a trs fuel id v toks hm
  obtain ⟨hd, hdec⟩ := C01L.transport_tree_json C01L.jsonOk_scalar C01L.jsonOk_float c hcfg tv (carryJson_eq ▸ hc) h2 h3
  refine ⟨(runOut (JsonEnc.step c FloatText.jsonFloat) JsonEnc.init tv.flatten).2.flatten, ?_, hdec⟩
  unfold encodeJson
  simp only [hd, if_true]

/-- the differences JSON makes that a typed target can see: invalid UTF-8 is replaced and -0 is re-read as 0;
    tokens free of both.  For float tokens also `C01L.rereadOk b`: the token the decoder types the float's text as (a
    float token, or an integer token when the text is integral) stores back exactly `b` into a float target; it subsumes
    the -0 exclusion before it, which no proof reads. -/
def plainJson (t : Tok) : Bool :=
  match t.body with
  | .str s => toValidUtf8 s == s
  | .float b => b != 9223372036854775808 && C01L.rereadOk b
  | _ => true

theorem plainJson_eq : plainJson = C01L.plainOk := rfl

/-- false (`unm_retype_typed_false`); the direction that holds is `unm_retype_typed_partial` -/
def unm_retype_typed_statement : Prop :=
  ∀ (ts : Types) (a : Atlas) (trs : Trs) (it : IfaceTys) (fuel id : Nat) (v : Val) (toks : List Tok),
    typedTy ts a 64 id = true → marshalV ts a trs fuel id v = ⟨toks, none⟩ →
    toks.all carryJson = true → toks.all plainJson = true → toks.length + 64 < fuel →
    unmV ts a trs it fuel id (zeroVal ts 64 id) (toks.map Spec.Json.retypeTok) =
      URes.mapRest (List.map Spec.Json.retypeTok) (unmV ts a trs it fuel id (zeroVal ts 64 id) toks)

/-- false (`json_eq_tokens_typed_false`); true when the token-level round trip succeeds (`json_eq_tokens_typed_partial`) -/
def json_eq_tokens_typed_statement : Prop :=
  ∀ (c : JsonEnc.Cfg) (ts : Types) (a : Atlas) (trs : Trs) (it : IfaceTys) (fuel id : Nat) (v : Val),
    C03.cfgOk c = true → typedTy ts a 64 id = true →
    (marshalV ts a trs fuel id v).toks.all carryJson = true → (marshalV ts a trs fuel id v).toks.all plainJson = true →
    (marshalV ts a trs fuel id v).toks.length + 64 < fuel →
    viaJson c ts a trs it fuel id v = viaTokens ts a trs it fuel id v

/-! Both are false: nothing says the value inhabits the type.  The marshaller's primitive machine
    emits the token of the *value*, so the ill-typed value `float64 1.0` at type `int` marshals to the token
    `float 1.0`; the token-level round trip rejects it (a float token into an int target), but its JSON text is `1`,
    which comes back as the token `int 1` and is accepted: JSON accepts strictly more. -/

def cexTs : Types := [(0, .prim .int false)]
def cexOne : Nat := 4607182418800017408   -- bits of 1.0

theorem unm_retype_typed_false : ¬ unm_retype_typed_statement := by
  intro h
  have h0 := h cexTs ⟨[], .default⟩ cexTrs cexIt 70 0 (.float cexOne) [⟨.float cexOne, none⟩]
    (by with_unfolding_all rfl) (by with_unfolding_all rfl) (by with_unfolding_all rfl) (by with_unfolding_all rfl)
    (by decide)
  have e1 : unmV cexTs ⟨[], .default⟩ cexTrs cexIt 70 0 (zeroVal cexTs 64 0) [⟨.float cexOne, none⟩] = .err 0 := by
    with_unfolding_all rfl
  have e2 : unmV cexTs ⟨[], .default⟩ cexTrs cexIt 70 0 (zeroVal cexTs 64 0)
      ([⟨.float cexOne, none⟩].map Spec.Json.retypeTok) = .ok (.int 1) [] 1 := by
    with_unfolding_all rfl
  rw [e1, e2] at h0
  simp [URes.mapRest] at h0

theorem json_eq_tokens_typed_false : ¬ json_eq_tokens_typed_statement := by
  intro h
  have h0 := h ⟨none, []⟩ cexTs ⟨[], .default⟩ cexTrs cexIt 70 0 (.float cexOne)
    (by decide) (by with_unfolding_all rfl) (by with_unfolding_all rfl) (by with_unfolding_all rfl)
    (by with_unfolding_all decide)
  have e1 : viaTokens cexTs ⟨[], .default⟩ cexTrs cexIt 70 0 (.float cexOne) = none := by
    with_unfolding_all rfl
  have e2 : viaJson ⟨none, []⟩ cexTs ⟨[], .default⟩ cexTrs cexIt 70 0 (.float cexOne) = some (.int 1) := by
    with_unfolding_all rfl
  rw [e1, e2] at h0
  simp at h0

theorem carryJson_plain_jOk {t : Tok} (hc : carryJson t = true) (hp : plainJson t = true) : C01L.jOk t = true :=
  Bool.and_eq_true_iff.mpr ⟨carryJson_eq ▸ hc, plainJson_eq ▸ hp⟩

/-- The part of `unm_retype_typed_statement` that holds: one direction only (acceptance of `toks` is a hypothesis; the
    converse needs the value to inhabit the type), and under `C01L.noIgnore a` (an ignored field's value is slurped by
    the wildcard machine over `it`, whose sub-machines `typedTy` does not constrain); but for any token list and current
    value, with no fuel side condition and no reference to the marshaller. -/
theorem unm_retype_typed_partial (ts : Types) (a : Atlas) (trs : Trs) (it : IfaceTys) (fuel id : Nat) (cur : Val)
    (toks : List Tok) (r : Val) (rest : List Tok) (u : Nat)
    (hni : C01L.noIgnore a = true) (ht : typedTy ts a 64 id = true)
    (hc : toks.all carryJson = true) (hp : toks.all plainJson = true)
    (h : unmV ts a trs it fuel id cur toks = .ok r rest u) :
    unmV ts a trs it fuel id cur (toks.map Spec.Json.retypeTok) = .ok r (rest.map Spec.Json.retypeTok) u := by
  have hj : toks.all C01L.jOk = true :=
    List.all_eq_true.mpr fun t hm =>
      carryJson_plain_jOk (List.all_eq_true.mp hc t hm) (List.all_eq_true.mp hp t hm)
  exact C01L.unm_retype_ok ts a trs it fuel id cur toks r rest u hni ht hj h

theorem json_eq_tokens_typed_partial (c : JsonEnc.Cfg) (ts : Types) (a : Atlas) (trs : Trs) (it : IfaceTys)
    (fuel id : Nat) (v : Val)
    (hcfg : C03.cfgOk c = true) (hni : C01L.noIgnore a = true) (ht : typedTy ts a 64 id = true)
    (hc : (marshalV ts a trs fuel id v).toks.all carryJson = true)
    (hp : (marshalV ts a trs fuel id v).toks.all plainJson = true)
    (hs : (viaTokens ts a trs it fuel id v).isSome = true) :
    viaJson c ts a trs it fuel id v = viaTokens ts a trs it fuel id v := by
  unfold viaJson viaTokens at *
  cases hmo : marshalV ts a trs fuel id v with
  | mk toks fail =>
    rw [hmo] at hc hp hs
    simp only at hc hp hs ⊢
    cases fail with
    | some f => rfl
    | none =>
      obtain ⟨bs, hbs, hto, hr⟩ := transport_json c ts a trs fuel id v toks hcfg hmo hc
      simp only [hbs, hto, hr, Except.isOk, Except.toBool, if_true]
      cases hu : unmV ts a trs it fuel id (zeroVal ts 64 id) toks with
      | ok r rest u =>
        rw [unm_retype_typed_partial ts a trs it fuel id _ toks r rest u hni ht hc hp hu]
        cases rest <;> rfl
      | _ => rw [hu] at hs; simp at hs

-- `normV` asks of its format only whether it is `.json` (RefmtModel/Spec/Equiv.lean), so `.pretty`, here and in every
-- token-level or CBOR statement, stands for any format that hands the tokens over unchanged
theorem viaTokens_plain (ts : Types) (a : Atlas) (trs : Trs) (it : IfaceTys) (fuel id : Nat) (v : Val)
    (hp : C13.plainTy ts a 64 id = true) (hv : C13.hasTy ts 1000 id v = true) (hk : distinctKeys 1000 v)
    (hok : (marshalV ts a trs fuel id v).fail = none) :
    ∃ r, viaTokens ts a trs it fuel id v = some r ∧ ValEqv r (normV .pretty ts a trs it fuel id v) :=
  C11.clone_equal_plain ts a trs it fuel id v hp hv hk hok     -- `viaTokens` unfolds to `C11.clone`

/-- CBOR, every plain type, every value of it with distinct map keys and wire-representable leaves:
    Marshal then Unmarshal returns the specified value `normV` (up to the order in which the model lists map entries) -/
theorem roundtrip_plain_cbor (ts : Types) (a : Atlas) (trs : Trs) (it : IfaceTys) (fuel id : Nat) (v : Val)
    (hp : C13.plainTy ts a 64 id = true) (hv : C13.hasTy ts 1000 id v = true) (hk : distinctKeys 1000 v)
    (hok : (marshalV ts a trs fuel id v).fail = none)
    (hc : (marshalV ts a trs fuel id v).toks.all carryCbor = true) :
    ∃ r, viaCbor ts a trs it fuel id v = some r ∧ ValEqv r (normV .pretty ts a trs it fuel id v) := by
  rw [cbor_eq_tokens ts a trs it fuel id v hc]
  exact viaTokens_plain ts a trs it fuel id v hp hv hk hok

/-- JSON, every plain type, on what JSON can carry (`carryJson`, `plainJson`); `typedTy` is `plainTy` with a struct arm
    added, but no lemma says so, hence `ht` beside `hp` -/
theorem roundtrip_plain_json (c : JsonEnc.Cfg) (ts : Types) (a : Atlas) (trs : Trs) (it : IfaceTys) (fuel id : Nat) (v : Val)
    (hcfg : C03.cfgOk c = true) (hni : C01L.noIgnore a = true) (ht : typedTy ts a 64 id = true)
    (hp : C13.plainTy ts a 64 id = true) (hv : C13.hasTy ts 1000 id v = true) (hk : distinctKeys 1000 v)
    (hok : (marshalV ts a trs fuel id v).fail = none)
    (hc : (marshalV ts a trs fuel id v).toks.all carryJson = true)
    (hpj : (marshalV ts a trs fuel id v).toks.all plainJson = true) :
    ∃ r, viaJson c ts a trs it fuel id v = some r ∧ ValEqv r (normV .pretty ts a trs it fuel id v) := by
  obtain ⟨r, h1, h2⟩ := viaTokens_plain ts a trs it fuel id v hp hv hk hok
  rw [json_eq_tokens_typed_partial c ts a trs it fuel id v hcfg hni ht hc hpj (by rw [h1]; rfl)]
  exact ⟨r, h1, h2⟩

def exTs : Types := [(0, .slice 1), (1, .struct [⟨[88], 2, true, false, none⟩, ⟨[89], 3, true, false, none⟩]),
  (2, .prim .int true), (3, .prim .f64 true)]
def exAtlas : Atlas :=
  ⟨[⟨true, 1, none, .structMap [⟨[120], false, [0], 2, false⟩, ⟨[121], false, [1], 3, false⟩]⟩], .default⟩
/-- `[]T{{7, 1.5}, {-2, 0}}` -/
def exVal : Val := .slice (some [.struct [.int 7, .float 4609434218613702656], .struct [.int (-2), .float 0]])

theorem ex_carryCbor : (marshalV exTs exAtlas cexTrs 100 0 exVal).toks.all carryCbor = true := by
  with_unfolding_all rfl

/-- the hypotheses of `cbor_eq_tokens` hold and the CBOR round trip returns the value -/
example : viaCbor exTs exAtlas cexTrs cexIt 100 0 exVal = some exVal := by
  rw [cbor_eq_tokens exTs exAtlas cexTrs cexIt 100 0 exVal ex_carryCbor]
  with_unfolding_all rfl

/-- the hypotheses of `json_eq_tokens_typed_partial` hold (including `rereadOk` on the floats 1.5 and 0)
    and the JSON round trip returns the value -/
example : viaJson ⟨none, []⟩ exTs exAtlas cexTrs cexIt 100 0 exVal = some exVal := by
  rw [json_eq_tokens_typed_partial ⟨none, []⟩ exTs exAtlas cexTrs cexIt 100 0 exVal (by decide) (by decide)
    (by with_unfolding_all rfl) (by with_unfolding_all rfl) (by with_unfolding_all rfl) (by with_unfolding_all rfl)]
  with_unfolding_all rfl

end Refmt.C01
