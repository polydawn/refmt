/-
  C13 / C11 / C01 — completeness of the token-level round trip on the FULL domain of the property: everything
  `C11.clone_equal_struct_fixed` covers (`C11.structTy`), and in addition keyed unions, transforms, and untyped slots
  (`interface{}`) holding nil, scalars, native `[]interface{}` / `map[string]interface{}` values and values of
  registered TAGGED struct-map / transform types (reconstructed through `GetEntryByTag`), nested arbitrarily through
  struct fields, slice / array elements, map values and pointers.

  Findings.
    * On this domain the hand-written specification `normV` and the model's round trip agree: the model returns `rtF`,
      which differs from `normV` only in the order of map entries (as in C13 / C11: Go maps are unordered).
    * Fuel (model artefact, not a defect of refmt): reading a nil into an untyped slot costs one unit more than writing
      it (`exact_fuel_insufficient`), so the theorems take the marshaller's success at some `fuel0 < fuel`;
      `fuel0 ≤ 1000` is the fuel at which the specification's `isNullSer` / `isBareNullSer` evaluate the marshaller.
    * For a transform the specified value is `(trs.u fn (normV mty tv)).getD v` whereas the model applies `trs.u fn` to
      the value as received (`rtF mty tv`: maps in key order).  The two agree up to `ValEqv''` when the user's function
      does not observe map order (`TrsEqv`; it holds whenever the wire form is a scalar: `trsEqv_of_scalar`).
    * A TAGGED transform whose wire form is an untyped slot cannot be read back at all
      (`tagged_transform_untyped_target`); `fullTy` excludes it (`tagBlind`).
    * Outside the class, not proved, and evaluated nowhere in this development:
      pointer-typed and typed slice / array / map dynamic values inside an untyped slot come back as `normV` says; an
      UNTAGGED struct or a keyed union inside an untyped slot comes back as `map[string]interface{}` whereas `normV`'s
      fallback keeps the struct (`normV`'s own comment declares that case outside the property's domain).
-/
import RefmtProofs.Props.C11
import RefmtProofs.Lemmas.FullCbor
namespace Refmt.C13Full
open Refmt Refmt.Obj Refmt.C13 Refmt.C11 Refmt.C12

theorem structTy_fullTy (ts : Types) (a : Atlas) : ∀ (p id : Nat), structTy ts a p id = true → fullTy ts a p id = true := by
  intro p
  induction p with
  | zero => intro id h; simp [structTy] at h
  | succ p ih =>
    intro id h
    cases hd : ts.get id with
    | prim k b =>
      have hn : a.get id = none := by simpa [structTy, hd] using h
      simp [fullTy, hd, hn]
    | bytes b =>
      have hn : a.get id = none := by simpa [structTy, hd] using h
      simp [fullTy, hd, hn]
    | byteArr n =>
      have hn : a.get id = none := by simpa [structTy, hd] using h
      simp [fullTy, hd, hn]
    | slice e =>
      have h' : a.get id = none ∧ structTy ts a p e = true := by simpa [structTy, hd] using h
      simp [fullTy, hd, h'.1, ih e h'.2]
    | arr n e =>
      have h' : a.get id = none ∧ structTy ts a p e = true := by simpa [structTy, hd] using h
      simp [fullTy, hd, h'.1, ih e h'.2]
    | map k e =>
      simp only [structTy, hd, Bool.and_eq_true, Option.isNone_iff_eq_none] at h
      obtain ⟨⟨hn, hk⟩, he⟩ := h
      simp only [fullTy, hd, hn, Bool.and_eq_true]
      exact ⟨hk, ih e he⟩
    | ptr e =>
      have h' : structTy ts a p e = true := by simpa [structTy, hd] using h
      simp [fullTy, hd, ih e h']
    | iface m => simp [structTy, hd] at h
    | other => simp [structTy, hd] at h
    | struct fds =>
      simp only [structTy, hd] at h
      split at h
      · rename_i reg ty fields he
        simp only [Bool.and_eq_true, decide_eq_true_eq, List.all_eq_true] at h
        obtain ⟨⟨h1, h2⟩, h3⟩ := h
        simp only [fullTy, hd, he, Bool.and_eq_true, decide_eq_true_eq, List.all_eq_true, fieldOkB]
        exact ⟨⟨h1, h2⟩, fun f hf => ⟨(h3 f hf).1, ih _ (h3 f hf).2⟩⟩
      · cases h

theorem clone_full_rt (ts : Types) (a : Atlas) (trs : Trs) (it : IfaceTys) (fuel0 fuel id : Nat) (v : Val)
    (hp : fullTy ts a 64 id = true) (hv : hasTy ts 1000 id v = true) (hside : fullVal ts a trs it fuel id v = true)
    (he : UEnv ts a it) (hz : ZeroStable ts) (htr : TrsEqv trs)
    (hok : (marshalV ts a trs fuel0 id v).fail = none) (h0 : fuel0 ≤ 1000) (hf : fuel0 < fuel) :
    clone ts a trs it fuel id v = some (rtF ts a trs it fuel id v) := by
  have hm := MOut.eq_of_fail_none hok
  have hm' := C07.marshal_fuel_mono_le ts a trs fuel0 fuel id v _ hm (by simp) (by omega)
  have := (wire_cbor.complete he hz htr fuel0 fuel id v _ hp hv hside hm h0 hf).1
  rw [List.map_id] at this
  simp [clone, hm', this]

/-- Completeness on the full domain (C13 / C11 / C01).  For a type of the class `fullTy` and a value that inhabits it
    (`hasTy`) and satisfies the side conditions `fullVal`: if the marshaller succeeds (with one unit of fuel to spare),
    Clone — marshal, then unmarshal the tokens into a zero value of the same type — succeeds and returns the specified
    value `normV .pretty`, up to the order of map entries.  Environment hypotheses: `UEnv` (the ids in `it` name the
    predeclared types: C12), `ZeroStable` (fuel side condition of C11), `TrsEqv` (user transforms do not observe map
    order). -/
theorem clone_equal_full (ts : Types) (a : Atlas) (trs : Trs) (it : IfaceTys) (fuel0 fuel id : Nat) (v : Val)
    (hp : fullTy ts a 64 id = true) (hv : hasTy ts 1000 id v = true) (hside : fullVal ts a trs it fuel id v = true)
    (he : UEnv ts a it) (hz : ZeroStable ts) (htr : TrsEqv trs)
    (hok : (marshalV ts a trs fuel0 id v).fail = none) (h0 : fuel0 ≤ 1000) (hf : fuel0 < fuel) :
    ∃ r, clone ts a trs it fuel id v = some r ∧ ValEqv'' r (normV .pretty ts a trs it fuel id v) :=
  ⟨_, clone_full_rt ts a trs it fuel0 fuel id v hp hv hside he hz htr hok h0 hf,
    (rtSpec_cbor.eqv_norm htr he fuel).1 64 id v (Nat.le_refl _) hp hside⟩

/-- the same at the level of `unmV` (C13's `complete_plain_perm` on the full domain) -/
theorem complete_full_perm (ts : Types) (a : Atlas) (trs : Trs) (it : IfaceTys) (fuel0 fuel id : Nat) (v : Val) (toks : List Tok)
    (hp : fullTy ts a 64 id = true) (hv : hasTy ts 1000 id v = true) (hside : fullVal ts a trs it fuel id v = true)
    (he : UEnv ts a it) (hz : ZeroStable ts) (htr : TrsEqv trs)
    (hm : marshalV ts a trs fuel0 id v = ⟨toks, none⟩) (h0 : fuel0 ≤ 1000) (hf : fuel0 < fuel) :
    ∃ v', unmV ts a trs it fuel id (zeroVal ts 64 id) toks = .ok v' [] toks.length ∧
      ValEqv'' v' (normV .pretty ts a trs it fuel id v) := by
  obtain ⟨h1, h2⟩ := wire_cbor.complete he hz htr fuel0 fuel id v toks hp hv hside hm h0 hf
  rw [List.map_id] at h1
  exact ⟨_, h1, h2⟩

def isScalar : Val → Prop
  | .bool _ | .int _ | .uint _ | .float _ | .str _ | .bytes _ | .byteArr _ => True
  | _ => False

theorem ValEqv''_scalar {x y : Val} (h : ValEqv'' x y) (hy : isScalar y) : x = y := by
  cases h <;> first | rfl | (simp [isScalar] at hy)

theorem trsEqv_of_scalar (trs : Trs) (h : ∀ fn y b, trs.u fn y = some b → isScalar y) : TrsEqv trs := by
  intro fn x y b hxy hu
  have := ValEqv''_scalar hxy (h fn y b hu)
  subst this
  exact ⟨b, hu, ValEqv''.refl _⟩

section native
variable {ts : Types} {a : Atlas} {trs : Trs} {it : IfaceTys}

theorem fullValB_wild_none (g id : Nat) : fullValB ts a trs it (g+1) id .wildcard (.iface none) = true := by
  rw [fullValB.eq_def]

theorem fullValB_wild_prim {dt : Nat} (g id : Nat) (dv : Val) (hnp : notPtrB (ts.get dt) = true)
    (hpk : pickBare ts a dt = .prim) : fullValB ts a trs it (g+1) id .wildcard (.iface (some (dt, dv))) = true := by
  rw [fullValB_wild, hnp, hpk]
  rfl

theorem fullVal_untyped {id : Nat} (hd : ts.get id = .iface false) (hn : a.get id = none) (g : Nat) (v : Val) :
    fullVal ts a trs it (g+1) id v = fullValB ts a trs it g id .wildcard v := by
  rw [fullVal_nonptr ts a trs it (by simp [hd]), (pick_wild hd hn).1]

theorem fullVal_slot {id : Nat} (hd : ts.get id = .iface false) (hn : a.get id = none) {u : Val}
    (h : ∀ g, fullValB ts a trs it (g+1) id .wildcard u = true) (g : Nat) : fullVal ts a trs it g id u = true := by
  cases g with
  | zero => exact fullVal_zero ts a trs it id u
  | succ g =>
    rw [fullVal_untyped hd hn]
    cases g with
    | zero => exact fullValB_zero ts a trs it id _ u
    | succ g => exact h g

theorem leaf_hasTy (he : UEnv ts a it) {b : Body} {d : Nat} {x : Val} (hl : C12.Leaf it b d x) (h : Nat) :
    hasTy ts (h+1) d x = true := by
  cases hl with
  | str s => simp [hasTy, he.str]
  | bytes b => simp [hasTy, he.bytes]
  | bool b => simp [hasTy, he.bool]
  | int i h1 h2 =>
    simp [hasTy, he.int, intRange]
    constructor <;> (unfold two63 at *; omega)
  | uint m h1 h2 =>
    simp [hasTy, he.uint64, intRange, uintMax]
    omega
  | float b hb =>
    simp [hasTy, he.f64]
    exact hb

theorem isU_side (he : UEnv ts a it) : ∀ (n : Nat) (u : Val), isU it n u = true →
    ∀ id, ts.get id = .iface false → a.get id = none →
    (∀ h, 2 * n ≤ h → hasTy ts h id u = true) ∧ (∀ g, fullVal ts a trs it g id u = true) := by
  refine isU_induct (P := fun n u => ∀ id, ts.get id = .iface false → a.get id = none →
    (∀ h, 2 * n ≤ h → hasTy ts h id u = true) ∧ (∀ g, fullVal ts a trs it g id u = true)) ?_ ?_ ?_ ?_
  · intro f id hd hn
    refine ⟨fun h hh => ?_, fullVal_slot hd hn (fun g => fullValB_wild_none g id)⟩
    obtain ⟨h, rfl⟩ : ∃ h', h = h' + 2 := ⟨h - 2, by omega⟩
    simp [hasTy, hd]
  · intro f b d x hl id hd hn
    have hp := hl.predeclared he
    have hnp : notPtrB (ts.get d) = true := by rcases hp with ⟨k, hk⟩ | hk <;> rw [hk] <;> rfl
    refine ⟨fun h hh => ?_, fullVal_slot hd hn (fun g => fullValB_wild_prim g id x hnp (C12.pick_prim a hp))⟩
    obtain ⟨h, rfl⟩ : ∃ h', h = h' + 2 := ⟨h - 2, by omega⟩
    unfold hasTy
    rw [hd]
    exact leaf_hasTy he hl h
  · intro f vs hvs ih id hd hn
    refine ⟨fun h hh => ?_, fullVal_slot hd hn (fun g => ?_)⟩
    · obtain ⟨h, rfl⟩ : ∃ h', h = h' + 2 := ⟨h - 2, by omega⟩
      simp only [hasTy, hd, he.sliceI, List.all_eq_true]
      intro x hx
      exact (ih x hx it.iface he.iface he.noIface).1 h (by omega)
    · rw [fullValB_wild]
      simp only [notPtrB, he.sliceI, C12.pick_sliceI he, beq_self_eq_true, Bool.true_and, List.all_eq_true]
      intro x hx
      exact (ih x hx it.iface he.iface he.noIface).2 g
  · intro f es hk hv hd' ih id hd hn
    refine ⟨fun h hh => ?_, fullVal_slot hd hn (fun g => ?_)⟩
    · obtain ⟨h, rfl⟩ : ∃ h', h = h' + 2 := ⟨h - 2, by omega⟩
      simp only [hasTy, hd, he.mapSI, List.all_eq_true, Bool.and_eq_true]
      intro q hq
      obtain ⟨s, hs⟩ := hk q hq
      obtain ⟨q1, q2⟩ := q
      subst hs
      have hq2 := hv _ hq
      -- the entry's value is native at depth `f`, so `f` is positive and the key has a unit of fuel to be typed with
      have hn1 : 1 ≤ f := by
        cases f with
        | zero => simp [isU] at hq2
        | succ n' => omega
      obtain ⟨h, rfl⟩ : ∃ h', h = h' + 1 := ⟨h - 1, by omega⟩
      refine ⟨by simp [hasTy, he.str], ?_⟩
      exact (ih _ hq it.iface he.iface he.noIface).1 (h + 1) (by omega)
    · rw [fullValB_wild]
      simp only [notPtrB, he.mapSI, C12.pick_mapSI he, beq_self_eq_true, Bool.true_and, List.all_eq_true, Bool.and_eq_true,
        strKeysB, decide_eq_true_eq]
      refine ⟨⟨fun q hq => ?_, ?_⟩, fun q hq => (ih q hq it.iface he.iface he.noIface).2 g⟩
      · obtain ⟨s, hs⟩ := hk q hq
        rw [hs]; rfl
      · exact C12.keyOf_eq_keyStr ▸ hd'

theorem clone_equal_untyped_native (ts : Types) (a : Atlas) (trs : Trs) (it : IfaceTys) (fuel0 fuel id n : Nat) (u : Val)
    (hd : ts.get id = .iface false) (hn : a.get id = none) (hu : isU it n u = true) (hn500 : n ≤ 500)
    (he : UEnv ts a it) (hz : ZeroStable ts) (htr : TrsEqv trs)
    (hok : (marshalV ts a trs fuel0 id u).fail = none) (h0 : fuel0 ≤ 1000) (hf : fuel0 < fuel) :
    ∃ r, clone ts a trs it fuel id u = some r ∧ ValEqv'' r (normV .pretty ts a trs it fuel id u) := by
  obtain ⟨h1, h2⟩ := isU_side (trs := trs) he n u hu id hd hn
  exact clone_equal_full ts a trs it fuel0 fuel id u (by simp [fullTy, hd, hn]) (h1 1000 (by omega)) (h2 fuel) he hz htr hok h0 hf

end native

/-! ### Non-vacuity

  A type table with the untyped universe (ids 1–8, 20), a keyed union (10, members 11 and 12), a tagged struct (13),
  a transform (30: a struct `{H, M int}` written as the two-byte string `[H, M]`, tag 60), a pointer to it (40), and the
  struct 0 = `{U union; I interface{}; T transform; P *transform}`. -/

def fuTs : Types := [
  (0, .struct [⟨[85], 10, true, false, none⟩, ⟨[73], 20, true, false, none⟩, ⟨[84], 30, true, false, none⟩, ⟨[80], 40, true, false, none⟩]),
  (1, .prim .string true), (2, .prim .int true), (3, .bytes true), (4, .prim .bool true), (5, .prim .uint64 true), (6, .prim .f64 true),
  (7, .map 1 20), (8, .slice 20), (20, .iface false),
  (10, .iface true),
  (11, .struct [⟨[88], 2, true, false, none⟩]),
  (12, .struct [⟨[83], 1, true, false, none⟩]),
  (13, .struct [⟨[89], 2, true, false, none⟩]),
  (30, .struct [⟨[72], 2, true, false, none⟩, ⟨[77], 2, true, false, none⟩]),
  (40, .ptr 30)]

def fuA : Atlas := ⟨[
  ⟨true, 0, none, .structMap [⟨[117], false, [0], 10, false⟩, ⟨[105], false, [1], 20, false⟩, ⟨[116], false, [2], 30, false⟩, ⟨[112], false, [3], 40, false⟩]⟩,
  ⟨true, 10, none, .union [([65], 2), ([66], 3)]⟩,
  ⟨true, 11, none, .structMap [⟨[120], false, [0], 2, false⟩]⟩,
  ⟨true, 12, none, .structMap [⟨[115], false, [0], 1, false⟩]⟩,
  ⟨true, 13, some 50, .structMap [⟨[121], false, [0], 2, false⟩]⟩,
  ⟨true, 30, some 60, .transform 0 1 1⟩], .default⟩

def fuIt : IfaceTys := ⟨1, 3, 4, 2, 5, 6, 7, 8, 20⟩

def fuTrs : Trs :=
  ⟨fun _ v => match v with | .struct [.int h, .int m] => some (.str [h.toNat, m.toNat]) | _ => none,
   fun _ v => match v with | .str [h, m] => some (.struct [.int h, .int m]) | _ => none⟩

def fuTm (h m : Nat) : Val := .struct [.int h, .int m]

/-- `{U: B{S: "\x01\x02"}, I: []interface{}{nil, 5, tagged struct {Y: 9}, tagged transform 3:4}, T: 1:2, P: &5:6}` -/
def fuV : Val := .struct [
  .iface (some (12, .struct [.str [1, 2]])),
  .iface (some (8, .slice (some [.iface none, .iface (some (2, .int 5)), .iface (some (13, .struct [.int 9])), .iface (some (30, fuTm 3 4))]))),
  fuTm 1 2,
  .ptr (some (fuTm 5 6))]

theorem fu_env : UEnv fuTs fuA fuIt := by constructor <;> decide
theorem fu_zero : ZeroStable fuTs := zeroStable_of_check _ (by decide)
theorem fu_trsEqv : TrsEqv fuTrs := by
  apply trsEqv_of_scalar
  intro fn y b h
  simp only [fuTrs] at h
  split at h
  · trivial
  · cases h

theorem fu_hyps : fullTy fuTs fuA 64 0 = true ∧ hasTy fuTs 1000 0 fuV = true ∧ fullVal fuTs fuA fuTrs fuIt 1001 0 fuV = true := by
  decide
example : fullTy fuTs fuA 64 0 = true ∧ hasTy fuTs 1000 0 fuV = true ∧ fullVal fuTs fuA fuTrs fuIt 1001 0 fuV = true := by
  exact fu_hyps
/-- the transform type and the union type on their own -/
example : fullTy fuTs fuA 64 30 = true ∧ fullTy fuTs fuA 64 10 = true ∧ fullTy fuTs fuA 64 40 = true := by decide
example : hasTy fuTs 1000 30 (fuTm 7 8) = true ∧ fullVal fuTs fuA fuTrs fuIt 1001 30 (fuTm 7 8) = true := by decide
example : hasTy fuTs 1000 10 (.iface (some (11, .struct [.int 4]))) = true ∧
    fullVal fuTs fuA fuTrs fuIt 1001 10 (.iface (some (11, .struct [.int 4]))) = true := by decide

theorem fu_ok : (marshalV fuTs fuA fuTrs 1000 0 fuV).fail = none := by with_unfolding_all decide

theorem fu_clone : ∃ r, clone fuTs fuA fuTrs fuIt 1001 0 fuV = some r ∧ ValEqv'' r (normV .pretty fuTs fuA fuTrs fuIt 1001 0 fuV) :=
  clone_equal_full fuTs fuA fuTrs fuIt 1000 1001 0 fuV fu_hyps.1 fu_hyps.2.1 fu_hyps.2.2 fu_env fu_zero fu_trsEqv fu_ok
    (by omega) (by omega)

/-- no map is involved, so the copy is the specified value itself, which is the source value -/
example : clone fuTs fuA fuTrs fuIt 1001 0 fuV = some (normV .pretty fuTs fuA fuTrs fuIt 1001 0 fuV) ∧
    clone fuTs fuA fuTrs fuIt 1001 0 fuV = some fuV := by
  have hc : clone fuTs fuA fuTrs fuIt 1001 0 fuV = some fuV := by with_unfolding_all rfl
  have hn : normV .pretty fuTs fuA fuTrs fuIt 1001 0 fuV = fuV := by with_unfolding_all rfl
  exact ⟨by rw [hc, hn], hc⟩

/-- an untyped slot holding `map[string]interface{}{"b": 5, "a": nil}` (entries listed in that order): the theorem
    applies; the copy lists the entries in key order, the specified value in the order of the source -/
def fuM : Val := .iface (some (7, .map (some [(.str [98], .iface (some (2, .int 5))), (.str [97], .iface none)])))

theorem fuM_sort : sortKeys .default [(([98] : Bytes), Val.iface (some (2, .int 5))), ([97], .iface none)] =
    [([97], .iface none), ([98], .iface (some (2, .int 5)))] := by
  simp [sortKeys, List.mergeSort, keyLe, bytesLe, bytesLt]

/-- by evaluation up to the sort (`List.mergeSort` does not reduce), which `fuM_sort` then carries out -/
theorem fuM_ok : (marshalV fuTs fuA fuTrs 30 20 fuM).fail = none := by
  have h : marshalV fuTs fuA fuTrs 30 20 fuM = ((MOut.ok [⟨.mapOpen 2, none⟩]).seq fun _ =>
      (marshalEntries fuTs fuA fuTrs 26 20 (sortKeys .default [([98], .iface (some (2, .int 5))), ([97], .iface none)])).seq
        fun _ => .ok [⟨.mapClose, none⟩]) := by with_unfolding_all rfl
  rw [h, fuM_sort]; with_unfolding_all rfl

example : ∃ r, clone fuTs fuA fuTrs fuIt 1001 20 fuM = some r ∧ ValEqv'' r (normV .pretty fuTs fuA fuTrs fuIt 1001 20 fuM) :=
  clone_equal_full fuTs fuA fuTrs fuIt 30 1001 20 fuM (by decide) (by decide) (by decide) fu_env fu_zero fu_trsEqv fuM_ok
    (by omega) (by omega)

/-- the same value through C12's `isU` -/
example : ∃ r, clone fuTs fuA fuTrs fuIt 1001 20 fuM = some r ∧ ValEqv'' r (normV .pretty fuTs fuA fuTrs fuIt 1001 20 fuM) :=
  clone_equal_untyped_native fuTs fuA fuTrs fuIt 30 1001 20 3 fuM (by decide) (by decide) (by decide) (by omega)
    fu_env fu_zero fu_trsEqv fuM_ok (by omega) (by omega)

/-! ### The fuel side condition is needed

  `[]interface{}{nil}`: the marshaller succeeds with 5 units of fuel, the unmarshaller of the same tokens needs 6
  (the untyped slot spends one unit more on reading the nil than the marshaller on writing it). -/
theorem exact_fuel_insufficient :
    (marshalV fuTs fuA fuTrs 5 8 (.slice (some [.iface none]))).fail = none ∧
    (clone fuTs fuA fuTrs fuIt 5 8 (.slice (some [.iface none]))).isNone = true ∧
    (clone fuTs fuA fuTrs fuIt 6 8 (.slice (some [.iface none]))).isSome = true := by
  with_unfolding_all decide

/-! ### Why a TAGGED transform must not have an untyped wire form (`tagBlind` in `fullTy`)

  Type 50 is written through the transform pair 1 as an `interface{}` (type 20) and its entry carries tag 70.  The
  marshaller succeeds (one token, `7` tagged 70).  The transform's unmarshalling machine hands that token to the
  untyped slot, which sees tag 70, looks the tag up, finds type 50 again and delegates to its transform machine, and
  so on: the model runs out of fuel (below: at fuel 100), i.e. Clone fails although Marshal succeeded, while `normV`
  still specifies a value.  Such entries are outside `fullTy`. -/
def loopTs : Types := fuTs ++ [(50, .struct [⟨[72], 2, true, false, none⟩])]
def loopA : Atlas := ⟨fuA.pool ++ [⟨true, 50, some 70, .transform 1 20 20⟩], .default⟩
def loopTrs : Trs :=
  ⟨fun _ v => match v with | .struct [.int h] => some (.iface (some (2, .int h))) | _ => none,
   fun _ v => match v with | .iface (some (_, .int h)) => some (.struct [.int h]) | _ => none⟩

theorem tagged_transform_untyped_target :
    fullTy loopTs loopA 64 50 = false ∧
    (marshalV loopTs loopA loopTrs 100 50 (.struct [.int 7])).fail = none ∧
    (clone loopTs loopA loopTrs fuIt 100 50 (.struct [.int 7])).isNone = true := by
  with_unfolding_all decide

end Refmt.C13Full
