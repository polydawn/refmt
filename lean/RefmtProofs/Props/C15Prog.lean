/-
  C15 (continued) — the decoder models ARE clients of the reader interface.
  The decoder models (Model/CborDec.lean, Model/JsonDec.lean) are functions on `Rd`; that they use `Rd` only
  through the three reader operations of Props/C15.lean is proved here.  `cborProgF coerce N fuel`,
  `jsonProgF N fuel` are the decoders written as values of `Prog` (Lemmas/C15Cbor.lean, Lemmas/C15Json.lean;
  `fuel` is the step budget of `run`, `N` the iteration bound of the inner loops, see Lemmas/ProgExec.lean).
  Over every cursor with fewer than `N` undelivered bytes (any data, any injected fault, pushed-back byte or not)
  they give exactly the tokens, outcome, step count (and allocation) of `CborDec.run` / `JsonDec.run`.  Hence
  decoding over the scheduled reader stack (`readerToScanner` + `io.ReadAtLeast` over any chunking with any legal
  number of empty reads, EOF with or without data) gives the cursor-based result, the same for any two schedules.
  The only push-back in the decoder models is the JSON number scanner's, immediately after the one-byte read that
  produced the byte, decided by that byte and the scanner state: exactly `Prog.read1 unread k`.  (In
  json/jsonDecoderTerminals.go `decodeString` and `decodeNumber` also each unread one byte around `StopTrack` /
  `Track` and read it again at once; the model leaves these two pairs out.)
-/
import RefmtModel
import RefmtProofs.Props.C15
import RefmtProofs.Props.C06
import RefmtProofs.Lemmas.Bounds
import RefmtProofs.Lemmas.C15Cbor
import RefmtProofs.Lemmas.C15Json
namespace Refmt.C15Prog
open Refmt Refmt.C15 Refmt.Sched

def cborProgF (coerce : Bool) (N fuel : Nat) : Prog CborRes := Cbor.runP coerce N fuel CborDec.init [] 0 0

/-- The CBOR decoder for inputs of at most `n` bytes. -/
def cborProg (coerce : Bool) (n : Nat) : Prog CborRes := cborProgF coerce (n + 1) (2 * n + 2)

theorem cbor_run_is_client (coerce : Bool) (N fuel : Nat) (s : CborDec.St) (rd : Rd) (acc : List Tok) (steps alloc : Nat)
    (hN : rd.data.length < N) :
    runCursor (Cbor.runP coerce N fuel s acc steps alloc) rd = some (cborProj (CborDec.run coerce fuel s rd acc steps alloc)) := by
  rw [runCursor_eq, Cbor.runP_spec coerce N fuel s rd acc steps alloc hN]

/-- The CBOR decoder model is a client of the reader interface: for every step budget, over every cursor
    (any fault, any push-back state) with fewer than `N` undelivered bytes. -/
theorem cbor_is_client (coerce : Bool) (N fuel : Nat) (rd : Rd) (hN : rd.data.length < N) :
    runCursor (cborProgF coerce N fuel) rd = some (cborProj (CborDec.run coerce fuel CborDec.init rd [] 0 0)) :=
  cbor_run_is_client coerce N fuel CborDec.init rd [] 0 0 hN

theorem cbor_decode_is_client (coerce : Bool) (n : Nat) (rd : Rd) (hn : rd.data.length ≤ n) :
    runCursor (cborProg coerce n) rd = some (cborProj (CborDec.decode coerce rd)) := by
  unfold cborProg
  rw [cbor_is_client coerce (n + 1) (2 * n + 2) rd (by omega), C06.cbor_terminates_any_reader coerce rd _ (by omega)]

theorem cbor_sched_eq_cursor (coerce : Bool) (data : Bytes) (c : List Nat) (e : Bool) (N fuel : Nat)
    (hN : data.length < N) (hc : maxZeroRun c 0 ≤ maxEmpty) :
    runSched (cborProgF coerce N fuel) (Sc.ofSrc ⟨data, c, e⟩) =
      some (cborProj (CborDec.run coerce fuel CborDec.init (Rd.ofBytes data) [] 0 0)) := by
  rw [sched_eq_cursor _ data c e hc]
  exact cbor_is_client coerce N fuel (Rd.ofBytes data) hN

-- `hN` is part of the property as stated; any two schedules agree without it
set_option linter.unusedVariables false in
theorem cbor_schedule_independent (coerce : Bool) (data : Bytes) (c1 c2 : List Nat) (e1 e2 : Bool) (N fuel : Nat)
    (hN : data.length < N) (h1 : maxZeroRun c1 0 ≤ maxEmpty) (h2 : maxZeroRun c2 0 ≤ maxEmpty) :
    runSched (cborProgF coerce N fuel) (Sc.ofSrc ⟨data, c1, e1⟩) =
      runSched (cborProgF coerce N fuel) (Sc.ofSrc ⟨data, c2, e2⟩) :=
  schedule_independent _ data c1 c2 e1 e2 h1 h2

theorem cbor_decode_sched_eq_cursor (coerce : Bool) (data : Bytes) (c : List Nat) (e : Bool) (n : Nat)
    (hn : data.length ≤ n) (hc : maxZeroRun c 0 ≤ maxEmpty) :
    runSched (cborProg coerce n) (Sc.ofSrc ⟨data, c, e⟩) = some (cborProj (CborDec.decode coerce (Rd.ofBytes data))) := by
  rw [sched_eq_cursor _ data c e hc]
  exact cbor_decode_is_client coerce n (Rd.ofBytes data) hn

-- `hn` is part of the property as stated; any two schedules agree without it
set_option linter.unusedVariables false in
theorem cbor_decode_schedule_independent (coerce : Bool) (data : Bytes) (c1 c2 : List Nat) (e1 e2 : Bool) (n : Nat)
    (hn : data.length ≤ n) (h1 : maxZeroRun c1 0 ≤ maxEmpty) (h2 : maxZeroRun c2 0 ≤ maxEmpty) :
    runSched (cborProg coerce n) (Sc.ofSrc ⟨data, c1, e1⟩) = runSched (cborProg coerce n) (Sc.ofSrc ⟨data, c2, e2⟩) :=
  schedule_independent _ data c1 c2 e1 e2 h1 h2

def jsonProgF (N fuel : Nat) : Prog JsonRes := Json.runP N fuel JsonDec.init [] 0

/-- The JSON decoder for inputs of at most `n` bytes. -/
def jsonProg (n : Nat) : Prog JsonRes := jsonProgF (n + 1) (2 * n + 2)

theorem json_run_is_client (N fuel : Nat) (s : JsonDec.St) (rd : Rd) (acc : List Tok) (steps : Nat)
    (hN : rd.data.length < N) :
    runCursor (Json.runP N fuel s acc steps) rd = some (jsonProj (JsonDec.run fuel s rd acc steps)) := by
  rw [runCursor_eq, Json.runP_spec N fuel s rd acc steps hN]

theorem json_is_client (N fuel : Nat) (rd : Rd) (hN : rd.data.length < N) :
    runCursor (jsonProgF N fuel) rd = some (jsonProj (JsonDec.run fuel JsonDec.init rd [] 0)) :=
  json_run_is_client N fuel JsonDec.init rd [] 0 hN

theorem json_decode_is_client (n : Nat) (rd : Rd) (hn : rd.data.length ≤ n) :
    runCursor (jsonProg n) rd = some (jsonProj (JsonDec.decode rd)) := by
  unfold jsonProg
  rw [json_is_client (n + 1) (2 * n + 2) rd (by omega), C06.json_terminates_any_reader rd _ (by omega)]

theorem json_sched_eq_cursor (data : Bytes) (c : List Nat) (e : Bool) (N fuel : Nat)
    (hN : data.length < N) (hc : maxZeroRun c 0 ≤ maxEmpty) :
    runSched (jsonProgF N fuel) (Sc.ofSrc ⟨data, c, e⟩) =
      some (jsonProj (JsonDec.run fuel JsonDec.init (Rd.ofBytes data) [] 0)) := by
  rw [sched_eq_cursor _ data c e hc]
  exact json_is_client N fuel (Rd.ofBytes data) hN

-- `hN` is part of the property as stated; any two schedules agree without it
set_option linter.unusedVariables false in
theorem json_schedule_independent (data : Bytes) (c1 c2 : List Nat) (e1 e2 : Bool) (N fuel : Nat)
    (hN : data.length < N) (h1 : maxZeroRun c1 0 ≤ maxEmpty) (h2 : maxZeroRun c2 0 ≤ maxEmpty) :
    runSched (jsonProgF N fuel) (Sc.ofSrc ⟨data, c1, e1⟩) = runSched (jsonProgF N fuel) (Sc.ofSrc ⟨data, c2, e2⟩) :=
  schedule_independent _ data c1 c2 e1 e2 h1 h2

theorem json_decode_sched_eq_cursor (data : Bytes) (c : List Nat) (e : Bool) (n : Nat)
    (hn : data.length ≤ n) (hc : maxZeroRun c 0 ≤ maxEmpty) :
    runSched (jsonProg n) (Sc.ofSrc ⟨data, c, e⟩) = some (jsonProj (JsonDec.decode (Rd.ofBytes data))) := by
  rw [sched_eq_cursor _ data c e hc]
  exact json_decode_is_client n (Rd.ofBytes data) hn

-- `hn` is part of the property as stated; any two schedules agree without it
set_option linter.unusedVariables false in
theorem json_decode_schedule_independent (data : Bytes) (c1 c2 : List Nat) (e1 e2 : Bool) (n : Nat)
    (hn : data.length ≤ n) (h1 : maxZeroRun c1 0 ≤ maxEmpty) (h2 : maxZeroRun c2 0 ≤ maxEmpty) :
    runSched (jsonProg n) (Sc.ofSrc ⟨data, c1, e1⟩) = runSched (jsonProg n) (Sc.ofSrc ⟨data, c2, e2⟩) :=
  schedule_independent _ data c1 c2 e1 e2 h1 h2

/-! ### Non-vacuity: the programs really run over the scheduled reader -/

-- CBOR `[1, "a"]` delivered as: empty read, 1 byte, two empty reads, 2 bytes, 1 byte + EOF
example : runSched (cborProgF false 100 100) (Sc.ofSrc ⟨[0x82, 0x01, 0x61, 0x61], [0, 1, 0, 0, 2, 1], true⟩) =
    some ([⟨.arrOpen 2, none⟩, ⟨.uint 1, none⟩, ⟨.str [0x61], none⟩, ⟨.arrClose, none⟩], .ok (), 4, 1) := by
  rfl

-- JSON `[12]`: the number scanner reads `]`, pushes it back, the array step reads it again
example : runSched (jsonProgF 100 100) (Sc.ofSrc ⟨[91, 49, 50, 93], [0, 1, 0, 0, 2, 1], true⟩) =
    some ([⟨.arrOpen (-1), none⟩, ⟨.int 12, none⟩, ⟨.arrClose, none⟩], .ok (), 3) := by
  rfl

-- tag 1 on an indefinite string of chunks "a", "b": the tag recursion and the chunk loop
example : runSched (cborProgF false 100 100)
      (Sc.ofSrc ⟨[0xc1, 0x7f, 0x61, 0x61, 0x61, 0x62, 0xff], [0, 0, 3, 0, 1, 0, 5], false⟩) =
    some ([⟨.str [0x61, 0x62], some 1⟩], .ok (), 1, 18) := by
  rfl

-- `undefined` under both coercion flags
example : runSched (cborProgF true 100 100) (Sc.ofSrc ⟨[0xf7], [0, 0, 3], false⟩) = some ([⟨.null, none⟩], .ok (), 1, 0) := by
  rfl
example : runSched (cborProgF false 100 100) (Sc.ofSrc ⟨[0xf7], [0, 0, 3], false⟩) = some ([], .error .syntax, 1, 0) := by
  rfl

-- truncated two-byte argument, the last byte delivered together with EOF
example : runSched (cborProgF false 100 100) (Sc.ofSrc ⟨[0x82, 0x19, 0x01], [1, 0, 1, 0, 1], true⟩) =
    some ([⟨.arrOpen 2, none⟩], .error .unexpectedEof, 2, 0) := by
  rfl

-- JSON `{"a":-3,"b":[true]}`: push-back of `,`, then keys, a literal (`readN`), nested closes
example : runSched (jsonProgF 100 100)
      (Sc.ofSrc ⟨[123, 34, 97, 34, 58, 45, 51, 44, 34, 98, 34, 58, 91, 116, 114, 117, 101, 93, 125],
        [0, 1, 0, 0, 2, 1, 0, 3, 7], true⟩) =
    some ([⟨.mapOpen (-1), none⟩, ⟨.str [97], none⟩, ⟨.int (-3), none⟩, ⟨.str [98], none⟩, ⟨.arrOpen (-1), none⟩,
      ⟨.bool true, none⟩, ⟨.arrClose, none⟩, ⟨.mapClose, none⟩], .ok (), 8) := by
  rfl

-- JSON ` 12` ended by EOF (no push-back) and a truncated literal
example : runSched (jsonProgF 100 100) (Sc.ofSrc ⟨[32, 49, 50], [0, 1, 0, 0, 1, 0, 1], false⟩) =
    some ([⟨.int 12, none⟩], .ok (), 1) := by
  rfl
example : runSched (jsonProgF 100 100) (Sc.ofSrc ⟨[91, 116, 114, 117], [0, 1, 0, 0, 1, 0, 1], false⟩) =
    some ([⟨.arrOpen (-1), none⟩], .error .unexpectedEof, 2) := by
  rfl

end Refmt.C15Prog
