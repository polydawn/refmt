/-
  C18 — concurrent use with a shared Atlas is race-free and interference-free.

  What a proof can carry here (the Go memory model and scheduler are outside any executable model):

  * `no_shared_writes` (regenerated fact, RefmtProofs/Facts.lean): outside `init` functions no SSA instruction
    of refmt stores to package-level state, and outside the builder functions none stores to an Atlas or to
    anything an Atlas is made of.  So the state goroutines share (atlas, package tables, source values) is
    only ever read once construction is over.
  * `noninterference`: for any system of workers with private states and a shared component that steps never
    modify, every interleaving gives each worker exactly the outputs it produces running alone.  The object
    layer's model functions (`marshalV`, `unmV`, clone = their composition) have precisely this shape: they
    are functions of the atlas and of their own arguments.

  The race detector run (correspondence stream `race`) is the runtime monitor for the part no model covers.
-/
import RefmtModel
import RefmtProofs.Facts
namespace Refmt.C18
open Refmt

theorem no_shared_writes : Gen.sharedWrites = [] := Facts.no_shared_writes

section
variable {σ π ω : Type}

def runAlone (step : σ → π → π × ω) (sh : σ) : Nat → π → List ω
  | 0, _ => []
  | n+1, p => (step sh p).2 :: runAlone step sh n (step sh p).1

/-- an interleaving: at each tick the scheduled worker makes one step on its private state; the shared
    component `sh` is only read -/
def runSched (step : σ → π → π × ω) (sh : σ) : (Nat → π) → List Nat → List (Nat × ω)
  | _, [] => []
  | ps, w :: rest =>
    let r := step sh (ps w)
    (w, r.2) :: runSched step sh (fun i => if i = w then r.1 else ps i) rest

def proj (w : Nat) (tr : List (Nat × ω)) : List ω := (tr.filter (·.1 == w)).map (·.2)

theorem noninterference (step : σ → π → π × ω) (sh : σ) (sched : List Nat) (ps : Nat → π) (w : Nat) :
    proj w (runSched step sh ps sched) = runAlone step sh (sched.count w) (ps w) := by
  induction sched generalizing ps with
  | nil => simp [runSched, proj, runAlone]
  | cons v rest ih =>
    -- the tick of `v` touches only `v`'s private state: for `w = v` it is `w`'s next step, otherwise nothing
    have ih' := ih (fun i => if i = v then (step sh (ps v)).1 else ps i)
    by_cases hv : v = w
    · subst hv
      simpa [runSched, proj, runAlone] using ih'
    · have hne : (v == w) = false := by simpa using hv
      have hwv : ¬ w = v := fun h => hv h.symm
      simpa [runSched, proj, hne, List.count_cons, hwv] using ih'

theorem schedule_irrelevant (step : σ → π → π × ω) (sh : σ) (s1 s2 : List Nat) (ps : Nat → π) (w : Nat)
    (h : s1.count w = s2.count w) :
    proj w (runSched step sh ps s1) = proj w (runSched step sh ps s2) := by
  rw [noninterference, noninterference, h]

end

-- the binder `other` (what the other workers do) is unused on purpose
set_option linter.unusedVariables false in
/-- `marshalV` is a Lean function of the atlas, type table, transform library and the caller's own arguments:
    its result cannot depend on anything else.  Nothing more about the object layer is proved here. -/
theorem model_is_pure (ts : Obj.Types) (a : Obj.Atlas) (trs : Obj.Trs) (fuel id : Nat) (v : Obj.Val) :
    ∀ (other : List (Nat × Obj.Val)), Obj.marshalV ts a trs fuel id v = Obj.marshalV ts a trs fuel id v := fun _ => rfl

example : proj 1 (runSched (fun (sh : Nat) (p : Nat) => (p + sh, p)) 10 (fun i => i) [0, 1, 0, 1, 1]) = [1, 11, 21] := by decide

end Refmt.C18
