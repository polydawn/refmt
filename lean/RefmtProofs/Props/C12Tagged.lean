/-
  C12, claim (ii) WITH TAGGED ATLAS ENTRIES — the re-marshalled document still decodes, into the value's own type, to
  the value.  (Claim (ii) without tags: RefmtProofs/Props/C12Typed.lean, whose `tagged_statement` is the subject here.)

  The chain is   v ─M→ t1 ─U(untyped)→ u1 ─M→ t2 ─U(type of v)→ r.   With a tagged entry the untyped pass does not build
  a native untyped value: the untyped slot sees the tag on the first token, looks the registered type up
  (`Atlas.getByTag`) and reconstructs THAT type, so u1 holds `(e.ty, rtF v)`, the typed round-trip value; the
  re-marshal then writes that value through its own (typed) machine, tag included.  Claim (ii) therefore needs the typed
  round trip to be idempotent on reconstructed values: marshalling `rtF v` must give a rendering that reads back as
  `rtF v` (`IDM`, RefmtProofs/Lemmas/TagIdm.lean).  That is not always so, whence the extra hypothesis `TagStab`.

  RESULTS.
  `remarshal_typed_leg_tokens_tagged` : `C12Typed.remarshal_typed_leg_tokens` with, in place of `NoTags a`,
        `C12Typed.TagsOk a`   every registered tagged entry is found under its own tag, and
        `TagStab ts a trs`    every registered tagged type is RE-MARSHAL STABLE (`StabTy`, Lemmas/TagDefs.lean).
        Conclusion as there; the value read from t2 is EXACTLY `rtF … v` (what Clone returns).
        Both hypotheses hold of an atlas without tags (`NoTags.tagsOk`, `NoTags.tagStab` of TagDefs.lean, here also as
        `noTags_tagsOk`, `noTags_tagStab`): that case is `C12Typed.remarshal_typed_leg_tokens`; nothing is asked of
        untagged types that are not below a tagged one.
  `remarshal_typed_leg_tokens_tagged_global` : the same with `NoOmit a` (no `omitempty` field anywhere) and
        `TrRetract trs` (all transform pairs are retractions) instead of `TagStab`.
  `remarshal_typed_leg_tokens_tagged_hyp`, `remarshal_typed_leg_cbor_tagged` : hypothesis form, CBOR byte level.
  `remarshal_idempotent`  : the ingredient that tags add, on its own: for a re-marshal stable type, `rtF v` marshals (at
        its own type) to a rendering that reads back as `rtF v`.
  `tagStab_of_check` (TagDefs.lean) : a Bool checker for `TagStab` (given which transform pairs are retractions).

  FINDINGS.  `C12Typed.tagged_statement` (TagsOk alone) is FALSE: `tagged_statement_false`.
    * `omitempty` on a struct-typed field under a tag (`oe*` below).  T = struct{F S `omitempty`} registered with tag 50,
      S = struct{P *[]byte; Sl []int}, v = T{F: S{P: &nil, Sl: []int{}}}.  F is not empty (P is a non-nil pointer), so t1
      carries it: `50({f: {p: null, s: []}})`.  The untyped pass reconstructs T{F: S{P: nil, Sl: []int{}}} — now F IS
      empty (nil pointer, empty slice) — and the re-marshal omits it: t2 = `50({})`.  Reading t2 into T gives
      T{F: S{P: nil, Sl: nil}}, whereas the specified value (and Clone's result) has Sl = []int{} (non-nil).  Without tags
      the untyped pass builds a `map[string]interface{}`, which has no `omitempty`, and the property holds
      (`C12Typed.remarshal_typed_leg_tokens`).  This is a disagreement between claim (ii) and refmt as modelled; it
      needs `omitempty` on a field whose round-trip value can be empty without being the zero value (a struct, or a
      transform's result).  On fields of the other kinds `omitempty` is harmless (`TagOmit.lean`, `ok*` below).
    * transforms that are not retractions (`nr*` below, evaluated at fuel 40): a tagged transform with `u x = {x+1}`,
      `m {y} = y`: the untyped pass applies `u`, the re-marshal `m`, the final typed read `u` again; the value read
      from t2 is one more than the specified value.  Without tags the untyped pass never leaves the wire form.
    * `TagsOk` itself is needed (`C12Typed.dup_tag_untyped_pass_fails`: two registered types sharing a tag).

  Proof: `Refmt.Obj.idm_all` (Lemmas/TagIdm.lean) for `remarshal_idempotent`, `Refmt.Obj.legt_all` (Lemmas/TagLeg.lean) for
  the typed leg; at a tagged struct map / transform and at an untyped slot the latter uses `rt_cbor` + `IDM` instead of
  its own induction hypothesis (there the untyped pass IS the typed pass).
  Not covered: JSON (tags do not survive JSON); `omitempty` on struct- / transform-typed fields below a tag (false in
  general, see above); transforms that are retractions only on the image of their marshal function.
  Non-vacuity: `fu_tagged` / `fu_eval` (C13Full's `fuV`: a struct holding a keyed union, an untyped slot with a tagged
  struct and a tagged transform inside a `[]interface{}`, a tagged transform field and a pointer to one), `ok_tagged`.
-/
import RefmtProofs.Lemmas.TagLeg
import RefmtProofs.Props.C12Typed
namespace Refmt.C12Tagged
open Refmt Refmt.Obj Refmt.C13 Refmt.C11 Refmt.C12 Refmt.C12Typed
open Refmt.MachL

theorem remarshal_typed_leg_tokens_tagged (ts : Types) (a : Atlas) (trs : Trs) (it : IfaceTys) (fuel0 g id : Nat) (v : Val)
    (t1 : List Tok)
    (hp : fullTy ts a 64 id = true) (hv : hasTy ts 1000 id v = true) (hside : fullVal ts a trs it g id v = true)
    (he : UEnv ts a it) (hz : ZeroStable ts) (htr : TrsEqv trs)
    (hto : TagsOk a) (hts : TagStab ts a trs)
    (hm : marshalV ts a trs fuel0 id v = ⟨t1, none⟩) (h0 : fuel0 ≤ 1000) (hg : fuel0 ≤ g) :
    ∃ N, ∀ fuel, N ≤ fuel → ∃ u1 t2 r,
      unmV ts a trs it fuel it.iface (.iface none) t1 = .ok u1 [] t1.length ∧
      marshalV ts a trs fuel it.iface u1 = ⟨t2, none⟩ ∧
      unmV ts a trs it fuel id (zeroVal ts 64 id) t2 = .ok r [] t2.length ∧
      r = rtF ts a trs it g id v ∧
      ValEqv'' r (normV .pretty ts a trs it g id v) :=
  typed_leg_tokens ts a trs it fuel0 g id v t1 hp hv hside he hz htr hto hts hm h0 hg

theorem remarshal_typed_leg_tokens_tagged_global (ts : Types) (a : Atlas) (trs : Trs) (it : IfaceTys) (fuel0 g id : Nat) (v : Val)
    (t1 : List Tok)
    (hp : fullTy ts a 64 id = true) (hv : hasTy ts 1000 id v = true) (hside : fullVal ts a trs it g id v = true)
    (he : UEnv ts a it) (hz : ZeroStable ts) (htr : TrsEqv trs)
    (hto : TagsOk a) (hno : NoOmit a) (hret : TrRetract trs)
    (hm : marshalV ts a trs fuel0 id v = ⟨t1, none⟩) (h0 : fuel0 ≤ 1000) (hg : fuel0 ≤ g) :
    ∃ N, ∀ fuel, N ≤ fuel → ∃ u1 t2 r,
      unmV ts a trs it fuel it.iface (.iface none) t1 = .ok u1 [] t1.length ∧
      marshalV ts a trs fuel it.iface u1 = ⟨t2, none⟩ ∧
      unmV ts a trs it fuel id (zeroVal ts 64 id) t2 = .ok r [] t2.length ∧
      r = rtF ts a trs it g id v ∧
      ValEqv'' r (normV .pretty ts a trs it g id v) :=
  remarshal_typed_leg_tokens_tagged ts a trs it fuel0 g id v t1 hp hv hside he hz htr hto (tagStab_of_global hno hret) hm h0 hg

theorem noTags_tagsOk {a : Atlas} (h : NoTags a) : TagsOk a := h.tagsOk

theorem noTags_tagStab {a : Atlas} (ts : Types) (trs : Trs) (h : NoTags a) : TagStab ts a trs := h.tagStab ts trs

theorem remarshal_typed_leg_tokens_tagged_hyp (ts : Types) (a : Atlas) (trs : Trs) (it : IfaceTys) (fuel0 g id : Nat) (v : Val)
    (t1 : List Tok)
    (hp : fullTy ts a 64 id = true) (hv : hasTy ts 1000 id v = true) (hside : fullVal ts a trs it g id v = true)
    (he : UEnv ts a it) (hz : ZeroStable ts) (htr : TrsEqv trs)
    (hto : TagsOk a) (hts : TagStab ts a trs)
    (hm : marshalV ts a trs fuel0 id v = ⟨t1, none⟩) (h0 : fuel0 ≤ 1000) (hg : fuel0 ≤ g) :
    ∃ N, ∀ fuel, N ≤ fuel → ∀ (u1 : Val) (k : Nat) (t2 : List Tok),
      unmV ts a trs it fuel it.iface (.iface none) t1 = .ok u1 [] k →
      marshalV ts a trs fuel it.iface u1 = ⟨t2, none⟩ →
      ∃ r, unmV ts a trs it fuel id (zeroVal ts 64 id) t2 = .ok r [] t2.length ∧
        ValEqv'' r (normV .pretty ts a trs it g id v) :=
  hyp_of_tokens (remarshal_typed_leg_tokens_tagged ts a trs it fuel0 g id v t1 hp hv hside he hz htr hto hts hm h0 hg)

theorem remarshal_idempotent (ts : Types) (a : Atlas) (trs : Trs) (it : IfaceTys) (fuel0 g id : Nat) (v : Val) (t1 : List Tok)
    (hp : fullTy ts a 64 id = true) (hv : hasTy ts 1000 id v = true) (hside : fullVal ts a trs it g id v = true)
    (he : UEnv ts a it) (hz : ZeroStable ts) (htr : TrsEqv trs) (hst : StabTy ts a trs 64 id) (hts : TagStab ts a trs)
    (hm : marshalV ts a trs fuel0 id v = ⟨t1, none⟩) (h0 : fuel0 ≤ 1000) (hg : fuel0 ≤ g) :
    ∃ t1' N, ∀ fuel, N ≤ fuel →
      marshalV ts a trs fuel id (rtF ts a trs it g id v) = ⟨t1', none⟩ ∧
      unmV ts a trs it fuel id (zeroVal ts 64 id) t1' = .ok (rtF ts a trs it g id v) [] t1'.length := by
  obtain ⟨_, tk2, -, ⟨f1, h1⟩, ⟨f2, h2⟩⟩ :=
    (idm_all he hz htr hts fuel0 h0).v (Nat.le_refl _) hp hst hg 1000 v t1 hv hside (MRun.of_out (job := .v id v) hm)
  exact ⟨tk2, f1 + f2, fun fuel hF => ⟨(h1.mono (by omega)).out, h2.unmV_eq (by omega)⟩⟩

theorem remarshal_typed_leg_cbor_tagged (ts : Types) (a : Atlas) (trs : Trs) (it : IfaceTys) (fuel0 g id : Nat) (v : Val)
    (t1 : List Tok)
    (hp : fullTy ts a 64 id = true) (hv : hasTy ts 1000 id v = true) (hside : fullVal ts a trs it g id v = true)
    (he : UEnv ts a it) (hz : ZeroStable ts) (htr : TrsEqv trs)
    (hto : TagsOk a) (hts : TagStab ts a trs)
    (hm : marshalV ts a trs fuel0 id v = ⟨t1, none⟩) (h0 : fuel0 ≤ 1000) (hg : fuel0 ≤ g)
    (hc1 : t1.all C01.carryCbor = true) :
    ∃ N, ∀ fuel, N ≤ fuel → ∃ b1 u1 t2,
      C01.encodeCbor t1 = some b1 ∧
      viaDecCbor ts a trs it fuel it.iface b1 = some u1 ∧
      marshalV ts a trs fuel it.iface u1 = ⟨t2, none⟩ ∧
      (t2.all C01.carryCbor = true → ∃ b2 r,
        C01.encodeCbor t2 = some b2 ∧ viaDecCbor ts a trs it fuel id b2 = some r ∧
        ValEqv'' r (normV .pretty ts a trs it g id v)) :=
  cbor_of_tokens he hm hc1 (remarshal_typed_leg_tokens_tagged ts a trs it fuel0 g id v t1 hp hv hside he hz htr hto hts hm h0 hg)

/-! Non-vacuity: `C13Full.fuV`.  Type 0 = `struct{U union; I interface{}; T transform; P *transform}`; the value holds,
  inside the untyped slot, a `[]interface{}` with a nil, an int, a TAGGED struct (type 13, tag 50) and a TAGGED transform
  (type 30, tag 60), and the transform type 30 also as a field and behind a pointer. -/

open Refmt.C13Full in
theorem fu_tagsOk : TagsOk fuA := by unfold TagsOk; decide

open Refmt.C13Full in
theorem fu_retract : TrRetract fuTrs := by
  intro fn x w h
  simp only [fuTrs] at h ⊢
  split at h
  · cases h; simp
  · cases h

open Refmt.C13Full in
theorem fu_tagStab : TagStab fuTs fuA fuTrs :=
  tagStab_of_check (rfn := fun _ => true) (fun fn _ => fu_retract fn) (by decide)

open Refmt.C13Full in
/-- the first rendering of `fuV` (tags 50 and 60 on the first tokens of the tagged items) -/
def fuT1 : List Tok := [⟨.mapOpen 4, none⟩,
  ⟨.str [117], none⟩, ⟨.mapOpen 1, none⟩, ⟨.str [66], none⟩, ⟨.mapOpen 1, none⟩, ⟨.str [115], none⟩, ⟨.str [1, 2], none⟩,
    ⟨.mapClose, none⟩, ⟨.mapClose, none⟩,
  ⟨.str [105], none⟩, ⟨.arrOpen 4, none⟩, ⟨.null, none⟩, ⟨.int 5, none⟩,
    ⟨.mapOpen 1, some 50⟩, ⟨.str [121], none⟩, ⟨.int 9, none⟩, ⟨.mapClose, none⟩, ⟨.str [3, 4], some 60⟩, ⟨.arrClose, none⟩,
  ⟨.str [116], none⟩, ⟨.str [1, 2], some 60⟩,
  ⟨.str [112], none⟩, ⟨.str [5, 6], some 60⟩, ⟨.mapClose, none⟩]

/-- what the untyped pass makes of it: native maps / slices, except behind the tags, where the registered types 13 and 30
    are reconstructed -/
def fuU1 : Val := .iface (some (7, .map (some [
  (.str [117], .iface (some (7, .map (some [(.str [66], .iface (some (7, .map (some [(.str [115], .iface (some (1, .str [1, 2])))]))))])))),
  (.str [105], .iface (some (8, .slice (some [.iface none, .iface (some (2, .int 5)), .iface (some (13, .struct [.int 9])),
    .iface (some (30, .struct [.int 3, .int 4]))])))),
  (.str [116], .iface (some (30, .struct [.int 1, .int 2]))),
  (.str [112], .iface (some (30, .struct [.int 5, .int 6])))])))

/-- the re-marshalled rendering: entries in key order (i, p, t, u), the tags still on the tagged items -/
def fuT2 : List Tok := [⟨.mapOpen 4, none⟩,
  ⟨.str [105], none⟩, ⟨.arrOpen 4, none⟩, ⟨.null, none⟩, ⟨.int 5, none⟩,
    ⟨.mapOpen 1, some 50⟩, ⟨.str [121], none⟩, ⟨.int 9, none⟩, ⟨.mapClose, none⟩, ⟨.str [3, 4], some 60⟩, ⟨.arrClose, none⟩,
  ⟨.str [112], none⟩, ⟨.str [5, 6], some 60⟩,
  ⟨.str [116], none⟩, ⟨.str [1, 2], some 60⟩,
  ⟨.str [117], none⟩, ⟨.mapOpen 1, none⟩, ⟨.str [66], none⟩, ⟨.mapOpen 1, none⟩, ⟨.str [115], none⟩, ⟨.str [1, 2], none⟩,
    ⟨.mapClose, none⟩, ⟨.mapClose, none⟩, ⟨.mapClose, none⟩]

open Refmt.C13Full in
theorem fu_eval :
    marshalV fuTs fuA fuTrs 60 0 fuV = ⟨fuT1, none⟩ ∧
    unmV fuTs fuA fuTrs fuIt 60 20 (.iface none) fuT1 = .ok fuU1 [] 24 ∧
    marshalV fuTs fuA fuTrs 60 20 fuU1 = ⟨fuT2, none⟩ ∧
    unmV fuTs fuA fuTrs fuIt 60 0 (zeroVal fuTs 64 0) fuT2 = .ok fuV [] 24 ∧
    fuT2 ≠ fuT1 := by
  refine ⟨by with_unfolding_all rfl, by with_unfolding_all rfl, ?_, by with_unfolding_all rfl, by decide⟩
  -- The marshaller orders map entries with `List.mergeSort`, which the kernel does not evaluate: each of the three maps in
  -- `fuU1` is taken one step by hand, its entries given in sorted order; everything else is evaluated.
  have hS : ∀ f d x, marshalV fuTs fuA fuTrs (f+2) 20 (.iface (some (d, x))) = marshalV fuTs fuA fuTrs f d x :=
    mV_some fuTrs fu_env
  have hM : ∀ f es, (∀ p ∈ es, ∃ s, p.1 = .str s) → marshalV fuTs fuA fuTrs (f+2) 7 (.map (some es)) =
      (MOut.ok [⟨.mapOpen es.length, none⟩]).seq fun _ =>
        (marshalEntries fuTs fuA fuTrs f 20 (sortKeys .default (es.map fun p => (keyOf p.1, p.2)))).seq
          fun _ => .ok [⟨.mapClose, none⟩] := mV_map fuTrs fu_env
  have h1 : ∀ x : Bytes × Val, sortKeys .default [x] = [x] := fun x => by simp [sortKeys]
  have h4 : ∀ u i t p : Val, sortKeys .default [([117], u), ([105], i), ([116], t), ([112], p)] =
      [([105], i), ([112], p), ([116], t), ([117], u)] := fun u i t p =>
    C12L.sortKeys_eq_of_sorted .default _ _
      ((List.perm_append_comm (l₁ := [_]) (l₂ := [_, _, _])).trans (.cons _ (.swap _ _ _)))
      (by simp) (by simp [keyLe, bytesLe, bytesLt])
  unfold fuU1
  rw [hS 58, hM 56 _ (by simp)]
  simp only [List.map, keyOf, h4, marshalEntries_cons, marshalEntries_nil]
  rw [hS 50, hM 48 _ (by simp)]
  simp only [List.map, keyOf, h1, marshalEntries_cons, marshalEntries_nil]
  rw [hS 45, hM 43 _ (by simp)]
  simp only [List.map, keyOf, h1, marshalEntries_cons, marshalEntries_nil]
  with_unfolding_all rfl

open Refmt.C13Full in
theorem fu_tagged : ∃ N, ∀ fuel, N ≤ fuel → ∃ u1 t2 r,
    unmV fuTs fuA fuTrs fuIt fuel fuIt.iface (.iface none) (marshalV fuTs fuA fuTrs 60 0 fuV).toks =
      .ok u1 [] (marshalV fuTs fuA fuTrs 60 0 fuV).toks.length ∧
    marshalV fuTs fuA fuTrs fuel fuIt.iface u1 = ⟨t2, none⟩ ∧
    unmV fuTs fuA fuTrs fuIt fuel 0 (zeroVal fuTs 64 0) t2 = .ok r [] t2.length ∧
    r = rtF fuTs fuA fuTrs fuIt 1001 0 fuV ∧
    ValEqv'' r (normV .pretty fuTs fuA fuTrs fuIt 1001 0 fuV) :=
  remarshal_typed_leg_tokens_tagged fuTs fuA fuTrs fuIt 60 1001 0 fuV _ (by decide) (by decide) (by decide)
    fu_env fu_zero fu_trsEqv fu_tagsOk fu_tagStab (by rw [fu_eval.1]) (by omega) (by omega)

/-! Non-vacuity: `omitempty` under a tag on fields of plain kinds.  Type 0 = `struct{A int; P *[]byte; S []int}`, all
  three fields `omitempty`, registered with tag 50; v = `{A: 0, P: &nil, S: []int{}}`.  A and S are empty and not
  written; P is a non-nil pointer, written as null, and comes back nil — so the re-marshal omits all three fields; the
  result is the zero struct, as specified. -/

def okTs : Types := [
  (0, .struct [⟨[65], 2, true, false, none⟩, ⟨[80], 40, true, false, none⟩, ⟨[83], 41, true, false, none⟩]),
  (40, .ptr 3), (41, .slice 2),
  (1, .prim .string true), (2, .prim .int true), (3, .bytes true), (4, .prim .bool true), (5, .prim .uint64 true), (6, .prim .f64 true),
  (7, .map 1 20), (8, .slice 20), (20, .iface false)]
def okA : Atlas := ⟨[⟨true, 0, some 50,
  .structMap [⟨[97], false, [0], 2, true⟩, ⟨[112], false, [1], 40, true⟩, ⟨[115], false, [2], 41, true⟩]⟩], .default⟩
def okV : Val := .struct [.int 0, .ptr (some (.bytes none)), .slice (some [])]
def okT1 : List Tok := [⟨.mapOpen 1, some 50⟩, ⟨.str [112], none⟩, ⟨.null, none⟩, ⟨.mapClose, none⟩]

theorem ok_env : UEnv okTs okA lgIt := by constructor <;> decide
theorem ok_zero : ZeroStable okTs := zeroStable_of_check _ (by decide)
theorem ok_tagsOk : TagsOk okA := by unfold TagsOk; decide
theorem ok_tagStab : TagStab okTs okA lgTrs :=
  tagStab_of_check (rfn := fun _ => true) (fun fn _ x w h => by simp [lgTrs] at h) (by decide)

theorem ok_tagged : ∃ N, ∀ fuel, N ≤ fuel → ∃ u1 t2 r,
    unmV okTs okA lgTrs lgIt fuel lgIt.iface (.iface none) okT1 = .ok u1 [] okT1.length ∧
    marshalV okTs okA lgTrs fuel lgIt.iface u1 = ⟨t2, none⟩ ∧
    unmV okTs okA lgTrs lgIt fuel 0 (zeroVal okTs 64 0) t2 = .ok r [] t2.length ∧
    r = rtF okTs okA lgTrs lgIt 100 0 okV ∧
    ValEqv'' r (normV .pretty okTs okA lgTrs lgIt 100 0 okV) :=
  remarshal_typed_leg_tokens_tagged okTs okA lgTrs lgIt 30 100 0 okV okT1 (by decide) (by decide) (by decide)
    ok_env ok_zero lg_trsEqv ok_tagsOk ok_tagStab (by with_unfolding_all rfl) (by omega) (by omega)

/-- evaluated at fuel 40: the re-marshalled document is `50({})`, read back as the zero struct = the specified value -/
theorem ok_eval :
    unmV okTs okA lgTrs lgIt 40 20 (.iface none) okT1 = .ok (.iface (some (0, .struct [.int 0, .ptr none, .slice none]))) [] 4 ∧
    marshalV okTs okA lgTrs 40 20 (.iface (some (0, .struct [.int 0, .ptr none, .slice none]))) =
      ⟨[⟨.mapOpen 0, some 50⟩, ⟨.mapClose, none⟩], none⟩ ∧
    unmV okTs okA lgTrs lgIt 40 0 (zeroVal okTs 64 0) [⟨.mapOpen 0, some 50⟩, ⟨.mapClose, none⟩] =
      .ok (.struct [.int 0, .ptr none, .slice none]) [] 2 ∧
    normV .pretty okTs okA lgTrs lgIt 100 0 okV = .struct [.int 0, .ptr none, .slice none] := by
  refine ⟨by with_unfolding_all rfl, by with_unfolding_all rfl, by with_unfolding_all rfl, by with_unfolding_all rfl⟩

def oeTs : Types := [
  (0, .struct [⟨[70], 30, true, false, none⟩]),
  (30, .struct [⟨[80], 40, true, false, none⟩, ⟨[83], 41, true, false, none⟩]),
  (40, .ptr 3), (41, .slice 2),
  (1, .prim .string true), (2, .prim .int true), (3, .bytes true), (4, .prim .bool true), (5, .prim .uint64 true), (6, .prim .f64 true),
  (7, .map 1 20), (8, .slice 20), (20, .iface false)]
/-- T (type 0, tag 50) = `struct{F S "omitempty"}`, S (type 30) = `struct{P *[]byte; Sl []int}` -/
def oeA : Atlas := ⟨[⟨true, 0, some 50, .structMap [⟨[102], false, [0], 30, true⟩]⟩,
                     ⟨true, 30, none, .structMap [⟨[112], false, [0], 40, false⟩, ⟨[115], false, [1], 41, false⟩]⟩], .default⟩
/-- `T{F: S{P: &nil, Sl: []int{}}}` -/
def oeV : Val := .struct [.struct [.ptr (some (.bytes none)), .slice (some [])]]
/-- Clone's result, the specified value, and what the untyped pass reconstructs: `T{F: S{P: nil, Sl: []int{}}}` -/
def oeW : Val := .struct [.struct [.ptr none, .slice (some [])]]
/-- what the re-marshalled document reads as: `T{F: S{P: nil, Sl: nil}}` -/
def oeX : Val := .struct [.struct [.ptr none, .slice none]]
def oeT1 : List Tok := [⟨.mapOpen 1, some 50⟩, ⟨.str [102], none⟩, ⟨.mapOpen 2, none⟩, ⟨.str [112], none⟩, ⟨.null, none⟩,
  ⟨.str [115], none⟩, ⟨.arrOpen 0, none⟩, ⟨.arrClose, none⟩, ⟨.mapClose, none⟩, ⟨.mapClose, none⟩]
def oeT2 : List Tok := [⟨.mapOpen 0, some 50⟩, ⟨.mapClose, none⟩]

theorem oe_env : UEnv oeTs oeA lgIt := by constructor <;> decide
theorem oe_zero : ZeroStable oeTs := zeroStable_of_check _ (by decide)
theorem oe_tagsOk : TagsOk oeA := by unfold TagsOk; decide

theorem oe_facts :
    fullTy oeTs oeA 64 0 = true ∧ hasTy oeTs 1000 0 oeV = true ∧ fullVal oeTs oeA lgTrs lgIt 100 0 oeV = true ∧
    hasTy oeTs 1000 0 oeX = true ∧ fullVal oeTs oeA lgTrs lgIt 100 0 oeX = true := by decide

theorem oe_m1 : marshalV oeTs oeA lgTrs 30 0 oeV = ⟨oeT1, none⟩ := by with_unfolding_all rfl
theorem oe_m2 : marshalV oeTs oeA lgTrs 30 20 (.iface (some (0, oeW))) = ⟨oeT2, none⟩ := by with_unfolding_all rfl
theorem oe_m3 : marshalV oeTs oeA lgTrs 30 0 oeX = ⟨oeT2, none⟩ := by with_unfolding_all rfl
theorem oe_rt1 : rtF oeTs oeA lgTrs lgIt 100 0 oeV = oeW := by with_unfolding_all rfl
theorem oe_rt3 : rtF oeTs oeA lgTrs lgIt 100 0 oeX = oeX := by with_unfolding_all rfl
theorem oe_norm : normV .pretty oeTs oeA lgTrs lgIt 100 0 oeV = oeW := by with_unfolding_all rfl

/-- a nil slice is not an empty slice -/
theorem oe_not_eqv : ¬ ValEqv'' oeX oeW := by
  intro h
  unfold oeX oeW at h
  cases h with
  | struct _ h1 =>
    have h2 := h1 0 _ _ rfl rfl
    cases h2 with
    | struct _ h3 =>
      have h4 := h3 1 _ _ rfl rfl
      cases h4

theorem oe_chain (fuel : Nat) (hF : 40 ≤ fuel) :
    unmV oeTs oeA lgTrs lgIt fuel 20 (.iface none) oeT1 = .ok (.iface (some (0, oeW))) [] 10 ∧
    marshalV oeTs oeA lgTrs fuel 20 (.iface (some (0, oeW))) = ⟨oeT2, none⟩ ∧
    unmV oeTs oeA lgTrs lgIt fuel 0 (zeroVal oeTs 64 0) oeT2 = .ok oeX [] 2 := by
  obtain ⟨hp, hv, hs, hvx, hsx⟩ := oe_facts
  refine ⟨?_, C07.marshal_fuel_mono_le _ _ _ 30 fuel _ _ _ oe_m2 (by simp) (by omega), ?_⟩
  · -- the typed reading of `oeT1` (the round trip), boxed by the slot that finds type 0 under tag 50
    have h1 := rt_cbor oe_env oe_zero lg_trsEqv (by omega) (Nat.le_refl _) hp hv (by omega) hs (MRun.of_out (job := .v 0 oeV) oe_m1)
    rw [oe_rt1] at h1
    have hnp : ∀ e, oeTs.get 0 ≠ .ptr e := by intro e; simp [oeTs, Types.get]
    have hbt : oeA.getByTag 50 = some ⟨true, 0, some 50, .structMap [⟨[102], false, [0], 30, true⟩]⟩ := by decide
    have h2 := Reads.slot lgTrs oe_env (cur := .iface none) (.wild_tag rfl hbt ((reads_v_nonptr hnp).1 h1))
    exact (h2.mono (by omega : 30 + 1 + 2 ≤ fuel)).sound []
  · have h1 := rt_cbor oe_env oe_zero lg_trsEqv (by omega) (Nat.le_refl _) hp hvx (by omega) hsx (MRun.of_out (job := .v 0 oeX) oe_m3)
    rw [oe_rt3] at h1
    exact h1.unmV_eq (by omega)

theorem tagged_statement_false : ¬ tagged_statement := by
  intro h
  obtain ⟨hp, hv, hs, -, -⟩ := oe_facts
  obtain ⟨N, hN⟩ := h oeTs oeA lgTrs lgIt 30 100 0 oeV oeT1 hp hv hs oe_env oe_zero lg_trsEqv oe_tagsOk oe_m1 (by omega) (by omega)
  obtain ⟨u1, t2, r, e1, e2, e3, e4⟩ := hN (max N 40) (Nat.le_max_left _ _)
  obtain ⟨c1, c2, c3⟩ := oe_chain (max N 40) (Nat.le_max_right _ _)
  rw [show lgIt.iface = 20 from rfl, c1] at e1
  cases e1
  rw [show lgIt.iface = 20 from rfl, c2] at e2
  cases e2
  rw [c3] at e3
  cases e3
  rw [oe_norm] at e4
  exact oe_not_eqv e4

/-- the field that breaks it is not `OmitOk`: the atlas is not `TagStab` -/
theorem oe_not_stab : tagStabB oeTs oeA (fun _ => true) = false := by decide

/-! Transforms that are not retractions (evaluated).  Type 0 = `struct{Y int}` written through the transform pair
  `m {y} = y`, `u x = {x + 1}`, tag 70.  Clone returns (and `normV` specifies) `{6}` for `{5}`; the untyped pass
  reconstructs `{6}`, the re-marshal writes `70(6)`, and the final typed read returns `{7}`. -/

def nrTs : Types := [
  (0, .struct [⟨[89], 2, true, false, none⟩]),
  (1, .prim .string true), (2, .prim .int true), (3, .bytes true), (4, .prim .bool true), (5, .prim .uint64 true), (6, .prim .f64 true),
  (7, .map 1 20), (8, .slice 20), (20, .iface false)]
def nrA : Atlas := ⟨[⟨true, 0, some 70, .transform 0 2 2⟩], .default⟩
def nrTrs : Trs :=
  ⟨fun _ v => match v with | .struct [.int y] => some (.int y) | _ => none,
   fun _ v => match v with | .int x => some (.struct [.int (x + 1)]) | _ => none⟩

theorem nr_not_retract : ¬ RetractFn nrTrs 0 := by
  intro h
  have := h (.int 5) (.struct [.int 6]) rfl
  simp [nrTrs] at this

theorem nr_eval :
    fullTy nrTs nrA 64 0 = true ∧ hasTy nrTs 1000 0 (.struct [.int 5]) = true ∧
    fullVal nrTs nrA nrTrs lgIt 100 0 (.struct [.int 5]) = true ∧
    marshalV nrTs nrA nrTrs 30 0 (.struct [.int 5]) = ⟨[⟨.int 5, some 70⟩], none⟩ ∧
    clone nrTs nrA nrTrs lgIt 100 0 (.struct [.int 5]) = some (.struct [.int 6]) ∧
    normV .pretty nrTs nrA nrTrs lgIt 100 0 (.struct [.int 5]) = .struct [.int 6] ∧
    unmV nrTs nrA nrTrs lgIt 40 20 (.iface none) [⟨.int 5, some 70⟩] = .ok (.iface (some (0, .struct [.int 6]))) [] 1 ∧
    marshalV nrTs nrA nrTrs 40 20 (.iface (some (0, .struct [.int 6]))) = ⟨[⟨.int 6, some 70⟩], none⟩ ∧
    unmV nrTs nrA nrTrs lgIt 40 0 (zeroVal nrTs 64 0) [⟨.int 6, some 70⟩] = .ok (.struct [.int 7]) [] 1 := by
  refine ⟨by decide, by decide, by decide, by with_unfolding_all rfl, by with_unfolding_all rfl, by with_unfolding_all rfl,
    by with_unfolding_all rfl, by with_unfolding_all rfl, by with_unfolding_all rfl⟩

end Refmt.C12Tagged
