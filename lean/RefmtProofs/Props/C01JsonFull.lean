/-
  C01 on the whole domain for JSON, the analogue of `C01Full.roundtrip_full_cbor`: Marshal to JSON bytes, then Unmarshal
  from them into a fresh variable of the same type with the same atlas, returns the value the specification
  `normV .json` prescribes (up to the order in which the model lists map entries), for every type of the class
  `fullTyJ` and every value of the domain `fullValJ` (RefmtProofs/Lemmas/JFullDefs.lean).

  JSON, unlike CBOR, does not hand the unmarshaller the marshaller's tokens back: it hands back
  `toks.map Spec.Json.retypeTok` (lengths unknown, tags dropped, `uint n < 2^63` as `int n`, floats as the number token
  of their text, strings as `toValidUtf8`).  So `viaJson` is NOT `viaTokens` on this domain (`-0`, integral floats in
  untyped slots: `jx_tokens_differ`); JSON is the instance `τ = retypeTok` of the induction over a token-by-token
  re-typing (`wire_json`), and what comes back is `rtJ`: `normV .json` with every map in marshalling order.

  Domain.
    float32 targets are included (a float32 value is stored as its exact widening; `narrowF32` of the re-read number
    is the value again, and `narrowF32 0 = 0` for `-0`).
    Tagged entries at TYPED positions are included, unlike in `C01.json_eq_tokens_typed_partial` (`carryJson` asks
    `t.tag.isNone`): the JSON encoder ignores tags (`C03.JWF` allows them), the decoder
    returns untagged tokens and no typed machine looks at the tag; `transport_json'` is `C01.transport_json` for
    `carryJson'` (= `carryJson` without `t.tag.isNone`, and without `floatOk`, which holds for every finite float).

  Findings.
    * No disagreement between `normV .json` and the model's JSON round trip on this domain.
    * Outside it, `normV .json` does not describe what JSON returns for a registered tagged type held in an untyped
      slot (`tagged_struct_in_untyped_json`, `tagged_transform_in_untyped_json`).  `normV`'s own comment declares the
      fallback it takes there to be about CBOR; for JSON the case is simply unspecified.  `fullValJ` excludes it.
    * `fullTy`'s `tagBlind` restriction (a tagged transform must not have an untyped wire form) is inherited although
      JSON does not need it (`retypeTok` drops every tag before a machine could see it).
-/
import RefmtProofs.Lemmas.JFullRT
import RefmtProofs.Props.C01Full

namespace Refmt.C01
open Refmt Refmt.Obj

def carryJson' (t : Tok) : Bool :=
  match t.body with
  | .uint n => decide (n < two64)
  | .int i => decide (-(two63 : Int) ≤ i) && decide (i < (two63 : Int))
  | .float b => decide (b < two64) && !floatNonFinite b
  | .str s => s.all (· < 256)
  | .bytes _ => false
  | _ => true

theorem carryJson_carryJson' {t : Tok} (h : carryJson t = true) : carryJson' t = true := by
  obtain ⟨body, tag⟩ := t
  simp only [carryJson, Bool.and_eq_true] at h
  cases body with
  | float b =>
    simp only [Bool.and_eq_true] at h
    simp only [carryJson', Bool.and_eq_true]
    exact h.2.1
  | _ => exact h.2

end Refmt.C01

namespace Refmt.C01JsonFull
open Refmt Refmt.Obj Refmt.C11 Refmt.C12 Refmt.C13

theorem carry_scalar {t : Tok} (h : C01.carryJson' t = true) (hs : t.body.isScalar = true) : C03.jsonScalarOk t = true := by
  obtain ⟨body, tag⟩ := t
  cases body <;> first | exact h | rfl | cases hs

theorem carry_float {t : Tok} {x : Nat} (h : C01.carryJson' t = true) (hb : t.body = .float x) : C03L.floatOk x = true := by
  unfold C01.carryJson' at h
  rw [hb] at h
  simp only [Bool.and_eq_true, Bool.not_eq_true'] at h
  exact FloatL.floatOk_finite x h.2

theorem jwfl_of_flat' : ∀ (vs : List TV), (TV.flattenList vs).all C01.carryJson' = true → C07.LeavesL vs = true →
      C07.KeysStrL vs = true → C03.JWFl vs = true :=
  C01L.jwfl_of_all carry_scalar

theorem jwfe_of_flat' : ∀ (es : List (TV × TV)), (TV.flattenEntries es).all C01.carryJson' = true → C07.LeavesE es = true →
      C07.KeysStrE es = true → C03.JWFe es = true :=
  C01L.jwfe_of_all carry_scalar

theorem transport_json' (c : JsonEnc.Cfg) (ts : Types) (a : Atlas) (trs : Trs) (fuel id : Nat) (v : Val) (toks : List Tok)
    (hcfg : C03.cfgOk c = true) (hm : marshalV ts a trs fuel id v = ⟨toks, none⟩) (hc : toks.all C01.carryJson' = true) :
    ∃ bs, C01.encodeJson c toks = some bs ∧
      (let o := JsonDec.decode (Rd.ofBytes bs)
       o.toks = toks.map Spec.Json.retypeTok ∧ o.res = .ok ()) := by
  obtain ⟨tv, rfl, h1, h2, h3⟩ := C07.marshal_wf_strong ts a trs fuel id v toks hm
  obtain ⟨hd, hdec⟩ := C01L.transport_tree_json carry_scalar carry_float c hcfg tv hc h2 h3
  refine ⟨(runOut (JsonEnc.step c FloatText.jsonFloat) JsonEnc.init tv.flatten).2.flatten, ?_, hdec⟩
  unfold C01.encodeJson
  simp only [hd, if_true]

theorem viaJson_eq_retyped (c : JsonEnc.Cfg) (ts : Types) (a : Atlas) (trs : Trs) (it : IfaceTys) (fuel id : Nat) (v : Val)
    (toks : List Tok) (hcfg : C03.cfgOk c = true) (hm : marshalV ts a trs fuel id v = ⟨toks, none⟩)
    (hc : toks.all C01.carryJson' = true) :
    C01.viaJson c ts a trs it fuel id v =
      (match unmV ts a trs it fuel id (zeroVal ts 64 id) (toks.map Spec.Json.retypeTok) with
       | .ok r [] _ => some r
       | _ => none) := by
  obtain ⟨bs, hbs, hto, hr⟩ := transport_json' c ts a trs fuel id v toks hcfg hm hc
  unfold C01.viaJson
  simp only [hm, hbs, hto, hr, Except.isOk, Except.toBool, if_true]
  rfl

theorem roundtrip_full_json_exact (c : JsonEnc.Cfg) (ts : Types) (a : Atlas) (trs : Trs) (it : IfaceTys) (fuel0 fuel id : Nat)
    (v : Val) (hcfg : C03.cfgOk c = true)
    (hp : fullTyJ ts a 64 id = true) (hv : hasTy ts 1000 id v = true) (hside : fullValJ ts a trs it fuel id v = true)
    (he : UEnv ts a it) (hz : ZeroStable ts) (htr : TrsEqv trs)
    (hok : (marshalV ts a trs fuel0 id v).fail = none) (h0 : fuel0 ≤ 1000) (hf : fuel0 < fuel)
    (hc : (marshalV ts a trs fuel id v).toks.all C01.carryJson' = true) :
    C01.viaJson c ts a trs it fuel id v = some (rtJ ts a trs it fuel id v) := by
  obtain ⟨hp, hnm⟩ := fullTyJ_iff.mp hp
  have hm := MOut.eq_of_fail_none hok
  have hm' := C07.marshal_fuel_mono_le ts a trs fuel0 fuel id v _ hm (by simp) (by omega)
  rw [hm'] at hc
  rw [viaJson_eq_retyped c ts a trs it fuel id v _ hcfg hm' hc,
    ((wire_json hnm).complete he hz htr fuel0 fuel id v _ hp hv hside hm h0 hf).1]

/-- C01 for JSON on the full domain.  For a type of the class `fullTyJ` and a value that inhabits it (`hasTy`) and
    satisfies the side conditions `fullValJ`: if the marshaller succeeds (with one unit of fuel to spare) and its tokens
    are carriable by JSON, then Marshal to JSON bytes followed by Unmarshal from them succeeds and returns the
    specified value `normV .json` — `-0` as `0`, an integral float in an untyped slot as an `int`, `uint64` below
    `2^63` in an untyped slot as `int` — up to the order of map entries.
    Environment hypotheses as for CBOR: `UEnv`, `ZeroStable`, `TrsEqv`; `cfgOk` (Line / Indent are JSON whitespace). -/
theorem roundtrip_full_json (c : JsonEnc.Cfg) (ts : Types) (a : Atlas) (trs : Trs) (it : IfaceTys) (fuel0 fuel id : Nat)
    (v : Val) (hcfg : C03.cfgOk c = true)
    (hp : fullTyJ ts a 64 id = true) (hv : hasTy ts 1000 id v = true) (hside : fullValJ ts a trs it fuel id v = true)
    (he : UEnv ts a it) (hz : ZeroStable ts) (htr : TrsEqv trs)
    (hok : (marshalV ts a trs fuel0 id v).fail = none) (h0 : fuel0 ≤ 1000) (hf : fuel0 < fuel)
    (hc : (marshalV ts a trs fuel id v).toks.all C01.carryJson' = true) :
    ∃ r, C01.viaJson c ts a trs it fuel id v = some r ∧ ValEqv'' r (normV .json ts a trs it fuel id v) := by
  refine ⟨_, roundtrip_full_json_exact c ts a trs it fuel0 fuel id v hcfg hp hv hside he hz htr hok h0 hf hc, ?_⟩
  exact (rtSpec_json.eqv_norm htr he fuel).1 64 id v (Nat.le_refl _) (fullTyJ_iff.mp hp).1 hside

/-- the same at the level of `unmV`, on the re-typed tokens -/
theorem complete_full_json (ts : Types) (a : Atlas) (trs : Trs) (it : IfaceTys) (fuel0 fuel id : Nat) (v : Val) (toks : List Tok)
    (hp : fullTyJ ts a 64 id = true) (hv : hasTy ts 1000 id v = true) (hside : fullValJ ts a trs it fuel id v = true)
    (he : UEnv ts a it) (hz : ZeroStable ts) (htr : TrsEqv trs)
    (hm : marshalV ts a trs fuel0 id v = ⟨toks, none⟩) (h0 : fuel0 ≤ 1000) (hf : fuel0 < fuel) :
    ∃ v', unmV ts a trs it fuel id (zeroVal ts 64 id) (toks.map Spec.Json.retypeTok) = .ok v' [] toks.length ∧
      ValEqv'' v' (normV .json ts a trs it fuel id v) := by
  have hp := fullTyJ_iff.mp hp
  exact ⟨_, (wire_json hp.2).complete he hz htr fuel0 fuel id v toks hp.1 hv hside hm h0 hf⟩

/-! ### FINDING: registered tagged types inside untyped slots are outside what `normV .json` describes

  `C13Full.fuTs` / `fuA`: type 13 is a struct `{Y int}` registered with tag 50, type 30 a transform (tag 60) whose
  wire form is a two-byte string.  Held in an untyped slot (type 20) they are reconstructed by CBOR (through the tag);
  JSON drops the tag: the struct comes back as `map[string]interface{}{"y": 9}` and the transform as the string
  `"\x03\x04"`, whereas `normV .json` (its CBOR fallback) keeps the registered types. -/

def cfg0 : JsonEnc.Cfg := ⟨none, []⟩

theorem tagged_struct_in_untyped_json :
    C01.viaJson cfg0 C13Full.fuTs C13Full.fuA C13Full.fuTrs C13Full.fuIt 100 20 (.iface (some (13, .struct [.int 9]))) =
      some (.iface (some (7, .map (some [(.str [121], .iface (some (2, .int 9)))])))) ∧
    normV .json C13Full.fuTs C13Full.fuA C13Full.fuTrs C13Full.fuIt 100 20 (.iface (some (13, .struct [.int 9]))) =
      .iface (some (13, .struct [.int 9])) := by
  constructor <;> with_unfolding_all rfl

theorem tagged_transform_in_untyped_json :
    C01.viaJson cfg0 C13Full.fuTs C13Full.fuA C13Full.fuTrs C13Full.fuIt 100 20 (.iface (some (30, C13Full.fuTm 3 4))) =
      some (.iface (some (1, .str [3, 4]))) ∧
    normV .json C13Full.fuTs C13Full.fuA C13Full.fuTrs C13Full.fuIt 100 20 (.iface (some (30, C13Full.fuTm 3 4))) =
      .iface (some (30, C13Full.fuTm 3 4)) := by
  constructor <;> with_unfolding_all rfl

/-- … and they are indeed outside `fullValJ` -/
example : fullValJ C13Full.fuTs C13Full.fuA C13Full.fuTrs C13Full.fuIt 100 20 (.iface (some (13, .struct [.int 9]))) = false ∧
    fullValJ C13Full.fuTs C13Full.fuA C13Full.fuTrs C13Full.fuIt 100 20 (.iface (some (30, C13Full.fuTm 3 4))) = false := by
  decide

/-! ### Non-vacuity

  The untyped universe (ids 1–8, 20), a keyed union (10, members 11 `{X int}` and 12 `{S string}`), a float32 type (9),
  and the struct 0 = `{F float64; I interface{}; U union; G float32; Z float64; N interface{}}`, registered WITH a tag
  (tag 50: a tagged entry at a typed position). -/

def jxTs : Types := [
  (0, .struct [⟨[70], 6, true, false, none⟩, ⟨[73], 20, true, false, none⟩, ⟨[85], 10, true, false, none⟩,
               ⟨[71], 9, true, false, none⟩, ⟨[90], 6, true, false, none⟩, ⟨[78], 20, true, false, none⟩]),
  (1, .prim .string true), (2, .prim .int true), (3, .bytes true), (4, .prim .bool true), (5, .prim .uint64 true), (6, .prim .f64 true),
  (7, .map 1 20), (8, .slice 20), (9, .prim .f32 true), (20, .iface false),
  (10, .iface true),
  (11, .struct [⟨[88], 2, true, false, none⟩]),
  (12, .struct [⟨[83], 1, true, false, none⟩])]

def jxA : Atlas := ⟨[
  ⟨true, 0, some 50, .structMap [⟨[102], false, [0], 6, false⟩, ⟨[105], false, [1], 20, false⟩, ⟨[117], false, [2], 10, false⟩,
                                 ⟨[103], false, [3], 9, false⟩, ⟨[122], false, [4], 6, false⟩, ⟨[110], false, [5], 20, false⟩]⟩,
  ⟨true, 10, none, .union [([65], 2), ([66], 3)]⟩,
  ⟨true, 11, none, .structMap [⟨[120], false, [0], 2, false⟩]⟩,
  ⟨true, 12, none, .structMap [⟨[115], false, [0], 1, false⟩]⟩], .default⟩

def jxIt : IfaceTys := ⟨1, 3, 4, 2, 5, 6, 7, 8, 20⟩
def jxTrs : Trs := ⟨fun _ _ => none, fun _ _ => none⟩

def f1_5 : Nat := 4609434218613702656     -- 1.5
def f3_0 : Nat := 4613937818241073152     -- 3.0
def f0_5 : Nat := 4602678819172646912     -- 0.5 (exact as a float32)
def fNeg0 : Nat := 9223372036854775808    -- -0

/-- `{F: 1.5, I: float64(3.0), U: B{S: "hi"}, G: float32(0.5), Z: -0.0, N: []interface{}{uint64(7), nil, "é"}}` -/
def jxV : Val := .struct [
  .float f1_5,
  .iface (some (6, .float f3_0)),
  .iface (some (12, .struct [.str [104, 105]])),
  .float f0_5,
  .float fNeg0,
  .iface (some (8, .slice (some [.iface (some (5, .uint 7)), .iface none, .iface (some (1, .str [195, 169]))])))]

/-- what comes back: the integral float in the untyped slot as `int 3`, `-0` as `0`, the `uint64` as `int` -/
def jxR : Val := .struct [
  .float f1_5,
  .iface (some (2, .int 3)),
  .iface (some (12, .struct [.str [104, 105]])),
  .float f0_5,
  .float 0,
  .iface (some (8, .slice (some [.iface (some (2, .int 7)), .iface none, .iface (some (1, .str [195, 169]))])))]

theorem jx_env : UEnv jxTs jxA jxIt := by constructor <;> decide
theorem jx_zero : ZeroStable jxTs := zeroStable_of_check _ (by decide)
theorem jx_trsEqv : TrsEqv jxTrs := by
  intro fn x y b _ h
  simp [jxTrs] at h

theorem jx_hyps : fullTyJ jxTs jxA 64 0 = true ∧ hasTy jxTs 1000 0 jxV = true ∧ fullValJ jxTs jxA jxTrs jxIt 41 0 jxV = true := by
  refine ⟨by with_unfolding_all decide, by decide, by with_unfolding_all decide⟩

theorem jx_ok : (marshalV jxTs jxA jxTrs 40 0 jxV).fail = none := by with_unfolding_all decide

/-- the marshaller's tokens are carriable by JSON although the first one carries tag 50
    (`C01.carryJson` is false on it, `C01.carryJson'` true) -/
theorem jx_carry : (marshalV jxTs jxA jxTrs 41 0 jxV).toks.all C01.carryJson' = true := by with_unfolding_all decide
example : (marshalV jxTs jxA jxTrs 41 0 jxV).toks.all C01.carryJson = false := by with_unfolding_all decide

theorem jx_roundtrip : ∃ r, C01.viaJson cfg0 jxTs jxA jxTrs jxIt 41 0 jxV = some r ∧
    ValEqv'' r (normV .json jxTs jxA jxTrs jxIt 41 0 jxV) :=
  roundtrip_full_json cfg0 jxTs jxA jxTrs jxIt 40 41 0 jxV (by decide) jx_hyps.1 jx_hyps.2.1 jx_hyps.2.2 jx_env jx_zero jx_trsEqv
    jx_ok (by omega) (by omega) jx_carry

theorem jx_norm : normV .json jxTs jxA jxTrs jxIt 41 0 jxV = jxR := by with_unfolding_all rfl

/-- no map is involved, so the copy is the specified value itself -/
theorem jx_exact : C01.viaJson cfg0 jxTs jxA jxTrs jxIt 41 0 jxV = some jxR := by
  rw [roundtrip_full_json_exact cfg0 jxTs jxA jxTrs jxIt 40 41 0 jxV (by decide) jx_hyps.1 jx_hyps.2.1 jx_hyps.2.2 jx_env jx_zero
    jx_trsEqv jx_ok (by omega) (by omega) jx_carry]
  with_unfolding_all rfl

/-- what the token-level round trip (Clone, CBOR) returns: `jxV` but for the `uint64` in the untyped slot -/
def jxTok : Val := .struct [
  .float f1_5,
  .iface (some (6, .float f3_0)),
  .iface (some (12, .struct [.str [104, 105]])),
  .float f0_5,
  .float fNeg0,
  .iface (some (8, .slice (some [.iface (some (2, .int 7)), .iface none, .iface (some (1, .str [195, 169]))])))]

theorem jx_tokens_differ : C01.viaTokens jxTs jxA jxTrs jxIt 41 0 jxV = some jxTok ∧
    C01.viaTokens jxTs jxA jxTrs jxIt 41 0 jxV ≠ C01.viaJson cfg0 jxTs jxA jxTrs jxIt 41 0 jxV := by
  have h1 : C01.viaTokens jxTs jxA jxTrs jxIt 41 0 jxV = some jxTok := by with_unfolding_all rfl
  refine ⟨h1, ?_⟩
  rw [jx_exact, h1]
  intro h
  simp [jxTok, jxR, fNeg0] at h

end Refmt.C01JsonFull
