/-
  C09 — unmarshalling never silently changes a number.

  `storePrim` is the model of the primitive unmarshal machine (one token into a scalar
  target of a given kind); `unmWild` the untyped slot.  For every integer token and every
  integer kind: the store either fails or the stored value is exactly the token's
  mathematical value and lies in the kind's range; it succeeds whenever the value fits;
  floats never go into integer targets; float64 targets take floats bit-exactly.
-/
import RefmtModel
import RefmtProofs.Lemmas.StorePrim
namespace Refmt.C09
open Refmt Refmt.Obj

/-- mathematical value of an integer token (signed or unsigned spelling) -/
def tokInt (t : Tok) : Option Int :=
  match t.body with
  | .int i => some i
  | .uint n => some (n : Int)
  | _ => none

def valInt : Val → Option Int
  | .int i => some i
  | .uint n => some (n : Int)
  | _ => none

def isIntKind : Kind → Bool
  | .int | .int8 | .int16 | .int32 | .int64 | .uint | .uint8 | .uint16 | .uint32 | .uint64 | .uintptr => true
  | _ => false

/-- the mathematical range of each integer kind (64-bit platform) -/
def kindRange : Kind → Int × Int
  | .int8 => (-128, 127)
  | .int16 => (-32768, 32767)
  | .int32 => (-2147483648, 2147483647)
  | .int64 => (-9223372036854775808, 9223372036854775807)
  | .int => (-9223372036854775808, 9223372036854775807)
  | .uint8 => (0, 255)
  | .uint16 => (0, 65535)
  | .uint32 => (0, 4294967295)
  | .uint64 => (0, 18446744073709551615)
  | .uint => (0, 18446744073709551615)
  | .uintptr => (0, 18446744073709551615)
  | _ => (0, 0)

theorem kindRange_cases (k : Kind) (hk : isIntKind k = true) :
    (intRange k = some (kindRange k) ∧ (kindRange k).1 < 0) ∨
    (intRange k = none ∧ uintMax k = some (kindRange k).2.toNat ∧ (kindRange k).1 = 0 ∧ 0 ≤ (kindRange k).2) := by
  cases k <;> first | decide | cases hk

theorem storePrim_int (k : Kind) (b : Bool) (t : Tok) (x : Int) (hk : isIntKind k = true) (ht : tokInt t = some x) :
    storePrim (.prim k b) t =
      if (kindRange k).1 ≤ x ∧ x ≤ (kindRange k).2 then
        some (if (kindRange k).1 < 0 then .int x else .uint x.toNat)
      else none := by
  obtain ⟨body, tag⟩ := t
  -- the range is a pair of variables from here on: signed or unsigned target, signed or unsigned token
  rcases kindRange_cases k hk with ⟨hr, hneg⟩ | ⟨hr, hu, h0, hpos⟩ <;> revert hr <;>
    generalize kindRange k = r at * <;> obtain ⟨lo, hi⟩ := r <;> intro hr <;> simp only at *
  · simp only [hneg, if_true]
    cases body <;> cases ht
    · rw [storePrim_int_int hr]; simp
    · rename_i n
      rw [storePrim_uint_int hr]
      have : lo ≤ (n : Int) := by omega
      simp [this]
  · subst h0
    simp only [Int.lt_irrefl, if_false]
    cases body <;> cases ht
    · rw [storePrim_int_uint hr hu]
      by_cases h : 0 ≤ x ∧ x ≤ hi
      · rw [if_pos h, if_pos (by simp; omega)]
      · rw [if_neg h, if_neg (by simp; omega)]
    · rename_i n
      rw [storePrim_uint_uint hr hu]
      by_cases h : (n : Int) ≤ hi
      · rw [if_pos (show n ≤ hi.toNat by omega), if_pos ⟨by omega, h⟩]; simp
      · rw [if_neg (show ¬ n ≤ hi.toNat by omega), if_neg (by omega)]

theorem store_exact (k : Kind) (b : Bool) (t : Tok) (v : Val) (x : Int) (hk : isIntKind k = true)
    (ht : tokInt t = some x) (h : storePrim (.prim k b) t = some v) :
    valInt v = some x ∧ (kindRange k).1 ≤ x ∧ x ≤ (kindRange k).2 := by
  rw [storePrim_int k b t x hk ht] at h
  split at h
  · next hr =>
    refine ⟨?_, hr⟩
    cases h
    split
    · rfl
    · simp only [valInt, Option.some.injEq]; omega
  · cases h

theorem store_rejects_unfit (k : Kind) (b : Bool) (t : Tok) (x : Int) (hk : isIntKind k = true)
    (ht : tokInt t = some x) (hr : x < (kindRange k).1 ∨ (kindRange k).2 < x) :
    storePrim (.prim k b) t = none := by
  rw [storePrim_int k b t x hk ht, if_neg (by omega)]

theorem store_accepts_fit (k : Kind) (b : Bool) (t : Tok) (x : Int) (hk : isIntKind k = true)
    (ht : tokInt t = some x) (hr : (kindRange k).1 ≤ x ∧ x ≤ (kindRange k).2) :
    ∃ v, storePrim (.prim k b) t = some v :=
  ⟨_, by rw [storePrim_int k b t x hk ht, if_pos hr]⟩

theorem float_not_into_int (k : Kind) (b : Bool) (bits : Nat) (tag : Option Int) (hk : isIntKind k = true) :
    storePrim (.prim k b) ⟨.float bits, tag⟩ = none := by
  cases k <;> simp [isIntKind] at hk <;> simp [storePrim]

/-- float32 targets take floats by rounding (the model's `narrowF32`) -/
theorem float_into_float (b : Bool) (bits : Nat) (tag : Option Int) :
    storePrim (.prim .f64 b) ⟨.float bits, tag⟩ = some (.float bits) ∧
    storePrim (.prim .f32 b) ⟨.float bits, tag⟩ = some (.float (FloatText.narrowF32 bits)) := by
  constructor <;> simp [storePrim]

/-- An untyped slot receives exactly the serialized integer (as `int`, or `uint64` above MaxInt64). -/
theorem untyped_exact (ts : Types) (a : Atlas) (trs : Trs) (it : IfaceTys) (fuel : Nat) (t : Tok) (rest : List Tok) (x : Int)
    (ht : tokInt t = some x) (hr : -9223372036854775808 ≤ x ∧ x ≤ 18446744073709551615) (htag : t.tag = none) :
    ∃ dt v, unmWild ts a trs it (fuel + 1) false t rest = .ok (.iface (some (dt, v))) rest 1 ∧ valInt v = some x := by
  obtain ⟨body, tag⟩ := t
  subst htag
  cases body <;> simp [tokInt] at ht <;> subst ht
  · rename_i i
    exact ⟨it.int, .int i, by simp [unmWild], by simp [valInt]⟩
  · rename_i n
    by_cases hn : n < two63
    · exact ⟨it.int, .int n, by simp [unmWild, hn], by simp [valInt]⟩
    · exact ⟨it.uint64, .uint n, by simp [unmWild, hn], by simp [valInt]⟩

example : (storePrim (.prim .int8 true) ⟨.int 300, none⟩).isNone = true := by decide
example : (storePrim (.prim .uint16 false) ⟨.int 65535, none⟩).isSome = true := by decide

end Refmt.C09
