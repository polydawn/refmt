/-
  C08 — output is a deterministic function of the value; keys are ordered as configured.

  * `keyLe_*`: both key comparators are total preorders that are antisymmetric on byte strings (default / strings:
    bytewise lexicographic; RFC 7049: shorter first, then bytewise).
  * `sortKeys_sorted`, `sortKeys_perm`: the emitted key sequence is sorted by the configured order and is a permutation
    of the map's keys.
  * `sortKeys_unique`: with distinct keys the sorted sequence does not depend on the order in which the map was iterated
    or built (so any correct sort, Go's unstable one included, gives it).
  * `marshal_map_order_independent`: two map values holding the same entries in different iteration orders marshal to
    identical token lists.
  * `struct_keys_in_atlas_order_*`: a struct's keys appear in the order of the atlas entry's field list.  With a
    hypothesis on the field *types* alone (`struct_keys_in_atlas_order_statement`) it is false: it constrains nothing
    else, so a string-valued (ill-typed) field value, or a named scalar type with an atlas transform to a string, puts a
    string token in value position (`struct_keys_in_atlas_order_false_illtyped`,
    `struct_keys_in_atlas_order_false_atlas`).  The keys themselves are always in atlas order: `struct_tokens_shape`
    (unconditional token-stream shape), `struct_keys_in_atlas_order_of_nostr`, `struct_keys_in_atlas_order_typed`.
-/
import RefmtModel
import RefmtProofs.Lemmas.KeyOrder
import RefmtProofs.Lemmas.MarshalRun
import RefmtProofs.Lemmas.ObjRoundTrip
import RefmtProofs.Lemmas.AutogenList
namespace Refmt.C08
open Refmt Refmt.Obj

theorem keyLe_total (mode : KeySort) (a b : Bytes) : keyLe mode a b = true ∨ keyLe mode b a = true :=
  KeyOrder.keyLe_total mode a b

theorem keyLe_trans (mode : KeySort) (a b c : Bytes) (h1 : keyLe mode a b = true) (h2 : keyLe mode b c = true) :
    keyLe mode a c = true :=
  KeyOrder.keyLe_trans mode a b c h1 h2

theorem keyLe_antisymm (mode : KeySort) (a b : Bytes) (h1 : keyLe mode a b = true) (h2 : keyLe mode b a = true) :
    a = b :=
  KeyOrder.keyLe_antisymm mode a b h1 h2

theorem keyLe_rfc7049_shorter_first (a b : Bytes) (h : a.length < b.length) : keyLe .rfc7049 a b = true ∧ keyLe .rfc7049 b a = false := by
  refine ⟨(KeyOrder.keyLe_rfc7049 a b).2 (.inl h), ?_⟩
  cases hba : keyLe .rfc7049 b a
  · rfl
  · rcases (KeyOrder.keyLe_rfc7049 b a).1 hba with h' | ⟨h', _⟩ <;> omega

theorem keyLe_default_is_strings (a b : Bytes) : keyLe .default a b = keyLe .strings a b := by
  rfl

theorem sortKeys_sorted (mode : KeySort) (kvs : List (Bytes × Val)) :
    (sortKeys mode kvs).Pairwise (fun x y => keyLe mode x.1 y.1 = true) := by
  -- the two order laws are stated for pairs first: handed over inline, the unifier unfolds `mergeSort`
  have htr : ∀ (x y z : Bytes × Val), keyLe mode x.1 y.1 = true → keyLe mode y.1 z.1 = true → keyLe mode x.1 z.1 = true :=
    fun x y z => keyLe_trans mode x.1 y.1 z.1
  have hto : ∀ (x y : Bytes × Val), (keyLe mode x.1 y.1 || keyLe mode y.1 x.1) = true :=
    fun x y => Bool.or_eq_true_iff.mpr (keyLe_total mode x.1 y.1)
  exact List.pairwise_mergeSort htr hto kvs

theorem sortKeys_perm (mode : KeySort) (kvs : List (Bytes × Val)) : (sortKeys mode kvs).Perm kvs :=
  ObjL.sortKeys_perm mode kvs

theorem sortKeys_unique (mode : KeySort) (kvs kvs' : List (Bytes × Val)) (hp : kvs.Perm kvs')
    (hd : (kvs.map (·.1)).Nodup) : sortKeys mode kvs = sortKeys mode kvs' := by
  apply List.Perm.eq_of_pairwise (le := fun x y => keyLe mode x.1 y.1 = true)
  · intro x y hx hy h1 h2
    have hx' : x ∈ kvs := (sortKeys_perm mode kvs).mem_iff.mp hx
    have hy' : y ∈ kvs := hp.mem_iff.mpr ((sortKeys_perm mode kvs').mem_iff.mp hy)
    -- entries with distinct keys are determined by their key
    exact Autogen.eq_of_nodup_map (·.1) kvs hd x y hx' hy' (keyLe_antisymm mode _ _ h1 h2)
  · exact sortKeys_sorted mode kvs
  · exact sortKeys_sorted mode kvs'
  · exact (sortKeys_perm mode kvs).trans (hp.trans (sortKeys_perm mode kvs').symm)

theorem nodup_keyStr : ∀ (es : List (Val × Val)), (∀ p ∈ es, ∃ s, p.1 = .str s) →
    (es.map (·.1)).Pairwise (fun x y => ∀ s, x = Val.str s → y ≠ Val.str s) →
    ((es.map fun (k, x) => (keyStr k, x)).map (·.1)).Nodup := by
  intro es
  induction es with
  | nil => intro _ _; simp
  | cons p es ih =>
    intro hk hd
    simp only [List.map_cons, List.pairwise_cons, List.mem_map, forall_exists_index, and_imp] at hd
    simp only [List.map_cons, List.nodup_cons, List.mem_map, not_exists, not_and]
    refine ⟨?_, ih (fun q hq => hk q (by simp [hq])) hd.2⟩
    rintro _ ⟨q, hq, rfl⟩ heq
    obtain ⟨s, hs⟩ := hk p (by simp)
    obtain ⟨s', hs'⟩ := hk q (by simp [hq])
    have : s' = s := by simpa [keyStr, hs, hs'] using heq
    subst this
    exact hd.1 _ q hq rfl s' hs hs'

/-- string-keyed maps; keys distinct, as in any Go map -/
theorem marshal_map_order_independent (ts : Types) (a : Atlas) (trs : Trs) (fuel id kt vt : Nat) (mode : KeySort)
    (es es' : List (Val × Val)) (hp : es.Perm es')
    (hk : ∀ p ∈ es, ∃ s, p.1 = .str s) (hd : (es.map (·.1)).Pairwise (fun x y => ∀ s, x = Val.str s → y ≠ Val.str s))
    (hkt : ∃ b, ts.get kt = .prim .string b) :
    marshalBare ts a trs fuel id (.map kt vt mode) (.map (some es)) =
    marshalBare ts a trs fuel id (.map kt vt mode) (.map (some es')) := by
  obtain ⟨b, hkt⟩ := hkt
  cases fuel with
  | zero => rw [MachL.marshalBare_zero, MachL.marshalBare_zero]
  | succ fuel =>
    have hk' : ∀ p ∈ es', ∃ s, p.1 = .str s := fun p hp' => hk p (hp.mem_iff.mpr hp')
    have hkf := ObjL.keyFnOf_string hkt a
    -- both maps are written from the sorted list of their (key string, value) pairs, and that list is the same
    rw [MachL.marshalBare_map, MachL.marshalBare_map, hkf]
    simp only [Option.getD_some, C13.stringify_strKeys es hk, C13.stringify_strKeys es' hk', Option.isNone_some]
    rw [sortKeys_unique mode _ _ (hp.map _) (nodup_keyStr es hk hd), hp.length_eq]

/-- keys of the tokens a struct machine emits, in order -/
def structKeys (fields : List SMField) (v : Val) : List Bytes :=
  (fields.filter fun f =>
    !f.ignore && (match traverse f.route v with
                  | none => false
                  | some fv => !(f.omitEmpty && isEmpty 1000 fv))).map (·.name)

/-- the bodies of all string tokens of a stream, in order (the keys, if no value contributes a string token) -/
def keysOf : List Tok → List Bytes
  | [] => []
  | t :: rest => (match t.body with | .str s => [s] | _ => []) ++ keysOf rest

set_option linter.unusedVariables false in  -- the hypotheses are named for the reader of the statement
/-- The property with `hscalar`, a hypothesis on the type descriptors of the fields alone: false, since (1) nothing ties
    the value `v` to those types, and the primitive machine emits the token of the value it is handed; (2) a named
    scalar type may have an atlas entry (a transform to a string type, say) and then is not marshalled by the primitive
    machine at all.  In both cases a field *value* contributes a string token that `keysOf` counts as a key. -/
def struct_keys_in_atlas_order_statement : Prop :=
  ∀ (ts : Types) (a : Atlas) (trs : Trs) (fuel id : Nat) (e : Entry) (fields : List SMField)
    (v : Val) (toks : List Tok)
    (hscalar : ∀ f ∈ fields, ∃ k b, ts.get f.ty = .prim k b ∧ k ≠ .string)
    (h : marshalBare ts a trs (fuel + 1) id (.structMap e fields) v = ⟨toks, none⟩),
    keysOf toks = structKeys fields v

/-- Counterexample 1 (ill-typed value): one field `a` of builtin type `int`, route `[]`, but the value handed
    in is the string `"b"`.  Output `{ "a": "b" }`, so `keysOf = ["a","b"] ≠ ["a"]`. -/
theorem struct_keys_in_atlas_order_false_illtyped : ¬ struct_keys_in_atlas_order_statement := by
  intro hst
  have h := hst [(0, .prim .int true)] ⟨[], .default⟩ ⟨fun _ _ => none, fun _ _ => none⟩ 5 7
    ⟨true, 7, none, .invalid⟩ [⟨[97], false, [], 0, false⟩] (.str [98])
    [⟨.mapOpen 1, none⟩, ⟨.str [97], none⟩, ⟨.str [98], none⟩, ⟨.mapClose, none⟩]
    (by intro f hf
        simp only [List.mem_singleton] at hf
        subst hf
        exact ⟨.int, true, by simp [Types.get, List.lookup], by decide⟩)
    (by with_unfolding_all rfl)
  simp [keysOf, structKeys, traverse] at h

/-- Counterexample 2 (well-typed value, atlas override): the field type is a named `int` type (`.prim .int false`)
    for which the atlas registers a transform to `string`; the value is the integer `5`.  The transform machine
    emits a string token for the field value: output `{ "a": "b" }`. -/
theorem struct_keys_in_atlas_order_false_atlas : ¬ struct_keys_in_atlas_order_statement := by
  intro hst
  have h := hst [(0, .prim .int false), (1, .prim .string true)] ⟨[⟨true, 0, none, .transform 0 1 0⟩], .default⟩
    ⟨fun _ _ => some (.str [98]), fun _ _ => none⟩ 5 7
    ⟨true, 7, none, .invalid⟩ [⟨[97], false, [], 0, false⟩] (.int 5)
    [⟨.mapOpen 1, none⟩, ⟨.str [97], none⟩, ⟨.str [98], none⟩, ⟨.mapClose, none⟩]
    (by intro f hf
        simp only [List.mem_singleton] at hf
        subst hf
        exact ⟨.int, false, by simp [Types.get, List.lookup], by decide⟩)
    (by with_unfolding_all rfl)
  simp [keysOf, structKeys, traverse] at h

theorem keysOf_append (x y : List Tok) : keysOf (x ++ y) = keysOf x ++ keysOf y := by
  induction x with
  | nil => rfl
  | cons t x ih => simp [keysOf, ih, List.append_assoc]

/-- the tokens of the fields of a struct: per field, the key token with its name, then those of a successful marshal
    of its value -/
inductive FieldToks (ts : Types) (a : Atlas) (trs : Trs) (v : Val) : List SMField → List Tok → Prop
  | nil : FieldToks ts a trs v [] []
  | cons {f : SMField} {fs : List SMField} {fv : Val} {fuel : Nat} {c rest : List Tok} :
      traverse f.route v = some fv → marshalV ts a trs fuel f.ty fv = ⟨c, none⟩ →
      FieldToks ts a trs v fs rest → FieldToks ts a trs v (f :: fs) (⟨.str f.name, none⟩ :: (c ++ rest))

theorem marshalFields_shape (ts : Types) (a : Atlas) (trs : Trs) (v : Val) :
    ∀ (fuel : Nat) (fs : List SMField) (toks : List Tok),
      marshalFields ts a trs fuel fs v = ⟨toks, none⟩ → FieldToks ts a trs v fs toks := by
  intro fuel fs
  induction fs generalizing fuel with
  | nil => intro toks h; cases MRun.of_out (job := .fields [] v) h; exact .nil
  | cons f rest ih =>
    intro toks h
    cases MRun.of_out (job := .fields (f :: rest) v) h with
    | fieldsCons hfv h1 h2 => exact .cons hfv h1.out (ih _ _ h2.out)

theorem struct_tokens_shape (ts : Types) (a : Atlas) (trs : Trs) (fuel id : Nat) (e : Entry) (fields : List SMField)
    (v : Val) (toks : List Tok)
    (h : marshalBare ts a trs (fuel + 1) id (.structMap e fields) v = ⟨toks, none⟩) :
    ∃ (emit : List SMField) (body : List Tok),
      emit = (fields.filter fun f =>
        !f.ignore && (match traverse f.route v with
                      | none => false
                      | some fv => !(f.omitEmpty && isEmpty 1000 fv))) ∧
      emit.map (·.name) = structKeys fields v ∧
      FieldToks ts a trs v emit body ∧
      toks = ⟨.mapOpen emit.length, e.tag⟩ :: (body ++ [⟨.mapClose, none⟩]) := by
  cases MRun.of_out (job := .bare id (.structMap e fields) v) h with
  | @struct _ _ _ _ _ t3 h3 => exact ⟨_, t3, rfl, rfl, marshalFields_shape ts a trs v fuel _ t3 h3.out, rfl⟩

theorem keysOf_fieldToks (ts : Types) (a : Atlas) (trs : Trs) (v : Val) (fs : List SMField) (toks : List Tok)
    (hft : FieldToks ts a trs v fs toks)
    (hnostr : ∀ f ∈ fs, ∀ fv fuel' out, traverse f.route v = some fv →
        marshalV ts a trs fuel' f.ty fv = ⟨out, none⟩ → keysOf out = []) :
    keysOf toks = fs.map (·.name) := by
  induction hft with
  | nil => rfl
  | cons hfv hm hrest ih =>
    rename_i f fs fv fuel c rest
    have hc := hnostr f (by simp) fv fuel c hfv hm
    have hr := ih (fun g hg => hnostr g (by simp [hg]))
    simp [keysOf, keysOf_append, hc, hr]

theorem struct_keys_in_atlas_order_of_nostr (ts : Types) (a : Atlas) (trs : Trs) (fuel id : Nat) (e : Entry)
    (fields : List SMField) (v : Val) (toks : List Tok)
    (hnostr : ∀ f ∈ fields, ∀ fv fuel' out, traverse f.route v = some fv →
        marshalV ts a trs fuel' f.ty fv = ⟨out, none⟩ → keysOf out = [])
    (h : marshalBare ts a trs (fuel + 1) id (.structMap e fields) v = ⟨toks, none⟩) :
    keysOf toks = structKeys fields v := by
  obtain ⟨emit, body, hemit, hkeys, hft, rfl⟩ := struct_tokens_shape ts a trs fuel id e fields v toks h
  have hb := keysOf_fieldToks ts a trs v emit body hft (fun f hf => hnostr f (by
    rw [hemit] at hf
    exact (List.mem_filter.mp hf).1))
  simp [keysOf, keysOf_append, hb, hkeys]

theorem marshalV_prim_nostr (ts : Types) (a : Atlas) (trs : Trs) (fuel id : Nat) (k : Kind) (b : Bool) (fv : Val)
    (out : List Tok) (hty : ts.get id = .prim k b) (hb : b = true ∨ a.get id = none)
    (hv : ∀ s, fv ≠ .str s) (hout : marshalV ts a trs fuel id fv = ⟨out, none⟩) : keysOf out = [] := by
  have hpick : pickBare ts a id = .prim := by
    unfold pickBare
    rw [hty]
    rcases hb with rfl | hb
    · rfl
    · cases b <;> simp [hb]
  obtain ⟨f', -, hrun⟩ := (MRun.of_out (job := .v id fv) hout).v_nonptr (by simp [hty])
  rw [hpick] at hrun
  cases hrun with
  | prim hp =>
    -- one token, and it is a string token only if the value is a string
    obtain ⟨tb, rfl, _, hstr⟩ := ObjL.primTok_inv hp
    cases tb <;> first | rfl | exact absurd (hstr _ rfl) (hv _)

/-- `hscalar` as in `struct_keys_in_atlas_order_statement`, plus (`hatlas`) the scalar types are
    builtin or have no atlas entry, plus (`hval`) the field values are not strings (as holds for every value that
    is well typed at a non-string scalar type). -/
theorem struct_keys_in_atlas_order_typed (ts : Types) (a : Atlas) (trs : Trs) (fuel id : Nat) (e : Entry)
    (fields : List SMField) (v : Val) (toks : List Tok)
    (hscalar : ∀ f ∈ fields, ∃ k b, ts.get f.ty = .prim k b ∧ k ≠ .string)
    (hatlas : ∀ f ∈ fields, (∃ k, ts.get f.ty = .prim k true) ∨ a.get f.ty = none)
    (hval : ∀ f ∈ fields, ∀ fv, traverse f.route v = some fv → ∀ s, fv ≠ .str s)
    (h : marshalBare ts a trs (fuel + 1) id (.structMap e fields) v = ⟨toks, none⟩) :
    keysOf toks = structKeys fields v := by
  apply struct_keys_in_atlas_order_of_nostr ts a trs fuel id e fields v toks _ h
  intro f hf fv fuel' out hfv hout
  obtain ⟨k, b, hty, _⟩ := hscalar f hf
  refine marshalV_prim_nostr ts a trs fuel' f.ty k b fv out hty ?_ (hval f hf fv hfv) hout
  rcases hatlas f hf with ⟨k', hk'⟩ | hn
  · rw [hty] at hk'
    simp only [TyDesc.prim.injEq] at hk'
    exact Or.inl hk'.2
  · exact Or.inr hn

example : keyLe .rfc7049 [98] [97, 97] = true ∧ keyLe .strings [98] [97, 97] = false := by decide

end Refmt.C08
