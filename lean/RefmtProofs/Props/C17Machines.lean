/-
  C17, object layer and codec structs: what a reused machine reads was written for THIS use.

  Two obligations, both regenerated from /repo's working tree on every run (tools/extract -> Gen/Machines.lean):

  1. the slab discipline (Model/Slab.lean) is the code's: the source text of grow / release / Bind is the text the
     model was written from; in the model a requisitioned row is the zero row after ANY history, and Bind forgets
     every history;
  2. in the table of every field of every struct with a Reset method - is it assigned by Reset at top level, under a
     condition, or not at all; is it assigned at every yield site - every field is written for every use (Reset at
     top level, or every yield site) or is one of the AUDITED carried fields below, each listed with the reason why
     reading it is still independent of the instance's past.  A new field nobody resets, a reset that was dropped
     or moved under a condition, a slab that recycles rows, a Bind that keeps its stack: each breaks an obligation
     here, and the reuse histories of the correspondence check (stream hist) then look for a failing history.
     (A new field that IS reset, a reset added to a carried field, renamed locals: no obligation breaks.)
-/
import RefmtModel.Model.Slab
import RefmtModel.Gen.Machines
namespace Refmt.C17Machines
open Refmt Refmt.Slab

variable {Row : Type}

theorem requisition_zero (zero : Row) (s : S Row) : tip? (grow zero s) = some zero := by
  simp [tip?, grow]

theorem release_grow (zero : Row) (s : S Row) : release (grow zero s) = s := by
  cases s; simp [release, grow]

theorem bind_forgets (s₁ s₂ : S Row) : bind s₁ = bind s₂ := rfl

theorem first_machine_independent_of_history (zero : Row) (s₁ s₂ : S Row) (h₁ h₂ : List (Op Row)) :
    grow zero (bind (run zero s₁ h₁)) = grow zero (bind (run zero s₂ h₂)) ∧
    tip? (grow zero (bind (run zero s₁ h₁))) = some zero := by
  exact ⟨rfl, requisition_zero zero _⟩

theorem every_requisition_zero (zero : Row) (s : S Row) (ops : List (Op Row)) :
    tip? (grow zero (run zero s ops)) = some zero := requisition_zero zero _

theorem writeTip_keeps_parents (f : Row → Row) (zero : Row) (s : S Row) :
    (writeTip f (grow zero s)).rows.dropLast = s.rows := by
  cases s; simp [writeTip, grow]

-- non-vacuity: a dirty slab, an abandoned run on it, Bind, requisition
example : tip? (grow (0 : Nat) (bind (run 0 ⟨[7, 8, 9]⟩ [.grow, .write (· + 5), .grow, .write (· + 1)]))) = some 0 := by decide

/-- source text of grow / release / Bind, as the model above reads them -/
def auditedDiscipline : List String := [
  "marshalSlab.grow: { s.rows = append(s.rows, marshalSlabRow{}) }",
  "marshalSlab.release: { s.rows = s.rows[0 : len(s.rows)-1] }",
  "unmarshalSlab.grow: { s.rows = append(s.rows, unmarshalSlabRow{}) }",
  "unmarshalSlab.release: { s.rows = s.rows[0 : len(s.rows)-1] }",
  "Marshaller.Bind: d.stack = d.stack[0:0]; d.marshalSlab.rows = d.marshalSlab.rows[0:0]",
  "Unmarshaller.Bind: d.stack = d.stack[0:0]; d.unmarshalSlab.rows = d.unmarshalSlab.rows[0:0]"
]

-- both sides are lists of string literals: the regenerated text is the audited text, letter for letter
theorem slab_discipline_as_modelled : Gen.slabDiscipline = auditedDiscipline := rfl

/-- Fields that neither `Reset` (at top level) nor every yield site assigns, each with the reason why a reused
    instance still behaves like a fresh one.  Everything else in the table is assigned by Reset at top level (`R`) or
    at every yield site (`Y`). -/
def carried : List (String × String) := [
  -- codec structs: set once by the constructor, never changed (configuration, the reader / writer, scratch space whose
  -- content is written before it is read)
  ("cbor.Decoder.cfg", "constructor configuration"),
  ("cbor.Decoder.r", "the reader: the stream position is what a long-lived decoder is for"),
  ("cbor.Encoder.spareBytes", "scratch: written before read in every emit"),
  ("cbor.Encoder.w", "the writer (its sticky error is cleared by Reset through the quickWriter's clearError)"),
  ("json.Decoder.r", "the reader"),
  ("json.Encoder.cfg", "constructor configuration"),
  ("json.Encoder.scratch", "scratch: written before read"),
  ("pretty.Encoder.scratch", "scratch: written before read"),
  ("pretty.Encoder.wr", "the writer"),
  -- object layer
  ("obj.marshalMachineMapWildcard.keyStringer", "assigned in every branch of Reset's switch on the key kind that does not return an error"),
  ("obj.marshalMachineMapWildcard.value", "false in a zero row and false again after every completed entry; a run abandoned between a key and its value leaves it set in a row that Bind drops and grow never hands out again (requisition_zero)"),
  ("obj.unmarshalMachineStructAtlas.expectLen", "written by Step on the map-open token before it is read"),
  ("obj.unmarshalMachineStructAtlas.fieldEntry", "written by Step when it consumes a key, read only for the value that follows"),
  ("obj.unmarshalMachineUnionKeyed.delegate", "written by Step when it consumes the member name, read only after that"),
  ("obj.unmarshalMachineUnionKeyed.tmp_rv", "written by Step when it consumes the member name (a fresh value per member), read only after that")
]

def writtenPerUse (e : String × String × String) : Bool := e.2.1 == "R" || e.2.2 == "Y"

def accounted (tbl : List (String × String × String)) : Bool :=
  tbl.all fun e => writtenPerUse e || (carried.map (·.1)).contains e.1

theorem accounted_table : accounted Gen.machineFields = true := by decide +kernel

/-- every field of every reusable struct in the CODE (the regenerated table) is written for every use or is one of the
    audited carried fields -/
theorem every_field_accounted : ∀ e ∈ Gen.machineFields, writtenPerUse e = true ∨ e.1 ∈ carried.map (·.1) := by
  intro e he
  have h := accounted_table
  unfold accounted at h
  rw [List.all_eq_true] at h
  have := h e he
  simp only [Bool.or_eq_true, List.contains_iff_mem] at this
  exact this

end Refmt.C17Machines
