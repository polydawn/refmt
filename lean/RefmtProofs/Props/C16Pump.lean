/-
  C16 through the pump: a write fault on the sink's writer makes `TokenPump.Run` fail.

  `C16.cbor_write_fault` / `json_write_fault` speak about the batch run `runFaulty` over a token list.  Here the
  sink encoder sits behind the lock-step pump `Pump.run` (one source step, one sink step per iteration, "done"
  of the source checked against "done" of the sink) and writes to a writer with an injected fault.  The faults
  covered include those at the writes of the LAST token, where source and sink both report done.
-/
import RefmtModel
import RefmtProofs.Props.C10
import RefmtProofs.Props.C16
import RefmtProofs.Lemmas.ParsedJWF
namespace Refmt.C16Pump
open Refmt Refmt.Pump

/-- what Go's `Step` returns when the model says `r` and the writer is in state `w` after the step's writes:
    `Ret.ck d` is `return d, w.checkErr()` -/
def retUnder (r : Ret) (w : WSt) : Ret :=
  match r with
  | .ck d => if w.failed then .bad else .plain d
  | r => r

theorem retUnder_flag (r : Ret) (w : WSt) : (retUnder r w).flag = r.flagW w := by
  cases r with
  | ck d => simp only [retUnder, Ret.flagW]; cases w.failed <;> simp [Ret.flag]
  | plain d => rfl
  | bad => rfl
  | panic => rfl

def faultySink {τ : Type} (sink : τ → Tok → EncOut τ) (f : Option WFault) : (τ × WSt) → Tok → EncOut (τ × WSt) :=
  fun kw t =>
    let o := sink kw.1 t
    let w' := kw.2.writes f o.writes
    ⟨(o.st, w'), o.writes, retUnder o.ret w'⟩

theorem faultySink_flag {τ : Type} (sink : τ → Tok → EncOut τ) (f : Option WFault) (k : τ) (w : WSt) (t : Tok) :
    (faultySink sink f (k, w) t).ret.flag = (sink k t).ret.flagW (w.writes f (sink k t).writes) :=
  retUnder_flag _ _

theorem faultySink_st {τ : Type} (sink : τ → Tok → EncOut τ) (f : Option WFault) (k : τ) (w : WSt) (t : Tok) :
    (faultySink sink f (k, w) t).st = ((sink k t).st, w.writes f (sink k t).writes) := rfl

theorem faultySink_writes {τ : Type} (sink : τ → Tok → EncOut τ) (f : Option WFault) (k : τ) (w : WSt) (t : Tok) :
    (faultySink sink f (k, w) t).writes = (sink k t).writes := rfl

theorem runFlags_faultySink {τ : Type} (sink : τ → Tok → EncOut τ) (f : Option WFault) :
    ∀ (ts : List Tok) (k : τ) (w : WSt),
      runFlags (faultySink sink f) (k, w) ts = (runFaulty sink f k w ts).1
  | [], _, _ => rfl
  | t :: ts, k, w => by
    simp only [runFlags, runFaulty]
    rw [faultySink_flag, faultySink_st]
    cases h : (sink k t).ret.flagW (w.writes f (sink k t).writes) <;> simp [runFlags_faultySink sink f ts]

theorem pump_no_fault_same {σ τ : Type} (src : σ → Rd → SrcStep σ) (sink : τ → Tok → EncOut τ) :
    ∀ (fuel : Nat) (s : σ) (rd : Rd) (k : τ) (w : WSt) (out : List Bytes), w.failed = false →
      Pump.run src (faultySink sink none) fuel s rd (k, w) out = Pump.run src sink fuel s rd k out := by
  intro fuel s rd k w out hw
  refine PumpL.run_congr src (R := fun kw k => kw.1 = k ∧ kw.2.failed = false) ?_ fuel s rd (k, w) k out ⟨rfl, hw⟩
  rintro ⟨k, w⟩ _ t ⟨rfl, hw⟩
  have hw' : (w.writes none (sink k t).writes).failed = false := by
    rw [C16L.writes_none_failed]; exact hw
  exact ⟨by rw [faultySink_flag, C16L.flagW_of_not_failed _ _ hw'], rfl, rfl, hw'⟩

theorem pump_no_fault_same' {σ τ : Type} (src : σ → Rd → SrcStep σ) (sink : τ → Tok → EncOut τ)
    (fuel : Nat) (s : σ) (rd : Rd) (k : τ) :
    let r := Pump.run src (faultySink sink none) fuel s rd (k, {}) []
    let r0 := Pump.run src sink fuel s rd k []
    r.ok = r0.ok ∧ r.out = r0.out ∧ r.rd = r0.rd := by
  intro r r0
  have : r = r0 := pump_no_fault_same src sink fuel s rd k {} [] rfl
  rw [this]
  exact ⟨rfl, rfl, rfl⟩

theorem getLast_singleton_err {fl : Flag} (h : [fl].getLast? = some Flag.err) : fl = Flag.err := by
  simpa using h

theorem pump_faulty_of_batch {σ τ : Type} (src : σ → Rd → SrcStep σ) (sink : τ → Tok → EncOut τ)
    (f : Option WFault) {s : σ} {rd rd' : Rd} {ts : List Tok} (h : PumpL.SrcRuns src s rd ts rd')
    (fuel : Nat) (k : τ) (w : WSt) (out : List Bytes)
    (hf : (runFaulty sink f k w ts).1.getLast? = some Flag.err) :
    (Pump.run src (faultySink sink f) fuel s rd (k, w) out).ok = false := by
  rw [← runFlags_faultySink] at hf
  exact PumpL.pump_err src (faultySink sink f) h fuel (k, w) out hf

theorem pump_write_fault_cbor {τ : Type} (sink : τ → Tok → EncOut τ) (k0 : τ) (coerce : Bool) (bs : Bytes) (v : TV)
    (rest : Bytes) (hb : ∀ x ∈ bs, x < 256) (hp : Spec.Cbor.parse coerce bs = some (v, rest)) (f : Option WFault)
    (hflt : (runFaulty sink f k0 {} v.flatten).1.getLast? = some Flag.err) :
    (Pump.run (Pump.cborSrc coerce) (faultySink sink f) (2 * bs.length + 4) CborDec.init (Rd.ofBytes bs)
      (k0, {}) []).ok = false := by
  have href := C04.refine coerce bs hb
  simp only [hp] at href
  obtain ⟨h1, hdec, _⟩ := href
  have hsrc := (PumpL.cbor_runs_decode coerce bs hdec).1
  rw [h1] at hsrc
  exact pump_faulty_of_batch (Pump.cborSrc coerce) sink f hsrc _ k0 {} [] hflt

theorem pump_write_fault_json {τ : Type} (sink : τ → Tok → EncOut τ) (k0 : τ) (bs : Bytes) (v : TV)
    (rest : Bytes) (hb : ∀ x ∈ bs, x < 256) (hp : Spec.Json.parse bs = some (v, rest)) (f : Option WFault)
    (hflt : (runFaulty sink f k0 {} v.flatten).1.getLast? = some Flag.err) :
    (Pump.run Pump.jsonSrc (faultySink sink f) (2 * bs.length + 4) JsonDec.init (Rd.ofBytes bs)
      (k0, {}) []).ok = false := by
  have href := C05.refine bs hb
  simp only [hp] at href
  obtain ⟨h1, hdec, _⟩ := href
  have hsrc := (PumpL.json_runs_decode bs hdec).1
  rw [h1] at hsrc
  exact pump_faulty_of_batch Pump.jsonSrc sink f hsrc _ k0 {} [] hflt

theorem pump_write_fault_c2j (c : JsonEnc.Cfg) (ff : Nat → Bytes) (bs : Bytes) (v : TV) (rest : Bytes)
    (hb : ∀ x ∈ bs, x < 256) (hp : Spec.Cbor.parse false bs = some (v, rest)) (hc : C10.common v = true)
    (f : WFault) (hk : f.k < (runOut (JsonEnc.step c ff) JsonEnc.init v.flatten).2.length)
    (heff : C16.effective f (runOut (JsonEnc.step c ff) JsonEnc.init v.flatten).2) :
    (Pump.run (Pump.cborSrc false) (faultySink (JsonEnc.step c ff) (some f)) (2 * bs.length + 4) CborDec.init
      (Rd.ofBytes bs) (JsonEnc.init, {}) []).ok = false :=
  pump_write_fault_cbor _ _ false bs v rest hb hp (some f)
    (C16.json_write_fault c ff v (CborLeaves.parse_common_JWF16 false bs v rest hb hp hc) f hk heff)

/-- CBOR → CBOR (re-encoding; the tree must be in the CBOR encoder's domain: `Spec.Cbor.parse` also accepts
    containers as map keys, which the encoder refuses) -/
theorem pump_write_fault_c2c (bs : Bytes) (v : TV) (rest : Bytes)
    (hb : ∀ x ∈ bs, x < 256) (hp : Spec.Cbor.parse false bs = some (v, rest)) (hw : C02.WFv v = true)
    (f : WFault) (hk : f.k < (runOut CborEnc.step CborEnc.init v.flatten).2.length)
    (heff : C16.effective f (runOut CborEnc.step CborEnc.init v.flatten).2) :
    (Pump.run (Pump.cborSrc false) (faultySink CborEnc.step (some f)) (2 * bs.length + 4) CborDec.init
      (Rd.ofBytes bs) (CborEnc.init, {}) []).ok = false :=
  pump_write_fault_cbor _ _ false bs v rest hb hp (some f) (C16.cbor_write_fault v hw f hk heff)

theorem pump_write_fault_j2c (bs : Bytes) (v : TV) (rest : Bytes)
    (hb : ∀ x ∈ bs, x < 256) (hp : Spec.Json.parse bs = some (v, rest))
    (f : WFault) (hk : f.k < (runOut CborEnc.step CborEnc.init v.flatten).2.length)
    (heff : C16.effective f (runOut CborEnc.step CborEnc.init v.flatten).2) :
    (Pump.run Pump.jsonSrc (faultySink CborEnc.step (some f)) (2 * bs.length + 4) JsonDec.init
      (Rd.ofBytes bs) (CborEnc.init, {}) []).ok = false :=
  pump_write_fault_json _ _ bs v rest hb hp (some f)
    (C16.cbor_write_fault v (PumpL.wfV v (PumpL.parse_JT bs v rest hb hp)) f hk heff)

theorem pump_write_fault_j2j (c : JsonEnc.Cfg) (ff : Nat → Bytes) (bs : Bytes) (v : TV) (rest : Bytes)
    (hb : ∀ x ∈ bs, x < 256) (hp : Spec.Json.parse bs = some (v, rest))
    (f : WFault) (hk : f.k < (runOut (JsonEnc.step c ff) JsonEnc.init v.flatten).2.length)
    (heff : C16.effective f (runOut (JsonEnc.step c ff) JsonEnc.init v.flatten).2) :
    (Pump.run Pump.jsonSrc (faultySink (JsonEnc.step c ff) (some f)) (2 * bs.length + 4) JsonDec.init
      (Rd.ofBytes bs) (JsonEnc.init, {}) []).ok = false :=
  pump_write_fault_json _ _ bs v rest hb hp (some f)
    (C16.json_write_fault c ff v (JsonFinite.parse_JWF16 bs v rest hb hp) f hk heff)

/-- a fault on the very last `Write` call of the document (made while source and sink both report done)
    is still reported: CBOR → JSON -/
theorem pump_fault_on_last_write_c2j (c : JsonEnc.Cfg) (ff : Nat → Bytes) (bs : Bytes) (v : TV) (rest : Bytes)
    (hb : ∀ x ∈ bs, x < 256) (hp : Spec.Cbor.parse false bs = some (v, rest)) (hc : C10.common v = true)
    (mode : WMode) (stop : Bool) (hm : mode ≠ .short)
    (hpos : 0 < (runOut (JsonEnc.step c ff) JsonEnc.init v.flatten).2.length) :
    (Pump.run (Pump.cborSrc false)
      (faultySink (JsonEnc.step c ff) (some ⟨(runOut (JsonEnc.step c ff) JsonEnc.init v.flatten).2.length - 1, mode, stop⟩))
      (2 * bs.length + 4) CborDec.init (Rd.ofBytes bs) (JsonEnc.init, {}) []).ok = false :=
  pump_write_fault_c2j c ff bs v rest hb hp hc _ (by simp only; omega) (Or.inl hm)

theorem pump_fault_on_last_write_j2c (bs : Bytes) (v : TV) (rest : Bytes)
    (hb : ∀ x ∈ bs, x < 256) (hp : Spec.Json.parse bs = some (v, rest))
    (mode : WMode) (stop : Bool) (hm : mode ≠ .short)
    (hpos : 0 < (runOut CborEnc.step CborEnc.init v.flatten).2.length) :
    (Pump.run Pump.jsonSrc
      (faultySink CborEnc.step (some ⟨(runOut CborEnc.step CborEnc.init v.flatten).2.length - 1, mode, stop⟩))
      (2 * bs.length + 4) JsonDec.init (Rd.ofBytes bs) (CborEnc.init, {}) []).ok = false :=
  pump_write_fault_j2c bs v rest hb hp _ (by simp only; omega) (Or.inl hm)

-- JSON `[1]` → CBOR: the sink makes three writes (`9f`, `01`, `ff`); the last one, the break, is written on the
-- last token, where the JSON decoder and the CBOR encoder both report done.
example : Spec.Json.parse [91, 49, 93] =
    some (.arr none (-1) [.scalar ⟨.int 1, none⟩], []) := rfl
example : (runOut CborEnc.step CborEnc.init
    (TV.arr none (-1) [.scalar ⟨.int 1, none⟩]).flatten).2 = [[0x9f], [0x01], [0xff]] := by decide
-- no fault: the pump succeeds ...
example : (Pump.run Pump.jsonSrc (faultySink CborEnc.step none) 10 JsonDec.init (Rd.ofBytes [91, 49, 93])
    (CborEnc.init, {}) []).ok = true := by decide
-- ... a failing last write (call number 2) is reported, in every mode ...
example : (Pump.run Pump.jsonSrc (faultySink CborEnc.step (some ⟨2, .err, false⟩)) 10 JsonDec.init
    (Rd.ofBytes [91, 49, 93]) (CborEnc.init, {}) []).ok = false := by decide
example : (Pump.run Pump.jsonSrc (faultySink CborEnc.step (some ⟨2, .short, false⟩)) 10 JsonDec.init
    (Rd.ofBytes [91, 49, 93]) (CborEnc.init, {}) []).ok = false := by decide
-- ... a fault at a call the document never makes (number 3) is not
example : (Pump.run Pump.jsonSrc (faultySink CborEnc.step (some ⟨3, .err, true⟩)) 10 JsonDec.init
    (Rd.ofBytes [91, 49, 93]) (CborEnc.init, {}) []).ok = true := by decide
-- the theorem on that document (fuel `2 * 3 + 4 = 10`)
example : (Pump.run Pump.jsonSrc (faultySink CborEnc.step (some ⟨2, .both, true⟩)) (2 * [91, 49, 93].length + 4)
    JsonDec.init (Rd.ofBytes [91, 49, 93]) (CborEnc.init, {}) []).ok = false :=
  pump_write_fault_j2c [91, 49, 93] (.arr none (-1) [.scalar ⟨.int 1, none⟩]) [] (by decide) rfl
    ⟨2, .both, true⟩ (by decide) (Or.inl (by decide))

-- CBOR `[1]` (`81 01`) → JSON: hypotheses of `pump_write_fault_c2j` are satisfiable, and the last of the
-- writes of `[1]` is covered
example : Spec.Cbor.parse false [0x81, 0x01] = some (.arr none 1 [.scalar ⟨.uint 1, none⟩], []) := rfl
example : C10.common (.arr none 1 [.scalar ⟨.uint 1, none⟩]) = true := by decide
example : (Pump.run (Pump.cborSrc false)
    (faultySink (JsonEnc.step ⟨none, []⟩ FloatText.jsonFloat)
      (some ⟨(runOut (JsonEnc.step ⟨none, []⟩ FloatText.jsonFloat) JsonEnc.init
        (TV.arr none 1 [.scalar ⟨.uint 1, none⟩]).flatten).2.length - 1, .err, false⟩))
    (2 * [0x81, 0x01].length + 4) CborDec.init (Rd.ofBytes [0x81, 0x01]) (JsonEnc.init, {}) []).ok = false :=
  pump_fault_on_last_write_c2j ⟨none, []⟩ FloatText.jsonFloat [0x81, 0x01] (.arr none 1 [.scalar ⟨.uint 1, none⟩]) []
    (by decide) rfl (by decide) .err false (by decide) (by decide)

end Refmt.C16Pump
