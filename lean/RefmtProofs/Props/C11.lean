/-
  C11 — Clone produces an equal and fully independent deep copy.

  refmt.Clone is an object marshaller pumped straight into an object unmarshaller (cloneHelpers.go): in the model,
  `clone` below.  Two things are claimed by the property:

  (1) Equality: the destination equals the source "up to what the token stream cannot carry" — the specified value
      `normV .pretty`.  `clone_equal_plain` (from C13's completeness theorems) gives this for every plain type;
      `norm_plain_id` shows that on plain types without pointers the specified value IS the source value, and
      `norm_plain_ptr` pins the one difference pointers add (a non-nil pointer to something that serializes as null
      comes back nil).  `clone_equal_struct_*` extend completeness to struct-map entries (`structTy`: nested structs,
      `omitEmpty` fields, structs inside slices / maps / pointers): `clone_equal_struct_rt` is the exact result (`rtV'`),
      `clone_equal_struct_sorted` exact equality with `normV` for values whose maps are listed in key order,
      `clone_equal_struct_fixed` equality up to the order of map entries.  The statement with `ValEqv` and
      `distinctKeys` (`clone_equal_struct_statement`) is false (`clone_equal_struct_false`).
  (2) Independence: no storage is shared between source and destination.  Model values are immutable mathematical
      values: sharing cannot be expressed, so this half is NOT provable in the model.  It is decided by the
      correspondence stream `clone`, whose oracle mutates every reachable byte / element / entry / pointee of the copy
      and of the source in the real Go values and looks for the change on the other side (DESIGN.md).

  That the source is left unchanged is definitional in the model (`marshalV` is a function of the value); the
  oracle checks it on the real code.

  `rt_struct` is the induction on fuel over `structTy`, from the round trip of each machine (Lemmas/ObjMachRT,
  Lemmas/ObjStructRT); `rts_rel_norm` compares `rtV'` with `normV`.
-/
import RefmtModel
import RefmtProofs.Props.C13
import RefmtProofs.Lemmas.ObjStructRT
namespace Refmt.C11
open Refmt Refmt.Obj Refmt.C13
open Refmt.MachL

/-- refmt.CloneAtlased in the model -/
def clone (ts : Types) (a : Atlas) (trs : Trs) (it : IfaceTys) (fuel id : Nat) (v : Val) : Option Val :=
  let mo := marshalV ts a trs fuel id v
  match mo.fail with
  | some _ => none
  | none =>
    (match unmV ts a trs it fuel id (zeroVal ts 64 id) mo.toks with
     | .ok r [] _ => some r
     | _ => none)

theorem clone_equal_plain (ts : Types) (a : Atlas) (trs : Trs) (it : IfaceTys) (fuel id : Nat) (v : Val)
    (hp : plainTy ts a 64 id = true) (hv : hasTy ts 1000 id v = true) (hkeys : distinctKeys 1000 v)
    (hok : (marshalV ts a trs fuel id v).fail = none) :
    ∃ r, clone ts a trs it fuel id v = some r ∧ ValEqv r (normV .pretty ts a trs it fuel id v) := by
  obtain ⟨r, h1, h2⟩ := complete_plain_perm ts a trs it fuel id v (marshalV ts a trs fuel id v).toks hp hv hkeys
    (MOut.eq_of_fail_none hok)
  exact ⟨r, by simp [clone, hok, h1], h2⟩

def noPtr (ts : Types) : Nat → Nat → Bool
  | 0, _ => false
  | fuel+1, id =>
    match ts.get id with
    | .ptr _ => false
    | .slice e => noPtr ts fuel e
    | .arr _ e => noPtr ts fuel e
    | .map _ e => noPtr ts fuel e
    | _ => true

theorem norm_plain_id_aux (ts : Types) (a : Atlas) (trs : Trs) (it : IfaceTys) :
    ∀ (p id : Nat), plainTy ts a p id = true → noPtr ts p id = true →
      ∀ (fuel : Nat) (v : Val), normV .pretty ts a trs it fuel id v = v := by
  intro p
  induction p with
  | zero => intro id hp; cases hp
  | succ p ih =>
    intro id hp hn fuel v
    cases fuel with
    | zero => rfl
    | succ fuel =>
      have hnp : ∀ e, ts.get id ≠ .ptr e := by
        intro e he; simp [noPtr, he] at hn
      rw [Norm.succ, ObjL.peel_nonptr ts 64 0 id hnp, ptrStep_zero]
      cases fuel with
      | zero => rfl
      | succ fuel =>
        rcases plainTy_kinds ts a hp hnp with ⟨hpk, -⟩ | ⟨e, hd, hp'⟩ | ⟨n, e, hd, hp'⟩ | ⟨kt, vt, bk, hd, hna, -, hpv⟩
        · rw [hpk, normBare_prim]
        · have hn' : noPtr ts p e = true := by simpa [noPtr, hd] using hn
          rw [(pick_slice hd hp'.1).1, Norm.slice]
          exact mapSlice_id (ih e hp'.2 hn' fuel) v
        · have hn' : noPtr ts p e = true := by simpa [noPtr, hd] using hn
          rw [(pick_arr hd hp'.1).1, Norm.array]
          exact mapArr_id (ih e hp'.2 hn' fuel) v
        · have hn' : noPtr ts p vt = true := by simpa [noPtr, hd] using hn
          rw [(pick_map hd hna).1, Norm.map]
          exact mapEntries_id (ih vt hpv hn' fuel) v

-- `hv`, `hf` belong to the property's statement; `norm_plain_id_aux` needs neither
set_option linter.unusedVariables false in
theorem norm_plain_id (ts : Types) (a : Atlas) (trs : Trs) (it : IfaceTys) (fuel id : Nat) (v : Val)
    (hp : plainTy ts a 64 id = true) (hn : noPtr ts 64 id = true) (hv : hasTy ts 1000 id v = true) (hf : 64 < fuel) :
    normV .pretty ts a trs it fuel id v = v :=
  norm_plain_id_aux ts a trs it 64 id hp hn fuel v

theorem clone_equal_plain_noptr (ts : Types) (a : Atlas) (trs : Trs) (it : IfaceTys) (fuel id : Nat) (v : Val)
    (hp : plainTy ts a 64 id = true) (hn : noPtr ts 64 id = true) (hv : hasTy ts 1000 id v = true)
    (hkeys : distinctKeys 1000 v) (hok : (marshalV ts a trs fuel id v).fail = none) (hf : 64 < fuel) :
    ∃ r, clone ts a trs it fuel id v = some r ∧ ValEqv r v := by
  obtain ⟨r, h1, h2⟩ := clone_equal_plain ts a trs it fuel id v hp hv hkeys hok
  rw [norm_plain_id ts a trs it fuel id v hp hn hv hf] at h2
  exact ⟨r, h1, h2⟩

theorem norm_plain_ptr (ts : Types) (a : Atlas) (trs : Trs) (it : IfaceTys) (fuel id e : Nat) (v : Val)
    (hd : ts.get id = .ptr e) (hf : 0 < fuel) :
    normV .pretty ts a trs it fuel id v = .ptr none ∨
    ∃ n base inner, peel ts 64 0 id = (n, base) ∧ derefN n v = some inner ∧ isNullSer ts a trs base inner = false ∧
      normV .pretty ts a trs it fuel id v = wrapPtr n (normBare .pretty ts a trs it (fuel - 1) base (pickBare ts a base) inner) := by
  obtain ⟨fuel, rfl⟩ : ∃ f', fuel = f' + 1 := ⟨fuel - 1, by omega⟩
  have hn0 : ((peel ts 64 0 id).1 == 0) = false := by
    have : 1 ≤ (peel ts 64 0 id).1 := peel_ptr ts hd 63 0 ▸ (ObjL.peel_spec ts 63 1 e).1
    exact beq_false_of_ne (by omega)
  rw [Norm.succ, ptrStep_pos ts a trs hn0, Nat.add_sub_cancel]
  cases hdn : derefN (peel ts 64 0 id).1 v with
  | none => exact Or.inl rfl
  | some inner =>
    cases hns : isNullSer ts a trs (peel ts 64 0 id).2 inner with
    | true => exact Or.inl (by simp [hns])
    | false => exact Or.inr ⟨(peel ts 64 0 id).1, (peel ts 64 0 id).2, inner, rfl, hdn, hns, by simp [hns]⟩

/-! `structTy`: like `plainTy`, but struct types with an untagged struct-map entry are allowed when every
  field of the entry is not ignored, has a one-step route `[i]` to a distinct exported field of the struct with the
  field's declared type, serial names are pairwise distinct, and the field types are again `structTy`.
  `omitEmpty` fields are allowed (the specified value then has the zero value for an empty field). -/
def structTy (ts : Types) (a : Atlas) : Nat → Nat → Bool
  | 0, _ => false
  | fuel+1, id =>
    match ts.get id with
    | .prim _ _ => (a.get id).isNone
    | .bytes _ => (a.get id).isNone
    | .byteArr _ => (a.get id).isNone
    | .slice e => (a.get id).isNone && structTy ts a fuel e
    | .arr _ e => (a.get id).isNone && structTy ts a fuel e
    | .map k e => (a.get id).isNone && (match ts.get k with | .prim .string _ => true | _ => false) && structTy ts a fuel e
    | .ptr e => structTy ts a fuel e
    | .struct fds =>
      (match a.get id with
       | some ⟨_, _, none, .structMap fields⟩ =>
         decide ((fields.map (·.name)).Nodup) && decide ((fields.map (·.route)).Nodup) &&
         fields.all fun f =>
           !f.ignore &&
           (match f.route with
            | [i] => (match fds[i]? with | some fd => fd.exported && fd.ty == f.ty | none => false)
            | _ => false) &&
           structTy ts a fuel f.ty
       | _ => false)
    | _ => false

/-- The property's statement for struct-map entries: false (`clone_equal_struct_false`). -/
def clone_equal_struct_statement : Prop :=
  ∀ (ts : Types) (a : Atlas) (trs : Trs) (it : IfaceTys) (fuel id : Nat) (v : Val),
    structTy ts a 64 id = true → hasTy ts 1000 id v = true → distinctKeys 1000 v →
    (marshalV ts a trs fuel id v).fail = none → 1000 < fuel →
    ∃ r, clone ts a trs it fuel id v = some r ∧ ValEqv r (normV .pretty ts a trs it fuel id v)

section structs
variable {ts : Types} {a : Atlas} {trs : Trs} {it : IfaceTys}

def FieldOk (ts : Types) (a : Atlas) (p : Nat) (fds : List FieldDesc) (fld : SMField) : Prop :=
  FieldSlot fds fld ∧ structTy ts a p fld.ty = true

theorem structTy_struct {p id : Nat} {fds : List FieldDesc} (hp : structTy ts a (p+1) id = true) (hd : ts.get id = .struct fds) :
    ∃ reg ty fields, a.get id = some ⟨reg, ty, none, .structMap fields⟩ ∧ (fields.map (·.name)).Nodup ∧
      (fields.map (·.route)).Nodup ∧ ∀ fld ∈ fields, FieldOk ts a p fds fld := by
  simp only [structTy, hd] at hp
  split at hp
  · rename_i reg ty fields he
    -- the test on a field written out in `structTy` is `fieldOkB`
    change (_ && fields.all fun f => fieldOkB fds f && structTy ts a p f.ty) = true at hp
    simp only [Bool.and_eq_true, decide_eq_true_eq, List.all_eq_true] at hp
    obtain ⟨⟨h1, h2⟩, h3⟩ := hp
    exact ⟨reg, ty, fields, he, h1, h2, fun fld hf => ⟨fieldOkB_inv (h3 fld hf).1, (h3 fld hf).2⟩⟩
  · cases hp

theorem struct_peel : ∀ (p k c id : Nat), structTy ts a p id = true → p ≤ k →
    ∃ n base p', peel ts k c id = (c + n, base) ∧ structTy ts a (p' + 1) base = true ∧ (∀ e, ts.get base ≠ .ptr e) ∧ chain ts n id base ∧ p' + 1 + n ≤ p :=
  peel_chain ts (fun _ => rfl) (fun p id e hd h => by simpa [structTy, hd] using h)

theorem structTy_kinds {p id : Nat} (hp : structTy ts a (p + 1) id = true) (hnp : ∀ e, ts.get id ≠ .ptr e) :
    (pickBare ts a id = .prim ∧ upickBare ts a id = .prim) ∨
    (∃ e, ts.get id = .slice e ∧ a.get id = none ∧ structTy ts a p e = true) ∨
    (∃ n e, ts.get id = .arr n e ∧ a.get id = none ∧ structTy ts a p e = true) ∨
    (∃ kt vt bk, ts.get id = .map kt vt ∧ a.get id = none ∧ ts.get kt = .prim .string bk ∧ structTy ts a p vt = true) ∨
    (∃ fds, ts.get id = .struct fds) := by
  cases hd : ts.get id with
  | prim kk b => exact Or.inl (pick_prim hd (by simpa [structTy, hd] using hp))
  | bytes b => exact Or.inl (pick_bytes hd (by simpa [structTy, hd] using hp))
  | byteArr n => exact Or.inl (pick_byteArr hd (by simpa [structTy, hd] using hp))
  | slice e => exact Or.inr (Or.inl ⟨e, rfl, by simpa [structTy, hd] using hp⟩)
  | arr n e => exact Or.inr (Or.inr (Or.inl ⟨n, e, rfl, by simpa [structTy, hd] using hp⟩))
  | map kt vt =>
    simp only [structTy, hd, Bool.and_eq_true, Option.isNone_iff_eq_none] at hp
    obtain ⟨⟨hn, hkt⟩, hpv⟩ := hp
    split at hkt
    · rename_i bk hh; exact Or.inr (Or.inr (Or.inr (Or.inl ⟨kt, vt, bk, rfl, hn, hh, hpv⟩)))
    · cases hkt
  | struct fds => exact Or.inr (Or.inr (Or.inr (Or.inr ⟨fds, rfl⟩)))
  | ptr e => exact absurd hd (hnp e)
  | iface m => simp [structTy, hd] at hp
  | other => simp [structTy, hd] at hp

theorem struct_headFirst {p id : Nat} (hp : structTy ts a (p + 1) id = true) (hnp : ∀ e, ts.get id ≠ .ptr e) :
    (pickBare ts a id).headFirst = true := by
  rcases structTy_kinds hp hnp with h | ⟨e, hd, hn, -⟩ | ⟨n, e, hd, hn, -⟩ | ⟨kt, vt, bk, hd, hn, -, -⟩ | ⟨fds, hd⟩
  · rw [h.1]; rfl
  · rw [(pick_slice hd hn).1]; rfl
  · rw [(pick_arr hd hn).1]; rfl
  · rw [(pick_map hd hn).1]; rfl
  · obtain ⟨reg, ty, fields, he, -⟩ := structTy_struct hp hd
    rw [(pick_struct hd he).1]; rfl

theorem struct_bare (hz : ZeroStable ts) {f : Nat}
    (ih : ∀ f' < f, ∀ p h k id v g, p ≤ 64 → structTy ts a p id = true → hasTy ts h id v = true → distinctKeys' k v → f' ≤ g →
      VRt ts a trs it _root_.id 0 f' id v (rtV' ts a trs it g id v)) :
    ∀ p h k id v g, p + 1 ≤ 64 → structTy ts a (p + 1) id = true → (∀ e, ts.get id ≠ .ptr e) → hasTy ts h id v = true →
      distinctKeys' k v → f ≤ g →
      BRt ts a trs it _root_.id 0 f id (zeroVal ts 64 id) v (rtBare' ts a trs it g id (pickBare ts a id) v) := by
  intro p h k id v g hp64 hp hnp hv hk hg
  cases f with
  | zero => intro toks hm; cases hm
  | succ f =>
  obtain ⟨g, rfl⟩ : ∃ g', g = g' + 1 := ⟨g - 1, by omega⟩
  rcases structTy_kinds hp hnp with
    hpk | ⟨e, hd, hn, hpe⟩ | ⟨n, e, hd, hn, hpe⟩ | ⟨kt, vt, bk, hd, hn, hkt, hpv⟩ | ⟨fds, hd⟩
  · rw [hpk.1, rtBare'_prim]
    exact prim_bare_rt hpk.1 hpk.2 (fun toks hm => prim_tok_rt ts h id v toks hv hm) _
  · have hpk := pick_slice hd hn
    obtain ⟨o, rfl, hvs⟩ := hasTy_slice ts hd hv
    rw [hpk.1, rtBare'_slice]
    refine slice_rt TokMap.id hpk.1 hpk.2 _ o (fun es he f' hf' x hx => ?_) _
    subst he
    exact ih f' (by omega) p _ _ e x g (by omega) hpe (hvs _ rfl x hx) (distinctKeys'_succ hk x hx) (by omega)
  · have hpk := pick_arr hd hn
    obtain ⟨es, rfl, hlen, hvs⟩ := hasTy_arr ts hd hv
    rw [hpk.1, rtBare'_array]
    exact array_rt TokMap.id hpk.1 hpk.2 _ es hlen (fun f' hf' x hx =>
      ih f' (by omega) p _ _ e x g (by omega) hpe (hvs x hx) (distinctKeys'_succ hk x hx) (by omega)) _
  · have hpk := pick_map hd hn
    obtain ⟨o, rfl, hvs⟩ := hasTy_map ts hd hv
    rw [hpk.1, rtBare'_map]
    have hkeys : ∀ es, o = some es → (∀ p ∈ es, ∃ s, p.1 = Val.str s) ∧ (es.map fun p => keyStr p.1).Nodup ∧
        ∀ p ∈ es, distinctKeys' (k - 1) p.2 := fun es he => distinctKeys'_succ (v := .map (some es)) (he ▸ hk)
    exact map_rt TokMap.id hpk.1 hpk.2 hkt _ o
      (fun es he => ⟨fun q hq => ((hkeys es he).1 q hq).imp fun _ h => ⟨h, trivial⟩, (hkeys es he).2.1⟩)
      (fun es he f' hf' q hq => ih f' (by omega) p _ _ vt q.2 g (by omega) hpv (hvs es he q hq).2
        ((hkeys es he).2.2 q hq) (by omega))
      _ (zeroVal_mapEntries ts 64 id)
  · obtain ⟨reg, ty, fields, he, hnames, hroutes, hfok⟩ := structTy_struct hp hd
    obtain ⟨vs, rfl, hvl, hvs⟩ := hasTy_struct ts hd hv
    rw [(pick_struct hd he).1, rtBare'_structMap, structFold_eq_filter, zeroVal_struct ts hd]
    exact structMap_rt TokMap.id hz hd he hnames hroutes (fun fld hf => ⟨(hfok fld hf).1, trivial⟩) _ vs (fun f' hf' fld hf _ i x hroute hx => by
      obtain ⟨⟨_, j, fd, hroute', hfd, hty⟩, hst⟩ := hfok fld hf
      rw [hroute] at hroute'
      cases hroute'
      exact ih f' (by omega) p _ _ fld.ty x g (by omega) hst (hty ▸ hvs i fd x hfd hx)
        (distinctKeys'_succ hk x (List.mem_of_getElem? hx)) (by omega))

/-- the naturals play the roles they have in `C13.rt_plain`: here `p`, `k`, `g` are the fuels of `structTy`, `distinctKeys'`, `rtV'` -/
theorem rt_struct (hz : ZeroStable ts) : ∀ f p h k id v g, p ≤ 64 → structTy ts a p id = true → hasTy ts h id v = true →
    distinctKeys' k v → f ≤ g → VRt ts a trs it _root_.id 0 f id v (rtV' ts a trs it g id v) := by
  intro f
  induction f using Nat.strongRecOn with
  | ind f ih =>
    intro p h k id v g hp64 hp hv hk hg
    cases f with
    | zero => intro toks hm; cases hm
    | succ f =>
      obtain ⟨g, rfl⟩ : ∃ g', g = g' + 1 := ⟨g - 1, by omega⟩
      obtain ⟨n, base, p', hpeel, hpb, hnp, hch, hp'p⟩ := struct_peel (ts := ts) (a := a) p 64 0 id hp hp64
      simp only [Nat.zero_add] at hpeel
      rw [rtV'_succ, hpeel]
      refine ptr_rt TokMap.id hpeel hch _ (fun inner hdn => ?_)
      obtain ⟨h', hvi⟩ := chain_hasTy_some ts hch hv hdn
      obtain ⟨k', hki⟩ := derefN_desc (P := distinctKeys') (fun _ _ h => distinctKeys'_succ h) n k v inner hk hdn
      exact ⟨fun toks hm => NullSpec.of_writes hnp (struct_headFirst hpb hnp) hm,
        struct_bare hz (fun f' hf' => ih f' (by omega)) p' h' k' base inner g (by omega) hpb hnp hvi hki (by omega)⟩

variable (ts a trs it)

theorem rts_rel_norm {Rel : Val → Val → Prop} {S : Nat → Val → Prop} (N : NormRelS ts a.defaultSort Rel S) (g : Nat) :
    (∀ p k id v, p ≤ 64 → structTy ts a p id = true → S k v →
      Rel (rtV' ts a trs it g id v) (normV .pretty ts a trs it g id v)) ∧
    (∀ p k id v, p + 1 ≤ 64 → structTy ts a (p + 1) id = true → (∀ e, ts.get id ≠ .ptr e) → S k v →
      Rel (rtBare' ts a trs it g id (pickBare ts a id) v) (normBare .pretty ts a trs it g id (pickBare ts a id) v)) := by
  induction g with
  | zero => exact ⟨fun _ _ _ v _ _ _ => N.refl v, fun _ _ _ v _ _ _ _ => N.refl v⟩
  | succ g ih =>
    constructor
    · intro p k id v hp64 hp hs
      obtain ⟨n, base, p', hpeel, hpb, hnp, hch, hp'p⟩ := struct_peel (ts := ts) (a := a) p 64 0 id hp hp64
      simp only [Nat.zero_add] at hpeel
      rw [rtV'_succ, Norm.succ, hpeel]
      refine ptr_rel ts a trs N.refl N.wrap (fun inner hdn => ?_)
      obtain ⟨k', hs'⟩ := derefN_desc N.S_ptr n k v inner hs hdn
      exact ih.2 p' k' base inner (by omega) hpb hnp hs'
    · intro p k id v hp64 hp hnp hs
      rcases structTy_kinds hp hnp with ⟨hpk, -⟩ | ⟨e, hd, hp'⟩ | ⟨n, e, hd, hp'⟩ | ⟨kt, vt, bk, hd, hn, -, hpv⟩ | ⟨fds, hd⟩
      · rw [hpk, rtBare'_prim, normBare_prim]; exact N.refl _
      · rw [(pick_slice hd hp'.1).1, rtBare'_slice, Norm.slice]
        exact N.slice (fun vs hv x hx => ih.1 p _ e x (by omega) hp'.2 (N.S_slice (hv ▸ hs) x hx))
      · rw [(pick_arr hd hp'.1).1, rtBare'_array, Norm.array]
        exact N.arr (fun vs hv x hx => ih.1 p _ e x (by omega) hp'.2 (N.S_arr (hv ▸ hs) x hx))
      · rw [(pick_map hd hn).1, rtBare'_map, Norm.map]
        exact N.map hs (fun es _ q _ hq => ih.1 p _ vt q.2 (by omega) hpv hq)
      · obtain ⟨reg, ty, fields, he, hnames, hroutes, hfok⟩ := structTy_struct hp hd
        rw [(pick_struct hd he).1, rtBare'_structMap, Norm.structMap]
        refine N.struct hd (fun fld hf => (hfok fld hf).1.2.imp fun i h => h.imp fun fd h => ⟨h.1, h.2.1⟩) (fun fld hf fv ht => ?_)
        obtain ⟨⟨_, i, fd, hroute, _, _⟩, hst⟩ := hfok fld hf
        rw [hroute] at ht
        obtain ⟨k', hk'⟩ := traverse_one_desc N.S_ptr N.S_struct i v fv k ht hs
        exact ih.1 p k' fld.ty fv (by omega) hst hk'

end structs

theorem clone_equal_struct_rt (ts : Types) (a : Atlas) (trs : Trs) (it : IfaceTys) (fuel id : Nat) (v : Val)
    (hp : structTy ts a 64 id = true) (hv : hasTy ts 1000 id v = true) (hkeys : distinctKeys' 1000 v)
    (hz : ZeroStable ts) (hok : (marshalV ts a trs fuel id v).fail = none) :
    clone ts a trs it fuel id v = some (rtV' ts a trs it fuel id v) := by
  have hm := MOut.eq_of_fail_none hok
  have := (rt_struct (it := it) hz fuel 64 1000 1000 id v fuel (Nat.le_refl _) hp hv hkeys (Nat.le_refl _)).unmV hm
    (F := fuel) (Nat.le_refl _) []
  simp only [List.append_nil, List.map_id_fun, _root_.id] at this
  simp [clone, hok, this]

-- `hf` belongs to the property's statement; the proof does not need it
set_option linter.unusedVariables false in
/-- Differs from `clone_equal_struct_statement` in three places:
    * `ValEqv` (C13) has no congruence rule for struct fields, so a map inside a struct field that comes back in key
      order is not `ValEqv` to the original: the conclusion uses `ValEqv'` = `ValEqv` + struct congruence;
    * `distinctKeys` does not descend into struct fields (a duplicate map key inside a field makes the unmarshaller
      reject): the hypothesis is `distinctKeys'`, which does;
    * `ZeroStable ts` (fuel side condition): the struct unmarshaller starts a nested struct from the field of the
      enclosing zero value, i.e. `zeroVal ts 63 _`, while `normBare` starts from `zeroVal ts 64 _`; they agree
      unless a type nests structs/arrays 63 deep (`zeroStable_of_check` gives a decidable criterion). -/
theorem clone_equal_struct_fixed (ts : Types) (a : Atlas) (trs : Trs) (it : IfaceTys) (fuel id : Nat) (v : Val)
    (hp : structTy ts a 64 id = true) (hv : hasTy ts 1000 id v = true) (hkeys : distinctKeys' 1000 v)
    (hz : ZeroStable ts) (hok : (marshalV ts a trs fuel id v).fail = none) (hf : 1000 < fuel) :
    ∃ r, clone ts a trs it fuel id v = some r ∧ ValEqv' r (normV .pretty ts a trs it fuel id v) :=
  ⟨_, clone_equal_struct_rt ts a trs it fuel id v hp hv hkeys hz hok,
    (rts_rel_norm ts a trs it (normRelS_eqv _) fuel).1 64 1000 id v (Nat.le_refl _) hp hkeys⟩

theorem clone_equal_struct_sorted (ts : Types) (a : Atlas) (trs : Trs) (it : IfaceTys) (fuel id : Nat) (v : Val)
    (hp : structTy ts a 64 id = true) (hv : hasTy ts 1000 id v = true) (hkeys : distinctKeys' 1000 v)
    (hsorted : mapsSorted' a.defaultSort 1000 v)
    (hz : ZeroStable ts) (hok : (marshalV ts a trs fuel id v).fail = none) :
    clone ts a trs it fuel id v = some (normV .pretty ts a trs it fuel id v) := by
  rw [clone_equal_struct_rt ts a trs it fuel id v hp hv hkeys hz hok,
    (rts_rel_norm ts a trs it (normRelS_eq _) fuel).1 64 1000 id v (Nat.le_refl _) hp hsorted]

/-- the zero value of the type is complete within `k` levels of struct / array nesting -/
def zFin (ts : Types) : Nat → Nat → Bool
  | 0, _ => false
  | k+1, id =>
    match ts.get id with
    | .arr _ e => zFin ts k e
    | .struct fs => fs.all fun f => zFin ts k f.ty
    | _ => true

theorem zFin_stable (ts : Types) : ∀ (k id : Nat), zFin ts k id = true → ∀ m, k ≤ m → zeroVal ts m id = zeroVal ts k id := by
  intro k
  induction k with
  | zero => intro id h; cases h
  | succ k ih =>
    intro id h m hm
    obtain ⟨m, rfl⟩ : ∃ m', m = m' + 1 := ⟨m - 1, by omega⟩
    rw [zeroVal.eq_def ts (m + 1) id, zeroVal.eq_def ts (k + 1) id]
    simp only
    cases hd : ts.get id with
    | arr n e =>
      have he : zFin ts k e = true := by simpa [zFin, hd] using h
      simp only [ih e he m (by omega)]
    | struct fs =>
      have he : ∀ f ∈ fs, zFin ts k f.ty = true := by simpa [zFin, hd] using h
      simp only [Val.struct.injEq]
      exact List.map_congr_left (fun f hf => ih f.ty (he f hf) m (by omega))
    | _ => rfl

theorem zeroStable_of_check (ts : Types) (h : (ts.all fun p => zFin ts 63 p.1) = true) : ZeroStable ts := by
  intro t
  cases hl : ts.lookup t with
  | none =>
    have hg : ts.get t = .other := by simp [Types.get, hl]
    rw [zeroVal.eq_def ts 63 t, zeroVal.eq_def ts 64 t]
    simp [hg]
  | some d =>
    have := List.all_eq_true.mp h _ (ObjL.lookup_mem hl)
    exact (zFin_stable ts 63 t this 64 (by omega)).symm

/-! counterexample to `clone_equal_struct_statement`: a struct with one map field listed out of key order -/
def ceTsS : Types := [(0, .struct [⟨[77], 1, true, false, none⟩]), (1, .map 2 3), (2, .prim .string true), (3, .prim .int true)]
def ceAS : Atlas := ⟨[⟨true, 0, none, .structMap [⟨[109], false, [0], 1, false⟩]⟩], .default⟩
def ceVS : Val := .struct [ceV]

theorem ceS_struct : structTy ceTsS ceAS 64 0 = true := by decide
theorem ceS_hasTy : hasTy ceTsS 1000 0 ceVS = true := by decide
theorem ceS_zero : ZeroStable ceTsS := zeroStable_of_check _ (by decide)
theorem ceS_distinct : distinctKeys 1000 ceVS := by
  show distinctKeys (999 + 1) (.struct [ceV])
  exact trivial  -- the catch-all clause: `distinctKeys` does not look inside structs
theorem ceS_distinct' : distinctKeys' 1000 ceVS := by
  show distinctKeys' (999 + 1) (.struct [ceV])
  intro x hx
  simp only [List.mem_singleton] at hx
  subst hx
  show distinctKeys' (998 + 1) (.map (some [(.str [98], .int 1), (.str [97], .int 2)]))
  refine ⟨by simp, by simp [keyStr], fun p hp => ?_⟩
  simp at hp
  rcases hp with rfl | rfl <;> (show distinctKeys' (997 + 1) (Val.int _); simp [distinctKeys'])
-- evaluated at fuel 12, up to the sort (`List.mergeSort` does not reduce), which `ce_sort` carries out; more fuel changes nothing
theorem ceS_ok (n : Nat) : (marshalV ceTsS ceAS ceTrs (n + 12) 0 ceVS).fail = none := by
  have h12 : (marshalV ceTsS ceAS ceTrs 12 0 ceVS).fail = none := by
    have h : marshalV ceTsS ceAS ceTrs 12 0 ceVS = ((MOut.ok [⟨.mapOpen 1, none⟩]).seq fun _ =>
        ((MOut.ok [⟨.str [109], none⟩]).seq fun _ => ((MOut.ok [⟨.mapOpen 2, none⟩]).seq fun _ =>
          (marshalEntries ceTsS ceAS ceTrs 7 3 (sortKeys .default [([98], .int 1), ([97], .int 2)])).seq
            fun _ => .ok [⟨.mapClose, none⟩]).seq fun _ => marshalFields ceTsS ceAS ceTrs 9 [] ceVS).seq
              fun _ => .ok [⟨.mapClose, none⟩]) := by
      with_unfolding_all rfl
    rw [h, ce_sort]; with_unfolding_all rfl
  exact congrArg MOut.fail ((MRun.of_out (job := .v 0 ceVS) (MOut.eq_of_fail_none h12)).mono (Nat.le_add_left 12 n)).out
theorem ceS_rt (it : IfaceTys) (n : Nat) : rtV' ceTsS ceAS ceTrs it (n + 12) 0 ceVS = .struct [.map (some [(.str [97], .int 2), (.str [98], .int 1)])] := by
  have h : rtV' ceTsS ceAS ceTrs it (n + 12) 0 ceVS =
      .struct [.map (some ((sortKeys .default [([98], .int 1), ([97], .int 2)]).map
        fun (s, x) => (Val.str s, rtV' ceTsS ceAS ceTrs it (n + 8) 3 x)))] := rfl
  rw [h, ce_sort]; rfl

theorem ceS_norm (it : IfaceTys) (n : Nat) : normV .pretty ceTsS ceAS ceTrs it (n + 12) 0 ceVS = ceVS := by
  rfl

theorem ValEqv_struct_inv {xs : List Val} {y : Val} (h : ValEqv (.struct xs) y) : y = .struct xs := by
  cases h; rfl

/-- `clone_equal_struct_statement` fails on `struct{M map[string]int}{M: {"b":1, "a":2}}` (entries listed in that order):
    the copy holds the entries in key order, and `ValEqv` cannot look inside struct fields.  (As for
    `complete_plain_false` the culprit is the statement, not the model: Go maps are unordered.) -/
theorem clone_equal_struct_false : ¬ clone_equal_struct_statement := by
  intro h
  obtain ⟨r, hr, heq⟩ := h ceTsS ceAS ceTrs default (989 + 12) 0 ceVS ceS_struct ceS_hasTy ceS_distinct (ceS_ok 989) (by omega)
  rw [clone_equal_struct_rt ceTsS ceAS ceTrs default (989 + 12) 0 ceVS ceS_struct ceS_hasTy ceS_distinct' ceS_zero (ceS_ok 989)] at hr
  cases hr
  rw [ceS_rt, ceS_norm] at heq
  have := ValEqv_struct_inv heq
  simp [ceVS, ceV] at this

/-! non-vacuity: a struct with a two-field struct-map entry, the second field `omitempty` -/
def exTs : Types := [(0, .struct [⟨[65], 1, true, false, none⟩, ⟨[66], 2, true, false, none⟩]), (1, .prim .string true), (2, .prim .int true)]
def exA : Atlas := ⟨[⟨true, 0, none, .structMap [⟨[97], false, [0], 1, false⟩, ⟨[98], false, [1], 2, true⟩]⟩], .default⟩
def exV : Val := .struct [.str [120], .int 0]

example : structTy exTs exA 64 0 = true ∧ hasTy exTs 1000 0 exV = true := by decide
example : ZeroStable exTs := zeroStable_of_check _ (by decide)

theorem ex_distinct : distinctKeys' 1000 exV := by
  show distinctKeys' (999 + 1) (.struct [.str [120], .int 0])
  intro x hx
  simp only [List.mem_cons, List.not_mem_nil, or_false] at hx
  rcases hx with rfl | rfl <;> (show distinctKeys' (998 + 1) _; simp [distinctKeys'])

theorem ex_ok (n : Nat) : (marshalV exTs exA ceTrs (n + 12) 0 exV).fail = none := by
  have h := MOut.eq_of_fail_none (show (marshalV exTs exA ceTrs 12 0 exV).fail = none by with_unfolding_all rfl)
  exact congrArg MOut.fail ((MRun.of_out (job := .v 0 exV) h).mono (Nat.le_add_left 12 n)).out

/-- `clone_equal_struct_fixed` applies to the example (the `omitempty` field is empty, hence omitted) -/
example (it : IfaceTys) : ∃ r, clone exTs exA ceTrs it 1001 0 exV = some r ∧ ValEqv' r (normV .pretty exTs exA ceTrs it 1001 0 exV) :=
  clone_equal_struct_fixed exTs exA ceTrs it (989 + 12) 0 exV (by decide) (by decide) ex_distinct
    (zeroStable_of_check _ (by decide)) (ex_ok 989) (by omega)

end Refmt.C11
