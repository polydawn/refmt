/-
  C02 — CBOR encoding of token streams is lossless and in RFC 7049 shortest form.

  * `emitHead_eq_head`   : the Go head emitter writes exactly the spec head, for every argument < 2^64
  * `head_shortest`      : no legal head for the same argument is shorter
  * `enc_eq_spec`        : for every well-formed token tree, the encoder accepts `flatten v`, signals done
                           exactly on the last token, and the bytes written are `Spec.Cbor.enc v`
  * `roundtrip_norm`     : decoding `enc v ++ rest` with the decoder model yields `flatten v` mapped through
                           `normTok` (= `canonTok`, plus every indefinite declared length comes back as -1),
                           done on the last token, and leaves exactly `rest`
  * `roundtrip_statement`: the round trip with `canonTok` alone (tokens = `flatten v` mapped through `canonTok`);
                           `roundtrip_statement_false` refutes it (`.arr none (-2) []` is well-formed and
                           supported, is written as 0x9f 0xff, and comes back as `arrOpen (-1)`)
  * `roundtrip_partial`  : that statement under the hypothesis that every declared length is >= -1
-/
import RefmtProofs.Lemmas.CborEncL
import RefmtProofs.Lemmas.CborDecL
import RefmtProofs.Lemmas.CborEncRun
namespace Refmt.C02
open Refmt Refmt.C02L

/-- `h` is a legal RFC 7049 head for argument `n`: any of the five widths wide enough to hold `n`. -/
inductive ValidHead (major n : Nat) : Bytes → Prop
  | imm (h : n < 24) : ValidHead major n [major + n]
  | w1 (h : n < 256) : ValidHead major n [major + 24, n]
  | w2 (h : n < 65536) : ValidHead major n ((major + 25) :: beBytes 2 n)
  | w4 (h : n < 4294967296) : ValidHead major n ((major + 26) :: beBytes 4 n)
  | w8 (h : n < 18446744073709551616) : ValidHead major n ((major + 27) :: beBytes 8 n)

-- `hv` is not needed: `emitHead` and `head` choose the width by the same thresholds for every `v`
set_option linter.unusedVariables false in
theorem emitHead_eq_head (major v : Nat) (hv : v < two64) :
    (CborEnc.emitHead major v).flatten = Spec.Cbor.head major v :=
  emitHead_flatten major v

theorem head_valid (major n : Nat) (hn : n < two64) : ValidHead major n (Spec.Cbor.head major n) := by
  unfold two64 at hn
  rcases head_cases major n with ⟨h, e⟩ | ⟨_, h, e⟩ | ⟨_, h, e⟩ | ⟨_, h, e⟩ | ⟨_, e⟩ <;> rw [e]
  · exact .imm h
  · exact .w1 h
  · exact .w2 h
  · exact .w4 h
  · exact .w8 hn

theorem head_shortest (major n : Nat) (h : Bytes) (hv : ValidHead major n h) :
    (Spec.Cbor.head major n).length ≤ h.length := by
  rcases head_cases major n with ⟨_, e⟩ | ⟨_, _, e⟩ | ⟨_, _, e⟩ | ⟨_, _, e⟩ | ⟨_, e⟩ <;> rw [e] <;>
    cases hv <;> simp only [List.length_cons, List.length_nil, beBytes_length] <;> omega

def tokInRange (t : Tok) : Bool :=
  (match t.body with
   | .uint n => n < two64
   | .int i => - (two63 : Int) ≤ i && i < (two63 : Int)
   | .float b => b < two64
   | .mapOpen _ | .mapClose | .arrOpen _ | .arrClose => false
   | _ => true) &&
  (match t.tag with | some g => 0 ≤ g && g < (two63 : Int) | none => true)

def keyTok (t : Tok) : Bool := keyOk .cbor t.body

mutual
  /-- The property's domain: scalars in range, keys string/int/uint tokens, declared lengths and tags Go ints. -/
  def WFv : TV → Bool
    | .scalar t => tokInRange t
    | .arr tag len items =>
      (match tag with | some g => 0 ≤ g && g < (two63 : Int) | none => true) && len < (two63 : Int) && WFl items
    | .map tag len es =>
      (match tag with | some g => 0 ≤ g && g < (two63 : Int) | none => true) && len < (two63 : Int) && WFe es
  def WFl : List TV → Bool
    | [] => true
    | v :: vs => WFv v && WFl vs
  def WFe : List (TV × TV) → Bool
    | [] => true
    | (k, v) :: es => (match k with | .scalar t => keyTok t | _ => false) && WFv k && WFv v && WFe es
end

theorem tagOk_of {tag : Option Int}
    (h : (match tag with | some g => decide (0 ≤ g) && decide (g < (two63 : Int)) | none => true) = true) :
    TagOk tag := by
  intro g hg
  simpa [hg] using h

theorem tokInRange_facts {t : Tok} (h : tokInRange t = true) : bodyInRange t.body = true ∧ TagOk t.tag := by
  obtain ⟨b, tag⟩ := t
  unfold tokInRange at h
  rw [Bool.and_eq_true] at h
  refine ⟨?_, tagOk_of h.2⟩
  cases b <;> exact h.1

theorem tokInRange_scalar {t : Tok} (h : tokInRange t = true) : t.body.isScalar = true :=
  bodyInRange_scalar (tokInRange_facts h).1

theorem scalar_writes {t : Tok} (h : tokInRange t = true) :
    (CborEnc.tagHead t.tag ++ CborEnc.scalarWrites t.body).flatten = Spec.Cbor.enc (.scalar t) := by
  simp [Spec.Cbor.enc, tagHead_flatten, scalarWrites_flatten _ (tokInRange_facts h).1]

theorem enc_arr_eq (tag : Option Int) (len : Int) (items : List TV) :
    Spec.Cbor.enc (.arr tag len items) = containerBytes false tag len (Spec.Cbor.encList items) := by
  by_cases h : 0 ≤ len <;> simp [Spec.Cbor.enc, containerBytes, h]

theorem enc_map_eq (tag : Option Int) (len : Int) (es : List (TV × TV)) :
    Spec.Cbor.enc (.map tag len es) = containerBytes true tag len (Spec.Cbor.encEntries es) := by
  by_cases h : 0 ≤ len <;> simp [Spec.Cbor.enc, containerBytes, h]

mutual
  theorem encV : ∀ (v : TV), WFv v = true → ∀ (c cur : CborEnc.Phase) (r : List CborEnc.Phase),
      CborEnc.valuePos cur = some c → cur ≠ .any →
      ∃ ws, ws.flatten = Spec.Cbor.enc v ∧ Runs ⟨c :: r, cur⟩ v.flatten ws ⟨c :: r, c⟩
    | .scalar t, h, c, cur, r, hc, hne => by
      have ht : tokInRange t = true := by simpa [WFv] using h
      exact ⟨_, scalar_writes ht, Runs.scalar (tokInRange_scalar ht) hc hne⟩
    | .arr tag len items, h, c, cur, r, hc, hne => by
      simp only [WFv, Bool.and_eq_true, decide_eq_true_eq] at h
      obtain ⟨⟨_, hl⟩, hitems⟩ := h
      obtain ⟨ws, hws, hruns⟩ := encL items hitems (CborEnc.openPhase false len) (c :: r) (openPhase_arr len)
      exact ⟨_, by rw [container_bytes false tag hl, hws, enc_arr_eq], Runs.container false hc hruns⟩
    | .map tag len es, h, c, cur, r, hc, hne => by
      simp only [WFv, Bool.and_eq_true, decide_eq_true_eq] at h
      obtain ⟨⟨_, hl⟩, hes⟩ := h
      obtain ⟨ws, hws, hruns⟩ := encE es hes (CborEnc.openPhase true len) (c :: r) (openPhase_map len)
      exact ⟨_, by rw [container_bytes true tag hl, hws, enc_map_eq], Runs.container true hc hruns⟩
  theorem encL : ∀ (vs : List TV), WFl vs = true → ∀ (p : CborEnc.Phase) (r : List CborEnc.Phase),
      (CborEnc.valuePos p = some p ∧ p ≠ .any) →
      ∃ ws, ws.flatten = Spec.Cbor.encList vs ∧ Runs ⟨p :: r, p⟩ (TV.flattenList vs) ws ⟨p :: r, p⟩
    | [], _, p, r, _ => ⟨[], by simp [Spec.Cbor.encList], by simpa [TV.flattenList] using Runs.nil _⟩
    | v :: vs, h, p, r, hp => by
      simp only [WFl, Bool.and_eq_true] at h
      obtain ⟨w1, hw1, hr1⟩ := encV v h.1 p p r hp.1 hp.2
      obtain ⟨w2, hw2, hr2⟩ := encL vs h.2 p r hp
      exact ⟨w1 ++ w2, by simp [Spec.Cbor.encList, hw1, hw2], by simpa [TV.flattenList] using hr1.append hr2⟩
  theorem encE : ∀ (es : List (TV × TV)), WFe es = true → ∀ (p : CborEnc.Phase) (r : List CborEnc.Phase),
      (∃ pv, CborEnc.keyPos p = some pv ∧ CborEnc.valuePos pv = some p ∧ pv ≠ .any ∧ p ≠ .any) →
      ∃ ws, ws.flatten = Spec.Cbor.encEntries es ∧ Runs ⟨p :: r, p⟩ (TV.flattenEntries es) ws ⟨p :: r, p⟩
    | [], _, p, r, _ => ⟨[], by simp [Spec.Cbor.encEntries], by simpa [TV.flattenEntries] using Runs.nil _⟩
    | (k, v) :: es, h, p, r, hp => by
      simp only [WFe, Bool.and_eq_true] at h
      obtain ⟨⟨⟨hk, hkw⟩, hv⟩, hes⟩ := h
      obtain ⟨pv, hkp, hvp, hne, hpne⟩ := hp
      obtain ⟨w2, hw2, hr2⟩ := encV v hv p pv r hvp hne
      obtain ⟨w3, hw3, hr3⟩ := encE es hes p r ⟨pv, hkp, hvp, hne, hpne⟩
      cases k with
      | scalar t =>
        have ht : tokInRange t = true := by simpa [WFv] using hkw
        have h1 := Runs.key (stk := p :: r) (t := t) (by simpa [keyTok] using hk) hkp hpne
        refine ⟨_, ?_, by simpa [TV.flattenEntries, TV.flatten] using (h1.append hr2).append hr3⟩
        rw [Spec.Cbor.encEntries, ← scalar_writes ht, ← hw2, ← hw3]
        simp [List.flatten_append]
      | arr _ _ _ => simp at hk
      | map _ _ _ => simp at hk
end

theorem enc_eq_spec (v : TV) (h : WFv v = true) :
    (runOut CborEnc.step CborEnc.init v.flatten).1 =
        List.replicate (v.flatten.length - 1) Flag.cont ++ [Flag.done] ∧
    (runOut CborEnc.step CborEnc.init v.flatten).2.flatten = Spec.Cbor.enc v := by
  cases v with
  | scalar t =>
    have ht : tokInRange t = true := by simpa [WFv] using h
    have hstep := step_scalar [] .any .any t (tokInRange_scalar ht) rfl
    simp only [TV.flatten, runOut, CborEnc.init, hstep]
    simp only [Ret.flag]
    simpa using scalar_writes ht
  | arr tag len items =>
    simp only [WFv, Bool.and_eq_true, decide_eq_true_eq] at h
    obtain ⟨⟨_, hl⟩, hitems⟩ := h
    obtain ⟨ws, hws, hruns⟩ := encL items hitems (CborEnc.openPhase false len) [] (openPhase_arr len)
    have e : runOut CborEnc.step CborEnc.init (TV.arr tag len items).flatten = _ :=
      Runs.container_top false (tag := tag) hruns
    rw [e]
    exact ⟨by simp [TV.flatten], by rw [container_bytes false tag hl, hws, enc_arr_eq]⟩
  | map tag len es =>
    simp only [WFv, Bool.and_eq_true, decide_eq_true_eq] at h
    obtain ⟨⟨_, hl⟩, hes⟩ := h
    obtain ⟨ws, hws, hruns⟩ := encE es hes (CborEnc.openPhase true len) [] (openPhase_map len)
    have e : runOut CborEnc.step CborEnc.init (TV.map tag len es).flatten = _ :=
      Runs.container_top true (tag := tag) hruns
    rw [e]
    exact ⟨by simp [TV.flatten], by rw [container_bytes true tag hl, hws, enc_map_eq]⟩

def canonTok (t : Tok) : Tok :=
  match t.body with
  | .int i => if i ≥ 0 then { t with body := .uint i.toNat } else t
  | _ => t

-- What the decoder can give back: leaves within the built-in 32 MiB per-item cap, lengths exact.
mutual
  def Supported : TV → Bool
    | .scalar t => (match t.body with | .str s => s.length ≤ 33554432 | .bytes b => b.length ≤ 33554432 | _ => true)
    | .arr _ len items => (len < 0 || len == items.length) && SupportedL items
    | .map _ len es => (len < 0 || len == es.length) && SupportedE es
  def SupportedL : List TV → Bool
    | [] => true
    | v :: vs => Supported v && SupportedL vs
  def SupportedE : List (TV × TV) → Bool
    | [] => true
    | (k, v) :: es => Supported k && Supported v && SupportedE es
end

def normTok (t : Tok) : Tok := ⟨canonBody t.body, t.tag⟩

theorem normTok_close_arr : normTok ⟨.arrClose, none⟩ = ⟨.arrClose, none⟩ := rfl
theorem normTok_close_map : normTok ⟨.mapClose, none⟩ = ⟨.mapClose, none⟩ := rfl

theorem normTok_eq_canonTok (t : Tok)
    (hl : ∀ l, (t.body = .arrOpen l ∨ t.body = .mapOpen l) → -1 ≤ l) : normTok t = canonTok t := by
  obtain ⟨body, tag⟩ := t
  cases body with
  | int i => by_cases h : i ≥ 0 <;> simp [normTok, canonTok, canonBody, h]
  | arrOpen l =>
    have := hl l (Or.inl rfl)
    by_cases h : l < 0
    · have : l = -1 := by omega
      subst this; simp [normTok, canonTok, canonBody]
    · simp [normTok, canonTok, canonBody, h]
  | mapOpen l =>
    have := hl l (Or.inr rfl)
    by_cases h : l < 0
    · have : l = -1 := by omega
      subst this; simp [normTok, canonTok, canonBody]
    · simp [normTok, canonTok, canonBody, h]
  | _ => simp [normTok, canonTok, canonBody]

theorem flatten_arr_norm (tag : Option Int) (len : Int) (items : List TV) :
    (TV.arr tag len items).flatten.map normTok =
      openTok false (if 0 ≤ len then len else -1) tag :: ((TV.flattenList items).map normTok ++ [closeTok false]) := by
  by_cases h : 0 ≤ len
  · simp [TV.flatten, openTok, closeTok, normTok, canonBody, h, Int.not_lt.2 h]
  · simp [TV.flatten, openTok, closeTok, normTok, canonBody, h, Int.not_le.1 h]

theorem flatten_map_norm (tag : Option Int) (len : Int) (es : List (TV × TV)) :
    (TV.map tag len es).flatten.map normTok =
      openTok true (if 0 ≤ len then len else -1) tag :: ((TV.flattenEntries es).map normTok ++ [closeTok true]) := by
  by_cases h : 0 ≤ len
  · simp [TV.flatten, openTok, closeTok, normTok, canonBody, h, Int.not_lt.2 h]
  · simp [TV.flatten, openTok, closeTok, normTok, canonBody, h, Int.not_le.1 h]

theorem scalar_runs (coerce : Bool) {t : Tok} (h : tokInRange t = true) (hs : Supported (.scalar t) = true) :
    C04.EncRuns coerce none (Spec.Cbor.enc (.scalar t)) [normTok t] := by
  obtain ⟨hb, htag⟩ := tokInRange_facts h
  have hcap : ∀ x, t.body = .str x ∨ t.body = .bytes x → x.length ≤ 33554432 := by
    intro x hx; rcases hx with hx | hx <;> simpa [Supported, hx] using hs
  exact (C04.EncRuns.scalar (C04.headOf_encBody t.body hb hcap)).tagged htag

theorem container_runs (coerce isMap : Bool) {tag : Option Int} {len : Int} {k : Nat} {E : Bytes} {ts : List Tok}
    (htag : TagOk tag) (hl : len < (two63 : Int)) (hk : len < 0 ∨ len = (k : Int))
    (hItems : ∀ d rest, C04.ContentRuns coerce isMap d k (E ++ rest) ts rest) :
    C04.EncRuns coerce none (containerBytes isMap tag len E)
      (openTok isMap (if 0 ≤ len then len else -1) tag :: (ts ++ [closeTok isMap])) := by
  unfold containerBytes
  by_cases h0 : 0 ≤ len
  · obtain rfl : len = (k : Int) := by omega
    have := (C04.EncRuns.container (tag := tag) (d := true)
      (fun _ => by unfold CborDec.maxInt; unfold two63 at hl; omega) (hItems true)).tagged htag
    simpa [C04.closer, C04.openLen] using this
  · have := (C04.EncRuns.container (tag := tag) (d := false) (n := k) nofun (hItems false)).tagged htag
    simpa [C04.closer, C04.openLen, h0] using this

/- The decoder on `enc v`, by induction on `v`: each head is read back by the parser's `headOf`, and the decoder
follows `headOf` (the rules of `C04.AcceptRuns`). -/
mutual
  theorem decV : ∀ (v : TV), WFv v = true → Supported v = true → ∀ (coerce : Bool),
      C04.EncRuns coerce none (Spec.Cbor.enc v) (v.flatten.map normTok)
    | .scalar t, h, hs, coerce => by
      have ht : tokInRange t = true := by simpa [WFv] using h
      simpa [TV.flatten] using scalar_runs coerce ht hs
    | .arr tag len items, h, hs, coerce => by
      simp only [WFv, Bool.and_eq_true, decide_eq_true_eq] at h
      simp only [Supported, Bool.and_eq_true, Bool.or_eq_true, decide_eq_true_eq, beq_iff_eq] at hs
      rw [enc_arr_eq, flatten_arr_norm]
      exact container_runs coerce false (tagOk_of h.1.1) h.1.2 hs.1 (decL items h.2 hs.2 coerce)
    | .map tag len es, h, hs, coerce => by
      simp only [WFv, Bool.and_eq_true, decide_eq_true_eq] at h
      simp only [Supported, Bool.and_eq_true, Bool.or_eq_true, decide_eq_true_eq, beq_iff_eq] at hs
      rw [enc_map_eq, flatten_map_norm]
      exact container_runs coerce true (tagOk_of h.1.1) h.1.2 hs.1 (decE es h.2 hs.2 coerce)
  theorem decL : ∀ (vs : List TV), WFl vs = true → SupportedL vs = true → ∀ (coerce d : Bool) (rest : Bytes),
      C04.ContentRuns coerce false d vs.length (Spec.Cbor.encList vs ++ rest) ((TV.flattenList vs).map normTok) rest
    | [], _, _, coerce, d, rest => by
      simpa [Spec.Cbor.encList, TV.flattenList] using C04.ContentRuns.nil coerce false d rest
    | v :: vs, h, hs, coerce, d, rest => by
      simp only [WFl, Bool.and_eq_true] at h
      simp only [SupportedL, Bool.and_eq_true] at hs
      have := C04.ContentRuns.arr_cons ((decV v h.1 hs.1 coerce).item _) (decL vs h.2 hs.2 coerce d rest)
      simpa [Spec.Cbor.encList, TV.flattenList] using this
  theorem decE : ∀ (es : List (TV × TV)), WFe es = true → SupportedE es = true → ∀ (coerce d : Bool) (rest : Bytes),
      C04.ContentRuns coerce true d es.length (Spec.Cbor.encEntries es ++ rest) ((TV.flattenEntries es).map normTok) rest
    | [], _, _, coerce, d, rest => by
      simpa [Spec.Cbor.encEntries, TV.flattenEntries] using C04.ContentRuns.nil coerce true d rest
    | (k, v) :: es, h, hs, coerce, d, rest => by
      simp only [WFe, Bool.and_eq_true] at h
      obtain ⟨⟨⟨_, hk⟩, hv⟩, hes⟩ := h
      simp only [SupportedE, Bool.and_eq_true] at hs
      obtain ⟨⟨hsk, hsv⟩, hse⟩ := hs
      have := C04.ContentRuns.map_cons ((decV k hk hsk coerce).item _) ((decV v hv hsv coerce).item _)
        (decE es hes hse coerce d rest)
      simpa [Spec.Cbor.encEntries, TV.flattenEntries] using this
end

/-! Fuel: every token costs at least half a byte. -/

theorem encBody_pos (b : Body) (hs : b.isScalar = true) : 1 ≤ (Spec.Cbor.encBody b).length := by
  cases b with
  | uint n =>
    exact head_pos 0x00 n
  | int i =>
    simp only [Spec.Cbor.encBody]
    split
    · exact head_pos 0x00 i.toNat
    · exact head_pos 0x20 (-1 - i).toNat
  | str x =>
    have := head_pos 0x60 x.length
    simp only [Spec.Cbor.encBody, List.length_append]; omega
  | bytes x =>
    have := head_pos 0x40 x.length
    simp only [Spec.Cbor.encBody, List.length_append]; omega
  | bool x => cases x <;> simp [Spec.Cbor.encBody]
  | null => simp [Spec.Cbor.encBody]
  | float x => simp [Spec.Cbor.encBody]
  | mapOpen _ | mapClose | arrOpen _ | arrClose => simp [Body.isScalar] at hs

mutual
  theorem lenV : ∀ (v : TV), WFv v = true → v.flatten.length ≤ 2 * (Spec.Cbor.enc v).length
    | .scalar t, h => by
      have ht : tokInRange t = true := by simpa [WFv] using h
      have := encBody_pos t.body (tokInRange_scalar ht)
      simp only [TV.flatten, Spec.Cbor.enc, List.length_append, List.length_cons, List.length_nil]
      omega
    | .arr tag len items, h => by
      simp only [WFv, Bool.and_eq_true] at h
      have h1 := lenL items h.2
      have h2 := containerBytes_length false tag len (Spec.Cbor.encList items)
      rw [enc_arr_eq]
      simp only [TV.flatten, List.length_append, List.length_cons, List.length_nil]
      omega
    | .map tag len es, h => by
      simp only [WFv, Bool.and_eq_true] at h
      have h1 := lenE es h.2
      have h2 := containerBytes_length true tag len (Spec.Cbor.encEntries es)
      rw [enc_map_eq]
      simp only [TV.flatten, List.length_append, List.length_cons, List.length_nil]
      omega
  theorem lenL : ∀ (vs : List TV), WFl vs = true →
      (TV.flattenList vs).length ≤ 2 * (Spec.Cbor.encList vs).length
    | [], _ => by simp [TV.flattenList]
    | v :: vs, h => by
      simp only [WFl, Bool.and_eq_true] at h
      have h1 := lenV v h.1
      have h2 := lenL vs h.2
      simp only [TV.flattenList, Spec.Cbor.encList, List.length_append]
      omega
  theorem lenE : ∀ (es : List (TV × TV)), WFe es = true →
      (TV.flattenEntries es).length ≤ 2 * (Spec.Cbor.encEntries es).length
    | [], _ => by simp [TV.flattenEntries]
    | (k, v) :: es, h => by
      simp only [WFe, Bool.and_eq_true] at h
      have h1 := lenV k h.1.1.2
      have h2 := lenV v h.1.2
      have h3 := lenE es h.2
      simp only [TV.flattenEntries, Spec.Cbor.encEntries, List.length_append]
      omega
end

theorem roundtrip_norm (v : TV) (rest : Bytes) (h : WFv v = true) (hs : Supported v = true) :
    let o := CborDec.decode false (Rd.ofBytes (Spec.Cbor.enc v ++ rest))
    o.toks = v.flatten.map normTok ∧ o.res = .ok () ∧ o.rd.data = rest := by
  obtain ⟨h1, h2, h3⟩ := (decV v h hs false).decode rest (by rw [List.length_map]; exact lenV v h)
  exact ⟨h1, h2, congrArg Rd.data h3⟩

-- the hypotheses are named for reference only
set_option linter.unusedVariables false in
def roundtrip_statement : Prop :=
  ∀ (v : TV) (rest : Bytes) (h : WFv v = true) (hs : Supported v = true)
    (hb : ∀ t ∈ v.flatten, ∀ b, (t.body = .str b ∨ t.body = .bytes b) → ∀ x ∈ b, x < 256),
    let o := CborDec.decode false (Rd.ofBytes (Spec.Cbor.enc v ++ rest))
    o.toks = v.flatten.map canonTok ∧ o.res = .ok () ∧ o.rd.data = rest

theorem roundtrip_statement_false : ¬ roundtrip_statement := by
  intro hst
  have h1 := hst (.arr none (-2) []) [] (by decide) (by decide)
    (by simp [TV.flatten, TV.flattenList])
  have h2 := roundtrip_norm (.arr none (-2) []) [] (by decide) (by decide)
  have := h1.1.symm.trans h2.1
  simp [TV.flatten, TV.flattenList, normTok, canonBody, canonTok] at this

-- `hb` is not needed: the decoder does not look at the bytes of a string
set_option linter.unusedVariables false in
/-- Decoding the encoder's output gives back the same tokens (non-negative signed integers come back
    unsigned), signals done exactly on the last token, and consumes exactly those bytes —
    provided every indefinite declared length is spelled `-1` (hypothesis `hl`). -/
theorem roundtrip_partial (v : TV) (rest : Bytes) (h : WFv v = true) (hs : Supported v = true)
    (hb : ∀ t ∈ v.flatten, ∀ b, (t.body = .str b ∨ t.body = .bytes b) → ∀ x ∈ b, x < 256)
    (hl : ∀ t ∈ v.flatten, ∀ l, (t.body = .arrOpen l ∨ t.body = .mapOpen l) → -1 ≤ l) :
    let o := CborDec.decode false (Rd.ofBytes (Spec.Cbor.enc v ++ rest))
    o.toks = v.flatten.map canonTok ∧ o.res = .ok () ∧ o.rd.data = rest := by
  have := roundtrip_norm v rest h hs
  have e : v.flatten.map normTok = v.flatten.map canonTok :=
    List.map_congr_left (fun t ht => normTok_eq_canonTok t (hl t ht))
  rw [e] at this
  exact this

end Refmt.C02
