/-
  C03 — JSON encoding of token streams is lossless and always valid JSON.

  Domain (`JWF`): token trees inside JSON's data model — string keys, no byte
  strings, finite floats, integers in the 64-bit token range; tags are allowed
  and are dropped.  Options: `Line` / `Indent` made of JSON whitespace only.

  `enc_valid_statement` (the output is valid JSON that the independent reference reader `Spec.Json.parse` reads as the
  same value) and `roundtrip_statement` (the decoder model gives the tokens back) rest on one fact about the model's
  float text `FloatText.jsonFloat` (a big-number re-implementation of strconv, validated by the harness): that it is
  always a complete RFC 8259 number that `numTok` can type without overflow (`FloatTextOk`; per tree `FloatsOk v`,
  vacuous without float tokens).  Here the two are proved under `FloatsOk v` and from `FloatTextOk`, to which the
  first is equivalent; Props/C03Float.lean proves `FloatTextOk`, hence `enc_valid` and `roundtrip`.
-/
import RefmtProofs.Lemmas.JsonEncTree
import RefmtProofs.Lemmas.JsonEncL
import RefmtProofs.Lemmas.JsonParseL
import RefmtProofs.Props.C05
namespace Refmt.C03
open Refmt Refmt.JsonEnc Refmt.C03L

/-- the bytes `emitString` writes between the quotes -/
def escaped (s : Bytes) : Bytes := (escLoop s []).flatten

theorem escaped_eq (s : Bytes) : escaped s = esc s := rfl

-- `hb` is part of the statement of the property; the proof does not need it
set_option linter.unusedVariables false in
/-- The string escaper followed by the decoder's unquoting is the identity on valid UTF-8 and maps every invalid byte
    to U+FFFD (`toValidUtf8`), for every byte string. -/
theorem escape_unquote (s : Bytes) (hb : ∀ x ∈ s, x < 256) :
    JsonDec.parseString ((escaped s).length + 1) (escaped s) = some (toValidUtf8 s) :=
  escaped_eq s ▸ (esc_Esc s).unquote _ (Nat.lt_succ_self _)

def isStringBody : Bytes → Bool
  | [] => true
  | 92 :: 117 :: a :: b :: c :: d :: r =>
    JsonDec.isHex a && JsonDec.isHex b && JsonDec.isHex c && JsonDec.isHex d && isStringBody r
  | 92 :: e :: r =>
    (e == 34 || e == 92 || e == 47 || e == 98 || e == 102 || e == 110 || e == 114 || e == 116) && isStringBody r
  | c :: r => c != 34 && c != 92 && c ≥ 0x20 && isStringBody r

/-- C05 proves its copy of the recogniser equivalent to the scanner and to the grammar `SBody`. -/
theorem isStringBody_eq (bs : Bytes) : isStringBody bs = C05.isStringBody bs := by
  fun_induction isStringBody bs with
  | case1 => rfl
  | case2 a b c d r ih => rw [C05.isStringBody, ih]
  | case3 e r h ih => rw [C05.isStringBody.eq_3 _ _ h, ih]
  | case4 c r h1 h2 ih => rw [C05.isStringBody.eq_4 _ _ h1 h2, ih]

theorem isStringBody_of_SBody {e : Bytes} (h : SBody e) : isStringBody e = true :=
  isStringBody_eq e ▸ C05.isb_of_SBody h

-- `hb` as for `escape_unquote`
set_option linter.unusedVariables false in
/-- The escaper's output is a legal RFC 8259 string body (no raw control byte, no unescaped quote or backslash) and is
    valid UTF-8: invalid bytes are never emitted raw. -/
theorem escape_is_body (s : Bytes) (hb : ∀ x ∈ s, x < 256) :
    isStringBody (escaped s) = true ∧ toValidUtf8 (escaped s) = escaped s :=
  escaped_eq s ▸ ⟨isStringBody_of_SBody (esc_Esc s).body, (esc_Esc s).valid⟩

def jsonScalarOk (t : Tok) : Bool :=
  match t.body with
  | .uint n => n < two64
  | .int i => - (two63 : Int) ≤ i && i < (two63 : Int)
  | .float b => b < two64 && !floatNonFinite b
  | .str s => s.all (· < 256)
  | .null => true
  | .bool _ => true
  | _ => false

mutual
  def JWF : TV → Bool
    | .scalar t => jsonScalarOk t
    | .arr _ _ items => JWFl items
    | .map _ _ es => JWFe es
  def JWFl : List TV → Bool
    | [] => true
    | v :: vs => JWF v && JWFl vs
  def JWFe : List (TV × TV) → Bool
    | [] => true
    | (k, v) :: es =>
      (match k with | .scalar t => (match t.body with | .str s => s.all (· < 256) | _ => false) | _ => false) &&
      JWF v && JWFe es
end

def wsOnly (bs : Bytes) : Bool := bs.all JsonDec.isWs
def cfgOk (c : Cfg) : Bool := wsOnly c.lineBytes && wsOnly c.indent

def out (c : Cfg) (v : TV) : Bytes := (runOut (step c FloatText.jsonFloat) init v.flatten).2.flatten

theorem scalar_encOk {t : Tok} (h : jsonScalarOk t = true) : encOk t.body = true := by
  unfold jsonScalarOk at h
  cases hb : t.body <;> simp [hb] at h <;> simp [encOk, h]

theorem cfgOk_ws {c : Cfg} (h : cfgOk c = true) : CfgWs c := by
  simp only [cfgOk, wsOnly, Bool.and_eq_true, List.all_eq_true] at h
  exact ⟨h.1, h.2⟩

mutual
  /-- `EOk` is `JWF` without its clauses on numbers' ranges and strings' bytes -/
  theorem eok_of_jwf : ∀ (v : TV), JWF v = true → C12L.EOk v = true
    | .scalar t, h => by simp only [JWF] at h; simpa [C12L.EOk] using scalar_encOk h
    | .arr _ _ items, h => by simp only [JWF] at h; simpa [C12L.EOk] using eokL_of_jwf items h
    | .map _ _ es, h => by simp only [JWF] at h; simpa [C12L.EOk] using eokE_of_jwf es h
  theorem eokL_of_jwf : ∀ (vs : List TV), JWFl vs = true → C12L.EOkL vs = true
    | [], _ => rfl
    | v :: vs, h => by
      simp only [JWFl, Bool.and_eq_true] at h
      simp only [C12L.EOkL, Bool.and_eq_true]
      exact ⟨eok_of_jwf v h.1, eokL_of_jwf vs h.2⟩
  theorem eokE_of_jwf : ∀ (es : List (TV × TV)), JWFe es = true → C12L.EOkE es = true
    | [], _ => rfl
    | (k, v) :: es, h => by
      simp only [JWFe, Bool.and_eq_true] at h
      obtain ⟨s, tag, rfl⟩ := key_form h.1.1
      simp only [C12L.EOkE, Bool.and_eq_true]
      exact ⟨⟨trivial, eok_of_jwf v h.1.2⟩, eokE_of_jwf es h.2⟩
end

theorem encV (c : Cfg) : ∀ (v : TV), JWF v = true → ∀ (inArr : Bool) (r : List Phase) (sm : Bool),
    Runs c (vS inArr r sm) v.flatten (vPre c inArr r sm ++ txtV c (r.length + 1) v) (vE inArr r) :=
  fun v h => C12L.eencV c v (eok_of_jwf v h)

/-- trailing bytes after the value: containers are followed by `Line`, scalars by nothing -/
def trailer (c : Cfg) : TV → Bytes
  | .scalar _ => []
  | _ => c.lineBytes

theorem run_eq_eok (c : Cfg) (v : TV) (h : C12L.EOk v = true) :
    (runOut (step c FloatText.jsonFloat) init v.flatten).1 =
      List.replicate (v.flatten.length - 1) Flag.cont ++ [Flag.done] ∧
    out c v = txtV c 0 v ++ trailer c v := by
  unfold out
  cases v with
  | scalar t =>
    obtain ⟨hf, hw⟩ := top_scalar c t (by simpa [C12L.EOk] using h)
    simp [TV.flatten, runOut, hf, hw, txtV, trailer]
  | arr tag len items =>
    have h1 := top_open c true len tag
    have h2 := C12L.eencL c items (by simpa [C12L.EOk] using h) [] false
    obtain ⟨hf, hw⟩ := top_close c true (false || !items.isEmpty)
    have := (h1.append h2).finish hf hw
    simp only [stp, openBody, closeBody, openB, closeB] at this
    simp only [TV.flatten, List.cons_append, List.nil_append] at this ⊢
    rw [this.1, this.2]
    simp [txtV, trailer]
  | map tag len es =>
    have h1 := top_open c false len tag
    have h2 := C12L.eencE c es (by simpa [C12L.EOk] using h) [] false
    obtain ⟨hf, hw⟩ := top_close c false (false || !es.isEmpty)
    have := (h1.append h2).finish hf hw
    simp only [stp, openBody, closeBody, openB, closeB] at this
    simp only [TV.flatten, List.cons_append, List.nil_append] at this ⊢
    rw [this.1, this.2]
    simp [txtV, trailer]

theorem run_eq (c : Cfg) (v : TV) (h : JWF v = true) :
    (runOut (step c FloatText.jsonFloat) init v.flatten).1 =
      List.replicate (v.flatten.length - 1) Flag.cont ++ [Flag.done] ∧
    out c v = txtV c 0 v ++ trailer c v :=
  run_eq_eok c v (eok_of_jwf v h)

mutual
  theorem stripV (c : Cfg) (hc : CfgWs c) : ∀ (v : TV), JWF v = true → ∀ (d : Nat) (rest : Bytes),
      Spec.Json.stripWs (txtV c d v ++ rest) false false = txtV ⟨none, []⟩ d v ++ Spec.Json.stripWs rest false false
    | .scalar t, h, d, rest => by
      simpa [txtV] using stripWs_scalar t.body (scalar_encOk (by simpa [JWF] using h)) rest
    | .arr tag len items, h, d, rest => by
      have h2 := stripL c hc items (by simpa [JWF] using h) (d + 1) false
      simp only [txtV, List.cons_append, List.append_assoc]
      rw [stripWs_open 91 (Or.inl rfl), h2, stripWs_close hc _ _ 93 (Or.inl rfl), closeSep_compact]
      simp
    | .map tag len es, h, d, rest => by
      have h2 := stripE c hc es (by simpa [JWF] using h) (d + 1) false
      simp only [txtV, List.cons_append, List.append_assoc]
      rw [stripWs_open 123 (Or.inr rfl), h2, stripWs_close hc _ _ 125 (Or.inr rfl), closeSep_compact]
      simp
  theorem stripL (c : Cfg) (hc : CfgWs c) : ∀ (vs : List TV), JWFl vs = true → ∀ (d : Nat) (sm : Bool) (rest : Bytes),
      Spec.Json.stripWs (txtL c d sm vs ++ rest) false false = txtL ⟨none, []⟩ d sm vs ++ Spec.Json.stripWs rest false false
    | [], _, d, sm, rest => by simp [txtL]
    | v :: vs, h, d, sm, rest => by
      simp only [JWFl, Bool.and_eq_true] at h
      simp only [txtL, List.append_assoc]
      rw [stripWs_sep hc, stripV c hc v h.1, stripL c hc vs h.2]
  theorem stripE (c : Cfg) (hc : CfgWs c) : ∀ (es : List (TV × TV)), JWFe es = true →
      ∀ (d : Nat) (sm : Bool) (rest : Bytes),
      Spec.Json.stripWs (txtE c d sm es ++ rest) false false = txtE ⟨none, []⟩ d sm es ++ Spec.Json.stripWs rest false false
    | [], _, d, sm, rest => by simp [txtE]
    | (k, v) :: es, h, d, sm, rest => by
      simp only [JWFe, Bool.and_eq_true] at h
      obtain ⟨⟨hk, hv⟩, hes⟩ := h
      obtain ⟨s, tag, rfl⟩ := key_form hk
      simp only [txtE, List.append_assoc, keyTxt]
      rw [stripWs_sep hc, stripWs_scalar (.str s) rfl, stripWs_colon, stripV c hc v hv, stripE c hc es hes, colon_compact]
      simp
end

/-- The float hypothesis for one tree: for every float token, the model's float text is a complete RFC 8259 number
    for the scanners and `numTok` can type it (`C03L.floatOk`, a decidable check). -/
def FloatsOk (v : TV) : Prop := ∀ t ∈ v.flatten, ∀ x, t.body = .float x → floatOk x = true

/-- The same for every finite binary64 bit pattern (proved in Props/C03Float.lean). -/
def FloatTextOk : Prop := ∀ x, x < two64 → floatNonFinite x = false → floatOk x = true

mutual
  theorem dokV : ∀ (v : TV), JWF v = true →
      (∀ t ∈ v.flatten, ∀ x, t.body = .float x → x < two64 → floatNonFinite x = false → floatOk x = true) →
      DOk v = true
    | .scalar t, h, hf => by
      have hj : jsonScalarOk t = true := by simpa [JWF] using h
      have hf' := hf t (by simp [TV.flatten])
      unfold jsonScalarOk at hj
      cases hb : t.body with
      | float x =>
        -- the one kind with a side condition: the float text must read back
        simp [hb] at hj
        simp [DOk, decOk, hb, hj, hf' x hb hj.1 hj.2]
      | _ => simp [hb] at hj <;> simp [DOk, decOk, hb, hj]
    | .arr tag len items, h, hf => by
      simp only [DOk]
      exact dokL items (by simpa [JWF] using h) (fun t ht => hf t (by simp [TV.flatten, ht]))
    | .map tag len es, h, hf => by
      simp only [DOk]
      exact dokE es (by simpa [JWF] using h) (fun t ht => hf t (by simp [TV.flatten, ht]))
  theorem dokL : ∀ (vs : List TV), JWFl vs = true →
      (∀ t ∈ TV.flattenList vs, ∀ x, t.body = .float x → x < two64 → floatNonFinite x = false → floatOk x = true) →
      DOkL vs = true
    | [], _, _ => rfl
    | v :: vs, h, hf => by
      simp only [JWFl, Bool.and_eq_true] at h
      simp only [DOkL, Bool.and_eq_true]
      exact ⟨dokV v h.1 (fun t ht => hf t (by simp [TV.flattenList, ht])),
        dokL vs h.2 (fun t ht => hf t (by simp [TV.flattenList, ht]))⟩
  theorem dokE : ∀ (es : List (TV × TV)), JWFe es = true →
      (∀ t ∈ TV.flattenEntries es, ∀ x, t.body = .float x → x < two64 → floatNonFinite x = false → floatOk x = true) →
      DOkE es = true
    | [], _, _ => rfl
    | (k, v) :: es, h, hf => by
      simp only [JWFe, Bool.and_eq_true] at h
      obtain ⟨⟨hk, hv⟩, hes⟩ := h
      obtain ⟨s, tag, rfl⟩ := key_form hk
      simp only [DOkE, Bool.and_eq_true]
      exact ⟨⟨trivial, dokV v hv (fun t ht => hf t (by simp [TV.flattenEntries, ht]))⟩,
        dokE es hes (fun t ht => hf t (by simp [TV.flattenEntries, ht]))⟩
end

theorem floatsOk_of_noFloat {v : TV} (h : ∀ t ∈ v.flatten, ∀ x, t.body ≠ .float x) : FloatsOk v :=
  fun t ht x hb => absurd hb (h t ht x)

theorem dok_of_floatsOk {v : TV} (h : JWF v = true) (hf : FloatsOk v) : DOk v = true :=
  dokV v h (fun t ht x hb _ _ => hf t ht x hb)

theorem dok_of_floatTextOk {v : TV} (h : JWF v = true) (hf : FloatTextOk) : DOk v = true :=
  dokV v h (fun _ _ x _ h1 h2 => hf x h1 h2)

theorem trailer_ws {c : Cfg} (hw : CfgWs c) (v : TV) : WsOnly (trailer c v) := by
  cases v <;> first | exact WsOnly.nil | exact hw.line

theorem enc_valid_dok (c : Cfg) (v : TV) (h : JWF v = true) (hc : cfgOk c = true) (hd : DOk v = true) :
    (Spec.Json.parse (out c v)).map (fun p => (p.1.flatten, p.2)) =
      some (v.flatten.map Spec.Json.retypeTok, trailer c v) := by
  have hw := cfgOk_ws hc
  rw [(run_eq c v h).2]
  unfold Spec.Json.parse
  have h1 := needV_le v
  have h2 := lenV c v hd 0
  rw [parseV c hw v hd _ 0 (trailer c v) (by simp only [List.length_append]; omega) (Stop_ws _ (trailer_ws hw v))]
  simp [retV_flatten]

theorem roundtrip_dok (c : Cfg) (v : TV) (hc : cfgOk c = true) (hd : DOk v = true) :
    let o := JsonDec.decode (Rd.ofBytes (out c v))
    o.toks = v.flatten.map Spec.Json.retypeTok ∧ o.res = .ok () := by
  have hw := cfgOk_ws hc
  have h2 := lenV c v hd 0
  have hr := run_eq_eok c v (C12L.eok_of_dok v hd)
  have := decTop c hw v hd (2 * (out c v).length + 2) (trailer c v) (Stop_ws _ (trailer_ws hw v))
    (by rw [hr.2]; simp only [List.length_append]; omega)
  rw [← hr.2] at this
  exact this

/-- every tree of the domain is accepted, done exactly on its last token -/
theorem enc_accepts (c : Cfg) (v : TV) (h : JWF v = true) :
    (runOut (step c FloatText.jsonFloat) init v.flatten).1 =
      List.replicate (v.flatten.length - 1) Flag.cont ++ [Flag.done] :=
  (run_eq c v h).1

/-- `enc_valid`.  It is true exactly when the float texts are sound (`enc_valid_iff_floatTextOk`), a fact
    about the big-number routines `FloatText.shortest` / `parseDecimal`. -/
def enc_valid_statement : Prop :=
  ∀ (c : Cfg) (v : TV), JWF v = true → cfgOk c = true →
    (Spec.Json.parse (out c v)).map (fun p => (p.1.flatten, p.2)) =
      some (v.flatten.map Spec.Json.retypeTok, trailer c v)

/-- `enc_valid` with the float hypothesis made explicit for the tree at hand. -/
theorem enc_valid_partial (c : Cfg) (v : TV) (h : JWF v = true) (hc : cfgOk c = true) (hf : FloatsOk v) :
    (Spec.Json.parse (out c v)).map (fun p => (p.1.flatten, p.2)) =
      some (v.flatten.map Spec.Json.retypeTok, trailer c v) :=
  enc_valid_dok c v h hc (dok_of_floatsOk h hf)

theorem enc_valid_of_floatTextOk (hF : FloatTextOk) : enc_valid_statement :=
  fun c v h hc => enc_valid_dok c v h hc (dok_of_floatTextOk h hF)

open Refmt.Spec.Json Refmt.JsonDec in
theorem floatOk_of_parse (x : Nat) (p : TV × Bytes) (h : parse (FloatText.jsonFloat x) = some p) (hp : p.2 = []) :
    floatOk x = true := by
  have hch := jsonFloat_chars x
  unfold floatOk
  generalize FloatText.jsonFloat x = T at h hch ⊢
  cases T with
  | nil => simp [parse, parseValue, skip] at h
  | cons b0 r =>
    have hb0 := hch b0 (by simp)
    have hne : b0 ≠ 123 ∧ b0 ≠ 91 ∧ b0 ≠ 34 ∧ b0 ≠ 110 ∧ b0 ≠ 116 ∧ b0 ≠ 102 := by
      simp [numChar, isDigit] at hb0; omega
    rw [parse, show 2 * (b0 :: r).length + 2 = (2 * r.length + 3) + 1 by simp only [List.length_cons]; omega,
      C05L.parseValue_succ, C05L.skip_cons_notws r (numChar_plain hb0).1] at h
    simp only [beq_iff_eq, hne, if_false] at h
    obtain ⟨⟨body, r'⟩, hm, rfl⟩ := Option.map_eq_some_iff.mp h
    -- a text of number characters can only be read as a number, and it is read completely
    rcases C05L.refScalar_some hm with ⟨h34, -⟩ | ⟨hlit, -⟩ | ⟨hd, text, hlex, hnt⟩
    · exact absurd h34 hne.2.2.1
    · omega
    · cases hp
      obtain ⟨body, st', hr, htext, hrun, hacc⟩ := lexNumber_inv r _ _ _ _ _ hlex
      rw [List.append_nil] at hr
      subst hr
      simp only [List.reverse_cons, List.reverse_nil, List.nil_append, List.singleton_append] at htext
      subst htext
      have hd' : (b0 == 45 || isDigit b0) = true := by rcases hd with rfl | h <;> simp [*]
      simp [numberOk, hd', hrun, hacc, hnt]

/-- Conversely the first statement already contains the float hypothesis (take a top-level float):
    `enc_valid_statement` and `FloatTextOk` are equivalent (`enc_valid_iff_floatTextOk`). -/
theorem floatTextOk_of_enc_valid (hS : enc_valid_statement) : FloatTextOk := by
  intro x hx hfin
  have hj : JWF (.scalar ⟨.float x, none⟩) = true := by simp [JWF, jsonScalarOk, hx, hfin]
  have h1 := hS ⟨none, []⟩ (.scalar ⟨.float x, none⟩) hj (by decide)
  rw [(run_eq _ _ hj).2] at h1
  simp only [txtV, scalarTxt, trailer, List.append_nil] at h1
  cases hp : Spec.Json.parse (FloatText.jsonFloat x) with
  | none => simp [hp] at h1
  | some p =>
    simp only [hp, Option.map_some, Option.some.injEq, Prod.mk.injEq] at h1
    exact floatOk_of_parse x p hp h1.2

theorem enc_valid_iff_floatTextOk : enc_valid_statement ↔ FloatTextOk :=
  ⟨floatTextOk_of_enc_valid, enc_valid_of_floatTextOk⟩

/-- the pretty-printed output with insignificant whitespace removed is exactly the compact output -/
theorem pretty_is_compact (c : Cfg) (v : TV) (h : JWF v = true) (hc : cfgOk c = true) :
    Spec.Json.stripWs (out c v) false false = out ⟨none, []⟩ v := by
  have hw := cfgOk_ws hc
  rw [(run_eq c v h).2, (run_eq ⟨none, []⟩ v h).2, stripV c hw v h]
  have h1 : trailer ⟨none, []⟩ v = [] := by cases v <;> rfl
  have h2 : Spec.Json.stripWs (trailer c v) false false = [] := by
    have := stripWs_ws (trailer c v) [] (trailer_ws hw v)
    simpa [Spec.Json.stripWs] using this
  rw [h1, h2]

/-- `roundtrip`.  It follows from the soundness of the float texts (`roundtrip_of_floatTextOk`). -/
def roundtrip_statement : Prop :=
  ∀ (c : Cfg) (v : TV), JWF v = true → cfgOk c = true →
    let o := JsonDec.decode (Rd.ofBytes (out c v))
    o.toks = v.flatten.map Spec.Json.retypeTok ∧ o.res = .ok ()

/-- `roundtrip` with the float hypothesis made explicit for the tree at hand. -/
theorem roundtrip_partial (c : Cfg) (v : TV) (h : JWF v = true) (hc : cfgOk c = true) (hf : FloatsOk v) :
    let o := JsonDec.decode (Rd.ofBytes (out c v))
    o.toks = v.flatten.map Spec.Json.retypeTok ∧ o.res = .ok () :=
  roundtrip_dok c v hc (dok_of_floatsOk h hf)

theorem roundtrip_of_floatTextOk (hF : FloatTextOk) : roundtrip_statement :=
  fun c v h hc => roundtrip_dok c v hc (dok_of_floatTextOk h hF)

example : out ⟨some [10], [32]⟩ (.arr none 2 [.scalar ⟨.null, none⟩, .arr (some 3) (-1) [.scalar ⟨.bool true, none⟩]])
    = [91, 10, 32, 110, 117, 108, 108, 44, 10, 32, 91, 10, 32, 32, 116, 114, 117, 101, 10, 32, 93, 10, 93, 10] := by
  decide

end Refmt.C03
