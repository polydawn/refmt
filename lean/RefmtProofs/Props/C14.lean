/-
  C14 — encoders accept exactly the well-formed token sequences of their format.
  For each of the three hand-written encoder automata (CBOR: 7 phases, JSON: 4 phases + `some`, pretty: 4 phases)
  the sequence of (continue | done | error | panic) answers on ANY token list equals the answers of the small
  pushdown recogniser `recStep` (RefmtModel/Spec/Rec.lean); the recogniser rejects a token exactly when no
  continuation can complete a well-formed value (`rec_reject_dead`, `rec_alive`); hence a sequence that forms
  one value is answered continue up to its last token and done on that (`RecTree.recFlags_done`), the error
  comes at the first token that cannot continue any well-formed value, and no encoder panics.
  Writers are assumed not to fail here (I/O errors are C16).
-/
import RefmtModel
import RefmtProofs.Lemmas.RecTree
namespace Refmt.C14
open Refmt

def BelowOk : List Frame → Prop
  | [] => True
  | .mapKey :: _ => False
  | _ :: r => BelowOk r

def StackOk : List Frame → Prop
  | [] => True
  | _ :: r => BelowOk r

@[simp] theorem afterValue_nil : afterValue [] = .done := rfl
@[simp] theorem afterValue_arr (r : List Frame) : afterValue (.arr :: r) = .cont (.arr :: r) := rfl
@[simp] theorem afterValue_mapVal (r : List Frame) : afterValue (.mapVal :: r) = .cont (.mapKey :: r) := rfl
@[simp] theorem afterValue_mapKey (r : List Frame) : afterValue (.mapKey :: r) = .reject := rfl

theorem afterValue_cont {r stk' : List Frame} (h : BelowOk r) (ha : afterValue r = .cont stk') :
    stk' ≠ [] ∧ StackOk stk' := by
  cases r with
  | nil => cases ha
  | cons f r' => cases f <;> cases ha <;> exact ⟨List.cons_ne_nil _ _, h⟩

theorem cont_of_ite {c : Bool} {a : RecOut} {stk' : List Frame}
    (h : (if c = true then a else RecOut.reject) = .cont stk') : a = .cont stk' := by
  cases c
  · cases h
  · exact h

theorem recValue_cont {fmt : Fmt} {stk stk' : List Frame} {b : Body} (h : BelowOk stk)
    (hs : recValue fmt stk b = .cont stk') : stk' ≠ [] ∧ StackOk stk' := by
  cases b with
  | mapOpen | arrOpen => cases hs; exact ⟨List.cons_ne_nil _ _, h⟩
  | mapClose => cases hs
  | arrClose =>
    cases stk with
    | nil => cases hs
    | cons f r => cases f <;> first | cases hs | exact afterValue_cont (r := r) h hs
  | null | str | bytes | bool | int | uint | float => exact afterValue_cont h (cont_of_ite hs)

theorem recKey_cont {fmt : Fmt} {r stk' : List Frame} {b : Body} (h : BelowOk r)
    (hs : recKey fmt r b = .cont stk') : stk' ≠ [] ∧ StackOk stk' := by
  cases b with
  | mapClose => exact afterValue_cont h hs
  | mapOpen | arrOpen | arrClose | null | str | bytes | bool | int | uint | float =>
    cases cont_of_ite hs; exact ⟨List.cons_ne_nil _ _, h⟩

theorem recStep_cont {fmt : Fmt} {stk stk' : List Frame} {b : Body} (h : StackOk stk)
    (hs : recStep fmt stk b = .cont stk') : stk' ≠ [] ∧ StackOk stk' := by
  cases stk with
  | nil => exact recValue_cont (stk := []) h hs
  | cons f r =>
    cases f with
    | mapKey => exact recKey_cont h hs
    | arr => exact recValue_cont (stk := .arr :: r) h hs
    | mapVal => exact recValue_cont (stk := .mapVal :: r) h hs

theorem stackOk_step (fmt : Fmt) (stk stk' : List Frame) (b : Body) (h : StackOk stk)
    (hs : recStep fmt stk b = .cont stk') : StackOk stk' :=
  (recStep_cont h hs).2

def completionBelow : List Frame → List Body
  | [] => []
  | .arr :: r => .arrClose :: completionBelow r
  | _ :: r => .mapClose :: completionBelow r

def completion : List Frame → List Body
  | [] => []
  | .arr :: r => .arrClose :: completionBelow r
  | .mapKey :: r => .mapClose :: completionBelow r
  | .mapVal :: r => .null :: .mapClose :: completionBelow r

theorem valOk_null (fmt : Fmt) : valOk fmt Body.null = true := by cases fmt <;> rfl

theorem run_arrClose (fmt : Fmt) (r : List Frame) (rest : List Body) :
    recRun fmt (.arr :: r) (.arrClose :: rest) = RecTree.thenRun fmt (afterValue r) rest :=
  RecTree.recRun_cons fmt _ _ rest

theorem run_mapClose (fmt : Fmt) (r : List Frame) (rest : List Body) :
    recRun fmt (.mapKey :: r) (.mapClose :: rest) = RecTree.thenRun fmt (afterValue r) rest :=
  RecTree.recRun_cons fmt _ _ rest

theorem run_null_mapVal (fmt : Fmt) (r : List Frame) (rest : List Body) :
    recRun fmt (.mapVal :: r) (.null :: rest) = recRun fmt (.mapKey :: r) rest := by
  rw [RecTree.recRun_cons]
  show RecTree.thenRun fmt (if valOk fmt .null = true then afterValue (.mapVal :: r) else .reject) rest = _
  rw [valOk_null, if_pos rfl]
  rfl

theorem after_done (fmt : Fmt) : ∀ (r : List Frame), BelowOk r →
    RecTree.thenRun fmt (afterValue r) (completionBelow r) = .done
  | [], _ => rfl
  | .mapKey :: _, hb => hb.elim
  | .arr :: r', hb => (run_arrClose fmt r' _).trans (after_done fmt r' hb)
  | .mapVal :: r', hb => (run_mapClose fmt r' _).trans (after_done fmt r' hb)

theorem completion_done (fmt : Fmt) (stk : List Frame) (hne : stk ≠ []) (hok : StackOk stk) :
    recRun fmt stk (completion stk) = .done := by
  cases stk with
  | nil => exact absurd rfl hne
  | cons f r =>
    have hb : BelowOk r := by simpa [StackOk] using hok
    cases f with
    | arr => simp only [completion, run_arrClose]; exact after_done fmt r hb
    | mapKey => simp only [completion, run_mapClose]; exact after_done fmt r hb
    | mapVal => simp only [completion, run_null_mapVal, run_mapClose]; exact after_done fmt r hb

theorem rec_reject_dead (fmt : Fmt) (stk : List Frame) (b : Body) (rest : List Body)
    (h : recStep fmt stk b = .reject) : recRun fmt stk (b :: rest) = .reject := by
  simp [recRun, h]

theorem rec_alive (fmt : Fmt) (stk : List Frame) (b : Body) (hok : StackOk stk)
    (h : recStep fmt stk b ≠ .reject) : ∃ rest, recRun fmt stk (b :: rest) = .done := by
  cases hs : recStep fmt stk b with
  | reject => exact absurd hs h
  | done => exact ⟨[], by simp [recRun, hs]⟩
  | cont stk' =>
    refine ⟨completion stk', ?_⟩
    simp only [recRun, hs]
    exact completion_done fmt stk' (recStep_cont hok hs).1 (recStep_cont hok hs).2

/-- All three encoders keep a stack of the phases their open containers were entered with and a current phase,
    which is that phase again or, in a map, the one for the value.  Under the top every container awaits the
    end of the value above it, so its entry alone (`belowFrame`) says which frame it is. -/
inductive Below {φ : Type} (belowFrame : φ → Option Frame) : List φ → List Frame → Prop
  | nil : Below belowFrame [] []
  | cons {p : φ} {f : Frame} {r : List φ} {fr : List Frame} :
      belowFrame p = some f → Below belowFrame r fr → Below belowFrame (p :: r) (f :: fr)

/-- the phase stack and current phase stand for the recogniser's stack: the top entry together with the
    current phase (`topFrame`) gives the top frame -/
inductive Abs {φ : Type} (belowFrame : φ → Option Frame) (topFrame : φ → φ → Option Frame) (any : φ) :
    List φ → φ → List Frame → Prop
  | top : Abs belowFrame topFrame any [] any []
  | frame {p c : φ} {f : Frame} {r : List φ} {fr : List Frame} :
      topFrame p c = some f → Below belowFrame r fr → Abs belowFrame topFrame any (p :: r) c (f :: fr)

def Sim {σ : Type} (abs : σ → List Frame → Prop) (o : EncOut σ) : RecOut → Prop
  | .cont stk' => o.ret.flag = .cont ∧ abs o.st stk'
  | .done => o.ret.flag = .done
  | .reject => o.ret.flag = .err

theorem lift {σ : Type} (step : σ → Tok → EncOut σ) (abs : σ → List Frame → Prop) (fmt : Fmt)
    (hsim : ∀ s stk t, abs s stk → Sim abs (step s t) (recStep fmt stk t.body)) :
    ∀ ts s stk, abs s stk → runFlags step s ts = recFlags fmt stk ts := by
  intro ts
  induction ts with
  | nil => intros; rfl
  | cons t ts ih =>
    intro s stk h
    have hs := hsim s stk t h
    simp only [runFlags, recFlags]
    cases hr : recStep fmt stk t.body with
    | cont stk' =>
      rw [hr] at hs
      rw [hs.1]
      rw [ih _ _ hs.2]
    | done => rw [hr] at hs; rw [show (step s t).ret.flag = .done from hs]
    | reject => rw [hr] at hs; rw [show (step s t).ret.flag = .err from hs]

theorem recFlags_no_panic (fmt : Fmt) : ∀ ts stk, Flag.panic ∉ recFlags fmt stk ts := by
  intro ts
  induction ts with
  | nil => intro stk; simp [recFlags]
  | cons t ts ih =>
    intro stk
    simp only [recFlags]
    cases recStep fmt stk t.body with
    | cont stk' => simp [ih stk']
    | done => simp
    | reject => simp

namespace Cbor
open CborEnc

def belowFrame : Phase → Option Frame
  | .mapDefKey => some .mapVal
  | .mapIndefKey => some .mapVal
  | .arrDef => some .arr
  | .arrIndef => some .arr
  | _ => none

def topFrame : Phase → Phase → Option Frame
  | .mapDefKey, .mapDefKey => some .mapKey
  | .mapDefKey, .mapDefVal => some .mapVal
  | .mapIndefKey, .mapIndefKey => some .mapKey
  | .mapIndefKey, .mapIndefVal => some .mapVal
  | .arrDef, .arrDef => some .arr
  | .arrIndef, .arrIndef => some .arr
  | _, _ => none

def abs (s : St) (stk : List Frame) : Prop := Abs belowFrame topFrame .any s.stack s.current stk

@[simp] theorem below_open (m : Bool) (len : Int) :
    belowFrame (openPhase m len) = some (if m then .mapVal else .arr) := by
  unfold openPhase; cases m <;> split <;> rfl
theorem top_open (m : Bool) (len : Int) :
    topFrame (openPhase m len) (openPhase m len) = some (if m then .mapKey else .arr) := by
  unfold openPhase; cases m <;> split <;> rfl

theorem popRet_sim {p c : Phase} {r : List Phase} {fr : List Frame} (hb : Below belowFrame r fr) (ws : List Bytes)
    (ck : Bool) : Sim abs (popRet ⟨p :: r, c⟩ ws ck) (afterValue fr) := by
  cases hb with
  | nil => cases ck <;> rfl
  | @cons q f r' fr' hq hb' => cases q <;> cases hq <;> cases ck <;> exact ⟨rfl, .frame rfl hb'⟩

theorem sim (s : St) (stk : List Frame) (t : Tok) (h : abs s stk) : Sim abs (step s t) (recStep .cbor stk t.body) := by
  obtain ⟨stack, current⟩ := s
  obtain ⟨body, tag⟩ := t
  change Abs belowFrame topFrame .any stack current stk at h
  cases h with
  | top => cases body <;> first | rfl | exact ⟨rfl, .frame (top_open _ _) .nil⟩
  | @frame p c f r fr htop hb =>
    -- by the frame on top (six pairs of phases stand for one), then by token kind: where the kind is not
    -- taken in that position both sides refuse by computation (`rfl`), else the term given
    cases p <;> cases current <;> cases htop <;> (
      cases body with
      | mapOpen _ | arrOpen _ => first | rfl | exact ⟨rfl, .frame (top_open _ _) (.cons rfl hb)⟩
      | mapClose | arrClose => first | rfl | exact popRet_sim hb _ _
      | str _ | int _ | uint _ => exact ⟨rfl, .frame rfl hb⟩
      | null | bool _ | bytes _ | float _ => first | rfl | exact ⟨rfl, .frame rfl hb⟩)

end Cbor

namespace Json
open JsonEnc

def belowFrame : Phase → Option Frame
  | .mapKey => some .mapVal
  | .arr => some .arr
  | _ => none

def topFrame : Phase → Phase → Option Frame
  | .mapKey, .mapKey => some .mapKey
  | .mapKey, .mapVal => some .mapVal
  | .arr, .arr => some .arr
  | _, _ => none

def abs (s : St) (stk : List Frame) : Prop := Abs belowFrame topFrame .any s.stack s.current stk

theorem pop_sim (c : Cfg) {p cur : Phase} {sm : Bool} {r : List Phase} {fr : List Frame} (hb : Below belowFrame r fr)
    (ws : List Bytes) :
    Sim abs (match pop c ⟨p :: r, cur, sm⟩ with
      | none => ⟨⟨p :: r, cur, sm⟩, ws, .panic⟩
      | some (s', ws', d) => ⟨s', ws ++ ws', .ck d⟩) (afterValue fr) := by
  cases hb with
  | nil => rfl
  | @cons q f r' fr' hq hb' => cases q <;> cases hq <;> exact ⟨rfl, .frame rfl hb'⟩

theorem float_sim (ff : Nat → Bytes) (s : St) (pre : List Bytes) (d : Bool) (bits : Nat) (stk : List Frame)
    (h : Sim abs ⟨s, pre ++ [ff bits], .ck d⟩ (afterValue stk)) :
    Sim abs (valueRet s pre d (flushValue ff (.float bits))) (recValue .json stk (.float bits)) := by
  show Sim abs (valueRet s pre d (if floatNonFinite bits = true then .err else .ok [ff bits]))
    (if (!floatNonFinite bits) = true then afterValue stk else .reject)
  cases floatNonFinite bits
  · exact h
  · rfl

theorem sim (c : Cfg) (ff : Nat → Bytes) (s : St) (stk : List Frame) (t : Tok) (h : abs s stk) :
    Sim abs (step c ff s t) (recStep .json stk t.body) := by
  obtain ⟨stack, current, sm⟩ := s
  obtain ⟨body, tag⟩ := t
  change Abs belowFrame topFrame .any stack current stk at h
  cases h with
  | top =>
    cases body with
    | mapOpen _ | arrOpen _ => exact ⟨rfl, .frame rfl .nil⟩
    | float bits => exact float_sim ff _ _ _ _ _ rfl
    -- `true` and `false` apart, because `flushValue` tells them apart
    | bool b => cases b <;> rfl
    | mapClose | arrClose | null | str _ | bytes _ | int _ | uint _ => rfl
  | @frame p c f r fr htop hb =>
    -- as for CBOR; a float is a value like any other if it is finite, `bytes` is no JSON value
    cases p <;> cases current <;> cases htop <;> (
      cases body with
      | mapOpen _ | arrOpen _ => first | rfl | exact ⟨rfl, .frame rfl (.cons rfl hb)⟩
      | mapClose | arrClose => first | rfl | exact pop_sim c hb _
      | str _ => exact ⟨rfl, .frame rfl hb⟩
      | float bits => first | rfl | exact float_sim ff _ _ _ _ _ ⟨rfl, .frame rfl hb⟩
      | bool b => cases b <;> first | rfl | exact ⟨rfl, .frame rfl hb⟩
      | bytes _ => rfl
      | null | int _ | uint _ => first | rfl | exact ⟨rfl, .frame rfl hb⟩)

end Json

namespace Pretty
open Refmt.Pretty

def belowFrame : Phase → Option Frame
  | .mapKey => some .mapVal
  | .arr => some .arr
  | _ => none

def topFrame : Phase → Phase → Option Frame
  | .mapKey, .mapKey => some .mapKey
  | .mapKey, .mapVal => some .mapVal
  | .arr, .arr => some .arr
  | _, _ => none

def abs (s : St) (stk : List Frame) : Prop := Abs belowFrame topFrame .any s.stack s.current stk

theorem popRet_sim {p c : Phase} {r : List Phase} {fr : List Frame} (hb : Below belowFrame r fr) :
    Sim abs (popRet ⟨p :: r, c⟩) (afterValue fr) := by
  cases hb with
  | nil => rfl
  | @cons q f r' fr' hq hb' => cases q <;> cases hq <;> exact ⟨rfl, .frame rfl hb'⟩

theorem sim (s : St) (stk : List Frame) (t : Tok) (h : abs s stk) : Sim abs (step s t) (recStep .pretty stk t.body) := by
  obtain ⟨stack, current⟩ := s
  obtain ⟨body, tag⟩ := t
  change Abs belowFrame topFrame .any stack current stk at h
  cases h with
  | top => cases body <;> first | rfl | exact ⟨rfl, .frame rfl .nil⟩
  | @frame p c f r fr htop hb =>
    -- as for CBOR
    cases p <;> cases current <;> cases htop <;> (
      cases body with
      | mapOpen _ | arrOpen _ => first | rfl | exact ⟨rfl, .frame rfl (.cons rfl hb)⟩
      | mapClose | arrClose => first | rfl | exact popRet_sim hb
      | str _ | int _ | uint _ => exact ⟨rfl, .frame rfl hb⟩
      | null | bool _ | bytes _ | float _ => first | rfl | exact ⟨rfl, .frame rfl hb⟩)

end Pretty

theorem cbor_accepts_exactly (ts : List Tok) :
    runFlags CborEnc.step CborEnc.init ts = recFlags .cbor [] ts :=
  lift CborEnc.step Cbor.abs .cbor Cbor.sim ts CborEnc.init [] .top

theorem json_accepts_exactly (c : JsonEnc.Cfg) (ff : Nat → Bytes) (ts : List Tok) :
    runFlags (JsonEnc.step c ff) JsonEnc.init ts = recFlags .json [] ts :=
  lift (JsonEnc.step c ff) Json.abs .json (Json.sim c ff) ts JsonEnc.init [] .top

theorem pretty_accepts_exactly (ts : List Tok) :
    runFlags Refmt.Pretty.step Refmt.Pretty.init ts = recFlags .pretty [] ts :=
  lift Refmt.Pretty.step Pretty.abs .pretty Pretty.sim ts Refmt.Pretty.init [] .top

theorem enc_no_panic (c : JsonEnc.Cfg) (ff : Nat → Bytes) (ts : List Tok) :
    Flag.panic ∉ runFlags CborEnc.step CborEnc.init ts ∧
    Flag.panic ∉ runFlags (JsonEnc.step c ff) JsonEnc.init ts ∧
    Flag.panic ∉ runFlags Refmt.Pretty.step Refmt.Pretty.init ts := by
  rw [cbor_accepts_exactly, json_accepts_exactly, pretty_accepts_exactly]
  exact ⟨recFlags_no_panic _ _ _, recFlags_no_panic _ _ _, recFlags_no_panic _ _ _⟩

/-- Reusing an encoder after `Reset` is the same as using a fresh one (C17, codec part). -/
theorem reset_is_init (s1 : CborEnc.St) (s2 : JsonEnc.St) (s3 : Refmt.Pretty.St) :
    CborEnc.reset s1 = CborEnc.init ∧ JsonEnc.reset s2 = JsonEnc.init ∧ Refmt.Pretty.reset s3 = Refmt.Pretty.init :=
  ⟨rfl, rfl, rfl⟩

-- non-vacuity: a concrete nested sequence is accepted with `done` exactly on its last token
example : runFlags CborEnc.step CborEnc.init
    [⟨.mapOpen 1, some 5⟩, ⟨.str [107], none⟩, ⟨.arrOpen (-1), none⟩, ⟨.uint 1, none⟩, ⟨.arrClose, none⟩, ⟨.mapClose, none⟩]
    = [.cont, .cont, .cont, .cont, .cont, .done] := by decide
example : runFlags (JsonEnc.step ⟨none, []⟩ (fun _ => [48])) JsonEnc.init [⟨.mapOpen 1, none⟩, ⟨.int 1, none⟩]
    = [.cont, .err] := by decide

end Refmt.C14
