/-
  C15 — decoding does not depend on how the reader delivers the bytes.
  `Sched` (RefmtModel/Model/SchedReader.lean) models shared/reader.go's readerToScanner + io.ReadAtLeast over an
  io.Reader that splits the data into arbitrary chunks, may return empty reads, and may return the last bytes
  together with EOF.  `Rd` (Model/Reader.lean) is the abstract cursor with one byte of push-back that the
  decoder models read from.  Every reader operation on the scheduled reader gives the result of the same
  operation on the cursor `abs z` and leaves a state that again abstracts to the cursor's new state
  (`readn1_refines`, `readN_refines`, `unread_refines`).  Hence any client program built from these operations
  (unread only directly after a successful one-byte read, the discipline the decoder models follow) computes the same
  result over every legal schedule as over the one-shot cursor (`client_independent`).
-/
import RefmtModel
import RefmtProofs.Lemmas.C15Client
import RefmtProofs.Lemmas.RdOps
namespace Refmt.C15
open Refmt Refmt.Sched

def maxZeroRun : List Nat → Nat → Nat
  | [], cur => cur
  | c :: cs, cur => if c == 0 then max (cur + 1) (maxZeroRun cs (cur + 1)) else max cur (maxZeroRun cs 0)

/-- A legal, progressing schedule: never more than `maxEmpty` empty reads in a row.  `ls` is the push-back state of
    `Sc` (0: nothing read, 1: pushed back, 2: can unread); the third conjunct follows from the second (`legal_of`). -/
def Legal (z : Sc) : Prop := maxZeroRun z.src.chunks 0 ≤ maxEmpty ∧ z.ls ≤ 2 ∧ (z.ls = 0 ∨ z.ls = 1 ∨ z.ls = 2)

def agree1 (a : Except Err Nat × Sc) (b : Except Err (Nat × Rd) × Rd) : Prop :=
  match a.1, b.1 with
  | .ok x, .ok (y, rd2) => x = y ∧ a.2.abs = rd2 ∧ b.2 = rd2
  | .error e, .error e' => e = e' ∧ a.2.abs.data = b.2.data
  | _, _ => False

def agreeN (a : Except Err Bytes × Sc) (b : Except Err Bytes × Rd) : Prop :=
  match a.1, b.1 with
  | .ok x, .ok y => x = y ∧ a.2.abs = b.2
  | .error e, .error e' => e = e' ∧ a.2.abs.data = b.2.data
  | _, _ => False

theorem mzr_zero_cons (cs : List Nat) (cur : Nat) :
    maxZeroRun (0 :: cs) cur = max (cur + 1) (maxZeroRun cs (cur + 1)) := rfl

theorem mzr_ge_cur : ∀ (cs : List Nat) (cur : Nat), cur ≤ maxZeroRun cs cur := by
  intro cs
  induction cs with
  | nil => intro cur; simp [maxZeroRun]
  | cons c cs ih =>
    intro cur
    unfold maxZeroRun
    split <;> omega

theorem mzr_mono : ∀ (cs : List Nat) (a b : Nat), a ≤ b → maxZeroRun cs a ≤ maxZeroRun cs b := by
  intro cs
  induction cs with
  | nil => intro a b h; simpa [maxZeroRun] using h
  | cons c cs ih =>
    intro a b h
    unfold maxZeroRun
    split
    · have := ih (a + 1) (b + 1) (by omega); omega
    · omega

theorem mzr_zero_le (cs : List Nat) (cur : Nat) : maxZeroRun cs 0 ≤ maxZeroRun cs cur :=
  mzr_mono cs 0 cur (Nat.zero_le _)

theorem mzr_tail (c : Nat) (cs : List Nat) : maxZeroRun cs 0 ≤ maxZeroRun (c :: cs) 0 := by
  conv => rhs; unfold maxZeroRun
  split
  · have := mzr_mono cs 0 (0 + 1) (Nat.zero_le _); omega
  · omega

theorem mzr_partial (c d : Nat) (hd : d ≠ 0) (hc : c ≠ 0) (cs : List Nat) :
    maxZeroRun (d :: cs) 0 = maxZeroRun (c :: cs) 0 := by
  unfold maxZeroRun
  simp [hd, hc]

theorem src_read_spec (s : Src) (w : Nat) (hw : 0 < w) :
    (s.data = [] ∧ s.read w = ([], true, s)) ∨
    (s.data ≠ [] ∧ ∃ cs, s.chunks = 0 :: cs ∧ s.read w = ([], false, { s with chunks := cs })) ∨
    (s.data ≠ [] ∧ ∃ n s', 0 < n ∧ n ≤ w ∧ n ≤ s.data.length ∧
        s.read w = (s.data.take n, s.eofWithData && n == s.data.length, s') ∧
        s'.data = s.data.drop n ∧ s'.chunks.length ≤ s.chunks.length ∧
        maxZeroRun s'.chunks 0 ≤ maxZeroRun s.chunks 0) := by
  obtain ⟨data, chunks, e⟩ := s
  cases data with
  | nil => left; simp [Src.read]
  | cons b rest =>
    right
    cases chunks with
    | nil =>
      right
      refine ⟨List.cons_ne_nil _ _, min w (rest.length + 1), ⟨(b :: rest).drop (min w (rest.length + 1)), [], e⟩,
        Nat.lt_min.mpr ⟨hw, Nat.succ_pos _⟩, Nat.min_le_left _ _, Nat.min_le_right _ _, rfl, rfl, Nat.le_refl _,
        Nat.le_refl _⟩
    | cons c cs =>
      by_cases hc : c = 0
      · left
        subst hc
        exact ⟨List.cons_ne_nil _ _, cs, rfl, rfl⟩
      · right
        have hc0 : (c == 0) = false := by simpa using hc
        refine ⟨List.cons_ne_nil _ _, min (min c w) (rest.length + 1), ⟨(b :: rest).drop (min (min c w) (rest.length + 1)), (if min (min c w) (rest.length + 1) < c then (c - min (min c w) (rest.length + 1)) :: cs else cs), e⟩,
          Nat.lt_min.mpr ⟨Nat.lt_min.mpr ⟨Nat.pos_of_ne_zero hc, hw⟩, Nat.succ_pos _⟩,
          Nat.le_trans (Nat.min_le_left _ _) (Nat.min_le_right _ _), Nat.min_le_right _ _, ?_, rfl, ?_, ?_⟩
        · simp only [Src.read, hc0, Bool.false_eq_true, if_false]
          rfl
        · show (if _ then _ else _ : List Nat).length ≤ (c :: cs).length
          split
          · exact Nat.le_refl _
          · exact Nat.le_succ _
        · show maxZeroRun (if _ then _ else _) 0 ≤ _
          split
          · exact Nat.le_of_eq (mzr_partial _ _ (by omega) hc cs)
          · exact mzr_tail c cs

theorem getLastD_irrel {α} (l : List α) (a b : α) (h : l ≠ []) : l.getLastD a = l.getLastD b := by
  cases l with
  | nil => exact absurd rfl h
  | cons x xs => rw [List.getLastD_cons, List.getLastD_cons]

theorem take_ne_nil {α} (l : List α) (k : Nat) (hk : 0 < k) (hl : k ≤ l.length) : l.take k ≠ [] := by
  intro h
  have := congrArg List.length h
  rw [List.length_take, List.length_nil] at this
  omega

theorem abs_of_ne (z : Sc) (h : z.ls ≠ 1) : z.abs = ⟨z.src.data, none, 0⟩ := by
  simp [Sc.abs, h]

theorem abs_eq_nil (z : Sc) (h : z.abs.data = []) : z.abs = ⟨[], none, 0⟩ := by
  have hz : z.ls ≠ 1 := by
    intro hc; simp [Sc.abs, hc] at h
  rw [abs_of_ne z hz] at h ⊢
  exact congrArg (fun d => (⟨d, none, 0⟩ : Rd)) h

/-- What one `Read` of `want = w` bytes does to a scanner `z` that has the data `D` before it: it delivers the
    next `k` bytes and leaves `z'`. -/
structure ScRead (D : Bytes) (z : Sc) (w k : Nat) (eof : Bool) (z' : Sc) : Prop where
  read : z.read w = (D.take k, eof, z')
  le_want : k ≤ w
  le_data : k ≤ D.length
  rest : z'.src.data = D.drop k
  runs_down : maxZeroRun z'.src.chunks 0 ≤ maxZeroRun z.src.chunks 0
  eof_short : eof = true → D.length = k
  /-- a short read without EOF uses up schedule: the measure of `readAtLeast`'s loop -/
  chunks_down : eof = false → k < w → z'.src.chunks.length + (w - k) < z.src.chunks.length + w
  pushed : 0 < k → z'.ls = 2 ∧ z'.l = (D.take k).getLastD 0
  empty : k = 0 → z.ls ≠ 1 ∧ z'.ls = z.ls ∧ z'.l = z.l ∧ (eof = false → z.src.chunks = 0 :: z'.src.chunks)

theorem ScRead.ls_ne {D : Bytes} {z z' : Sc} {w k : Nat} {eof : Bool} (R : ScRead D z w k eof z') : z'.ls ≠ 1 := by
  rcases Nat.eq_zero_or_pos k with hk | hk
  · rw [(R.empty hk).2.1]; exact (R.empty hk).1
  · rw [(R.pushed hk).1]; decide

theorem ScRead.ls_le {D : Bytes} {z z' : Sc} {w k : Nat} {eof : Bool} (R : ScRead D z w k eof z') (h : z.ls ≤ 2) :
    z'.ls ≤ 2 := by
  rcases Nat.eq_zero_or_pos k with hk | hk
  · rw [(R.empty hk).2.1]; exact h
  · rw [(R.pushed hk).1]; exact Nat.le_refl 2

theorem sc_read_plain (z : Sc) (hls : z.ls ≠ 1) (w : Nat) (hw : 0 < w) :
    ∃ k eof z', ScRead z.src.data z w k eof z' := by
  obtain ⟨src, l, ls⟩ := z
  simp only at hls
  rcases src_read_spec src w hw with ⟨hd, hr⟩ | ⟨hd, cs, hc, hr⟩ | ⟨hd, n, s', hn0, hnw, hnl, hr, hsd, hsc, hsm⟩
  · -- no data left: an empty read with EOF, the scanner stays
    exact ⟨0, true, ⟨src, l, ls⟩,
      { read := by simp [Sc.read, hls, hr]
        le_want := Nat.zero_le _
        le_data := Nat.zero_le _
        rest := rfl
        runs_down := Nat.le_refl _
        eof_short := fun _ => by simp [hd]
        chunks_down := fun h => nomatch h
        pushed := fun h => absurd h (Nat.lt_irrefl 0)
        empty := fun _ => ⟨hls, rfl, rfl, (fun h => nomatch h)⟩ }⟩
  · -- an empty chunk of the schedule
    exact ⟨0, false, ⟨{ src with chunks := cs }, l, ls⟩,
      { read := by simp [Sc.read, hls, hr]
        le_want := Nat.zero_le _
        le_data := Nat.zero_le _
        rest := rfl
        runs_down := by show _ ≤ maxZeroRun src.chunks 0; rw [hc]; exact mzr_tail 0 cs
        eof_short := fun h => nomatch h
        chunks_down := fun _ _ => by simp [hc]
        pushed := fun h => absurd h (Nat.lt_irrefl 0)
        empty := fun _ => ⟨hls, rfl, rfl, fun _ => hc⟩ }⟩
  · have hne := take_ne_nil src.data n hn0 hnl
    have hmin : min n src.data.length = n := Nat.min_eq_left hnl
    have hE : (src.eofWithData && n == src.data.length) = true → n = src.data.length := by
      simp
    generalize (src.eofWithData && n == src.data.length) = E at hr hE
    refine ⟨n, (if E && (n == w) then false else E), ⟨s', (src.data.take n).getLastD 0, 2⟩,
      { read := by simp [Sc.read, hls, hr, hne, hmin]
        le_want := hnw
        le_data := hnl
        rest := hsd
        runs_down := hsm
        eof_short := ?_
        chunks_down := ?_
        pushed := fun _ => ⟨rfl, rfl⟩
        empty := fun h => absurd h (Nat.ne_of_gt hn0) }⟩
    · -- EOF is passed on only with a short last read
      intro h
      have hE1 : E = true := by
        split at h
        · cases h
        · exact h
      exact (hE hE1).symm
    · intro _ _
      show s'.chunks.length + _ < src.chunks.length + _
      omega

theorem sc_read_pending (src : Src) (l w : Nat) (hw1 : w ≠ 1) :
    (⟨src, l, 1⟩ : Sc).read w =
      (l :: ((⟨src, l, 2⟩ : Sc).read (w - 1)).1, ((⟨src, l, 2⟩ : Sc).read (w - 1)).2) := by
  simp only [Sc.read]
  rcases src.read (w - 1) with ⟨bs, eof, src'⟩
  cases bs <;> simp [hw1]

theorem sc_read_spec (z : Sc) (w : Nat) (hw : 0 < w) : ∃ k eof z', ScRead z.abs.data z w k eof z' := by
  by_cases hls : z.ls = 1
  · obtain ⟨src, l, ls⟩ := z
    simp only at hls
    subst hls
    show ∃ k eof z', ScRead (l :: src.data) ⟨src, l, 1⟩ w k eof z'
    by_cases hw1 : w = 1
    · -- room for the pushed-back byte only
      subst hw1
      exact ⟨1, false, ⟨src, l, 2⟩,
        { read := by simp [Sc.read]
          le_want := Nat.le_refl 1
          le_data := Nat.succ_le_succ (Nat.zero_le _)
          rest := rfl
          runs_down := Nat.le_refl _
          eof_short := fun h => nomatch h
          chunks_down := fun _ h => absurd h (Nat.lt_irrefl 1)
          pushed := fun _ => ⟨rfl, rfl⟩
          empty := fun h => nomatch h }⟩
    · -- the pushed-back byte `l`, then a plain read of `w - 1` bytes
      obtain ⟨k, eof, z', R⟩ := sc_read_plain ⟨src, l, 2⟩ (show (2 : Nat) ≠ 1 by decide) (w - 1) (by omega)
      refine ⟨k + 1, eof, z',
        { read := by rw [sc_read_pending src l w hw1, R.read]; rfl
          le_want := Nat.add_le_of_le_sub (by omega) R.le_want
          le_data := Nat.succ_le_succ R.le_data
          rest := R.rest
          runs_down := R.runs_down
          eof_short := ?_
          chunks_down := ?_
          pushed := ?_
          empty := fun h => absurd h (Nat.succ_ne_zero k) }⟩
      · intro h
        exact congrArg (· + 1) (R.eof_short h)
      · intro h hk
        have := R.chunks_down h (Nat.lt_sub_of_add_lt hk)
        show z'.src.chunks.length + (w - (k + 1)) < src.chunks.length + w
        rw [Nat.add_comm k 1, ← Nat.sub_sub]
        exact Nat.lt_of_lt_of_le this (Nat.add_le_add_left (Nat.sub_le w 1) _)
      · intro _
        show z'.ls = 2 ∧ z'.l = (l :: src.data.take k).getLastD 0
        rw [List.getLastD_cons]
        rcases Nat.eq_zero_or_pos k with hk | hk
        · subst hk
          exact ⟨(R.empty rfl).2.1, (R.empty rfl).2.2.1⟩
        · exact ⟨(R.pushed hk).1, (R.pushed hk).2.trans (getLastD_irrel _ _ _ (take_ne_nil _ k hk R.le_data))⟩
  · rw [abs_of_ne z hls]
    exact sc_read_plain z hls w hw

theorem readByte_spec : ∀ (fuel : Nat) (z : Sc) (cur : Nat),
    maxZeroRun z.src.chunks cur < fuel + cur →
    ∃ z', z'.ls ≠ 1 ∧ (z.ls ≤ 2 → z'.ls ≤ 2) ∧ maxZeroRun z'.src.chunks 0 ≤ maxZeroRun z.src.chunks cur ∧
      z'.src.data = z.abs.data.drop 1 ∧
      match z.abs.data with
      | [] => z.readByte fuel = (.error .eof, z')
      | b :: _ => z.readByte fuel = (.ok b, z') ∧ z'.ls = 2 ∧ z'.l = b := by
  intro fuel
  induction fuel with
  | zero =>
    intro z cur h
    have := mzr_ge_cur z.src.chunks cur
    omega
  | succ fuel ih =>
    intro z cur h
    obtain ⟨k, eof, z', R⟩ := sc_read_spec z 1 (by omega)
    have hread := R.read
    have hdata := R.rest
    have hls' := R.ls_ne
    by_cases hk0 : k = 0
    · subst hk0
      obtain ⟨-, -, -, hF⟩ := R.empty rfl
      cases eof with
      | true =>
        have hD : z.abs.data = [] := List.eq_nil_of_length_eq_zero (R.eof_short rfl)
        rw [hD] at hread hdata ⊢
        refine ⟨z', hls', R.ls_le, Nat.le_trans R.runs_down (mzr_zero_le _ cur), by simpa using hdata, ?_⟩
        simp [Sc.readByte, hread]
      | false =>
        have hc := hF rfl
        have habs : z'.abs.data = z.abs.data := by rw [abs_of_ne z' hls']; simpa using hdata
        rw [hc, mzr_zero_cons] at h ⊢
        have hm : maxZeroRun z'.src.chunks (cur + 1) < fuel + (cur + 1) :=
          Nat.lt_of_le_of_lt (Nat.le_max_right _ _) (by rw [Nat.add_assoc, Nat.add_comm 1 cur] at h; exact h)
        obtain ⟨z'', h1, h2, h3, h4, h5⟩ := ih z' (cur + 1) hm
        rw [habs] at h4 h5
        have hstep : z.readByte (fuel + 1) = z'.readByte fuel := by simp [Sc.readByte, hread]
        rw [hstep]
        exact ⟨z'', h1, fun hh => h2 (R.ls_le hh), Nat.le_trans h3 (Nat.le_max_right _ _), h4, h5⟩
    · have hk : k = 1 := by have := R.le_want; omega
      subst hk
      have hkD := R.le_data
      obtain ⟨hl2, hl⟩ := R.pushed (by omega)
      cases hD : z.abs.data with
      | nil => rw [hD] at hkD; simp at hkD
      | cons b rest =>
        rw [hD] at hread hdata hl
        refine ⟨z', hls', R.ls_le, Nat.le_trans R.runs_down (mzr_zero_le _ cur), by simpa using hdata, ?_⟩
        simp [Sc.readByte, hread, hl2]
        simpa using hl

theorem readAtLeast_spec : ∀ (fuel : Nat) (z : Sc) (want : Nat) (acc : Bytes),
    0 < want → z.src.chunks.length + want < fuel →
    ∃ z', z'.ls ≠ 1 ∧ (z.ls ≤ 2 → z'.ls ≤ 2) ∧ maxZeroRun z'.src.chunks 0 ≤ maxZeroRun z.src.chunks 0 ∧
      if want ≤ z.abs.data.length then
        z.readAtLeast fuel want acc = (.ok (acc ++ z.abs.data.take want), z') ∧ z'.src.data = z.abs.data.drop want
      else
        z.readAtLeast fuel want acc = (.error (if (acc ++ z.abs.data).isEmpty then .eof else .unexpectedEof), z') ∧
          z'.src.data = [] := by
  intro fuel
  induction fuel with
  | zero => intro z want acc hw hf; omega
  | succ fuel ih =>
    intro z want acc hw hf
    obtain ⟨k, eof, z', R⟩ := sc_read_spec z want hw
    have hread := R.read
    have hkw := R.le_want
    have hkD := R.le_data
    have hdata := R.rest
    have hls' := R.ls_ne
    have hw0 : (want == 0) = false := by simp; omega
    have hlen : (z.abs.data.take k).length = k := by rw [List.length_take]; omega
    by_cases hkw' : want ≤ k
    · have hk : k = want := by omega
      subst hk
      refine ⟨z', hls', R.ls_le, R.runs_down, ?_⟩
      rw [if_pos hkD]
      refine ⟨?_, hdata⟩
      simp only [Sc.readAtLeast, hw0, hread, hlen]
      simp
    · cases eof with
      | true =>
        have hDk := R.eof_short rfl
        refine ⟨z', hls', R.ls_le, R.runs_down, ?_⟩
        rw [if_neg (by omega)]
        have htake : z.abs.data.take k = z.abs.data := by rw [← hDk]; exact List.take_length
        refine ⟨?_, by rw [hdata, ← hDk]; exact List.drop_length⟩
        simp only [Sc.readAtLeast, hw0, hread, hlen]
        simp [hkw', htake]
      | false =>
        have hprog := R.chunks_down rfl (by omega)
        have habs : z'.abs.data = z.abs.data.drop k := by rw [abs_of_ne z' hls']; exact hdata
        obtain ⟨z'', h1, h2, h3, h4⟩ := ih z' (want - k) (acc ++ z.abs.data.take k) (by omega) (by omega)
        refine ⟨z'', h1, fun hh => h2 (R.ls_le hh), Nat.le_trans h3 R.runs_down, ?_⟩
        have hstep : z.readAtLeast (fuel + 1) want acc = z'.readAtLeast fuel (want - k) (acc ++ z.abs.data.take k) := by
          simp only [Sc.readAtLeast, hw0, hread, hlen]
          simp [hkw']
        rw [hstep]
        rw [habs] at h4
        have hk' : k ≤ want := Nat.le_of_not_le hkw'
        have htk : z.abs.data.take k ++ (z.abs.data.drop k).take (want - k) = z.abs.data.take want := by
          conv => rhs; rw [← Nat.add_sub_cancel' hk', List.take_add]
        have hdk : (z.abs.data.drop k).drop (want - k) = z.abs.data.drop want := by
          rw [List.drop_drop, Nat.add_sub_cancel' hk']
        have hlen' : want - k ≤ (z.abs.data.drop k).length ↔ want ≤ z.abs.data.length := by
          rw [List.length_drop]; exact Nat.sub_le_sub_iff_right hkD
        simp only [hlen', List.append_assoc, htk, hdk, List.take_append_drop] at h4
        exact h4

theorem legal_of {z : Sc} (h1 : maxZeroRun z.src.chunks 0 ≤ maxEmpty) (h2 : z.ls ≤ 2) : Legal z :=
  ⟨h1, h2, by omega⟩

theorem abs_fault (z : Sc) : z.abs.fault = none := by
  unfold Sc.abs; split <;> rfl

theorem readn1_strong (z : Sc) (h : Legal z) :
    Legal z.readn1.2 ∧ z.readn1.2.abs = z.abs.read1.2 ∧
      match z.abs.data with
      | [] => z.readn1.1 = .error .eof ∧ z.abs.read1.1 = .error .eof
      | b :: rest => z.readn1.1 = .ok b ∧ z.abs.read1.1 = .ok (b, ⟨rest, none, 0⟩) ∧ z.abs.read1.2 = ⟨rest, none, 0⟩ ∧
          z.readn1.2.ls = 2 ∧ z.readn1.2.l = b := by
  obtain ⟨hm, hl2, _⟩ := h
  obtain ⟨z', h1, h2, h3, h4, h5⟩ := readByte_spec (maxEmpty + 1) z 0 (by omega)
  have hr1 := Rd.read1_nofault z.abs (abs_fault z)
  have habs' := abs_of_ne z' h1
  have hL := legal_of (Nat.le_trans h3 hm) (h2 hl2)
  cases hD : z.abs.data with
  | nil =>
    rw [hD] at h4 h5 hr1
    simp only at h5 hr1
    have hz' : z.readn1 = (.error .eof, z') := h5
    rw [hz']
    refine ⟨hL, ?_, rfl, by simp [hr1]⟩
    rw [hr1, habs', h4, abs_eq_nil z hD]
    rfl
  | cons b rest =>
    rw [hD] at h4 h5 hr1
    simp only at h5 hr1
    obtain ⟨h5, h6, h7⟩ := h5
    have hz' : z.readn1 = (.ok b, z') := h5
    rw [hz']
    refine ⟨hL, ?_, rfl, by simp [hr1], by simp [hr1], h6, h7⟩
    rw [hr1, habs', h4]
    simp

theorem readN_strong (z : Sc) (n : Nat) (h : Legal z) :
    (z.readN n).1 = (z.abs.readN n).1 ∧ (z.readN n).2.abs = (z.abs.readN n).2 ∧ Legal (z.readN n).2 := by
  have hrN := Rd.readN_nofault z.abs n (abs_fault z)
  by_cases hn : n = 0
  · subst hn
    simp [Sc.readN, hrN, h]
  · obtain ⟨hm, hl2, _⟩ := h
    obtain ⟨z', h1, h2, h3, h4⟩ := readAtLeast_spec (n + (z.src.chunks.length + 2)) z n [] (by omega) (by omega)
    have habs' := abs_of_ne z' h1
    rw [if_neg hn] at hrN
    have hzN : z.readN n = z.readAtLeast (n + (z.src.chunks.length + 2)) n [] := by
      simp [Sc.readN, hn]
    have hL := legal_of (Nat.le_trans h3 hm) (h2 hl2)
    by_cases hnl : n ≤ z.abs.data.length
    · rw [if_pos hnl] at h4 hrN
      rw [hzN, h4.1, hrN]
      exact ⟨rfl, by show z'.abs = _; rw [habs', h4.2], hL⟩
    · rw [if_neg hnl] at h4 hrN
      rw [hzN, h4.1, hrN]
      exact ⟨rfl, by show z'.abs = _; rw [habs', h4.2], hL⟩

theorem readn1_refines (z : Sc) (h : Legal z) : agree1 z.readn1 z.abs.read1 ∧ Legal z.readn1.2 := by
  obtain ⟨hL, habs, hm⟩ := readn1_strong z h
  refine ⟨?_, hL⟩
  cases hD : z.abs.data with
  | nil =>
    rw [hD] at hm
    simp only [agree1, hm.1, hm.2, habs]
    simp
  | cons b rest =>
    rw [hD] at hm
    obtain ⟨h1, h2, h3, _, _⟩ := hm
    simp only [agree1, h1, h2]
    exact ⟨trivial, by rw [habs, h3], h3⟩

theorem readN_refines (z : Sc) (n : Nat) (h : Legal z) : agreeN (z.readN n) (z.abs.readN n) ∧ Legal (z.readN n).2 := by
  obtain ⟨h1, h2, h3⟩ := readN_strong z n h
  refine ⟨?_, h3⟩
  unfold agreeN
  rw [h1, h2]
  cases (z.abs.readN n).1 <;> simp

theorem unread_refines (z z' : Sc) (b : Nat) (h : Legal z) (hr : z.readn1 = (.ok b, z')) :
    ∃ z'', z'.unreadByte = some z'' ∧ z''.abs = z'.abs.unread1 b ∧ Legal z'' := by
  obtain ⟨hL, habs, hm⟩ := readn1_strong z h
  rw [hr] at hL hm
  simp only at hL hm
  cases hD : z.abs.data with
  | nil => rw [hD] at hm; simp at hm
  | cons b' rest =>
    rw [hD] at hm
    obtain ⟨h1, _, _, hls, hl⟩ := hm
    have hb : b = b' := by simpa using h1
    subst hb
    obtain ⟨src, l, ls⟩ := z'
    simp only at hls hl
    subst hls hl
    refine ⟨⟨src, l, 1⟩, by simp [Sc.unreadByte], by simp [Sc.abs, Rd.unread1], ?_⟩
    exact ⟨hL.1, by simp, by simp⟩

theorem client_independent {α : Type} (p : Prog α) (z : Sc) (h : Legal z) :
    runSched p z = runCursor p z.abs := by
  induction p generalizing z with
  | ret a => simp [runSched, runCursor]
  | read1 u k ih =>
    obtain ⟨hL, habs, hm⟩ := readn1_strong z h
    cases hD : z.abs.data with
    | nil =>
      rw [hD] at hm
      simp only [runSched, runCursor, hm.1, hm.2]
      rw [ih _ _ hL, habs]
    | cons b rest =>
      rw [hD] at hm
      obtain ⟨h1, h2, h3, hls, hl⟩ := hm
      obtain ⟨z'', hu, hua, huL⟩ := unread_refines z z.readn1.2 b h (Prod.ext h1 rfl)
      simp only [runSched, runCursor, h1, h2, hu]
      rw [habs, h3] at hua
      split
      · rw [ih _ _ huL, hua]
      · rw [ih _ _ hL, habs, h3]
  | readN n k ih =>
    obtain ⟨h1, h2, h3⟩ := readN_strong z n h
    simp only [runSched, runCursor]
    rw [ih _ _ h3, h1, h2]

theorem sched_eq_cursor {α : Type} (p : Prog α) (data : Bytes) (c : List Nat) (e : Bool)
    (hc : maxZeroRun c 0 ≤ maxEmpty) :
    runSched p (Sc.ofSrc ⟨data, c, e⟩) = runCursor p (Rd.ofBytes data) :=
  client_independent p _ ⟨hc, Nat.zero_le 2, Or.inl rfl⟩

/-- Two schedules of the same data give every client the same answer. -/
theorem schedule_independent {α : Type} (p : Prog α) (data : Bytes) (c1 c2 : List Nat) (e1 e2 : Bool)
    (h1 : maxZeroRun c1 0 ≤ maxEmpty) (h2 : maxZeroRun c2 0 ≤ maxEmpty) :
    runSched p (Sc.ofSrc ⟨data, c1, e1⟩) = runSched p (Sc.ofSrc ⟨data, c2, e2⟩) := by
  rw [sched_eq_cursor p data c1 e1 h1, sched_eq_cursor p data c2 e2 h2]

example : (match (Sc.ofSrc ⟨[1, 2, 3], [0, 1, 0, 0, 2], true⟩).readn1.1 with | .ok b => b == 1 | .error _ => false) = true := by
  decide

end Refmt.C15
