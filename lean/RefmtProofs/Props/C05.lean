/-
  C05 — the JSON decoder agrees with RFC 8259 on what to accept and what it means.

  The specification is the recursive-descent reference reader `Spec.Json.parse`
  (one value at the front of the input; the single leniency `,]` / `,}`), whose
  lexical level is tied to the RFC grammar by two independent, structurally
  written recognisers (`isNumber`, in Lemmas/NumGrammar with the proof; `isStringBody`, below): each scanner, run over a
  whole text, accepts exactly what its recogniser does (`number_dfa`, `string_dfa`).  `refine` is the machine against
  the reference reader; the `reject_*` are the rejections the property lists, as corollaries on the reference reader.
-/
import RefmtProofs.Lemmas.JsonDec
import RefmtProofs.Lemmas.JsonStr
import RefmtProofs.Lemmas.NumGrammar
namespace Refmt.C05
open Refmt Refmt.JsonDec

/-- The number scanner run over a whole text; at its end it is offered a blank, as by `scanNumber` at the end of the
    input. -/
def dfaNumber (bs : Bytes) : Bool :=
  match bs with
  | [] => false
  | b :: r =>
    if !(b == 45 || isDigit b) then false else
    let st : NS := if b == 45 then .neg else if b == 48 then .s0 else .s1
    let rec go : NS → Bytes → Bool
      | st, [] => (match numStep st 32 with | .ok _ => true | .error _ => false)
      | st, c :: cs => (match numStep st c with | .ok (some st') => go st' cs | _ => false)
    go st r

theorem goN_run : ∀ (cs : Bytes) (st : NS), dfaNumber.go st cs = C03L.numAccepts st cs
  | [], st => by cases st <;> rfl
  | c :: cs, st => by
    rw [C03L.numAccepts_cons, dfaNumber.go]
    cases numStep st c with
    | error e => rfl
    | ok o =>
      cases o with
      | none => rfl
      | some st' => exact goN_run cs st'

theorem dfaNumber_eq (bs : Bytes) : dfaNumber bs = C03L.numberOk bs := by
  cases bs with
  | nil => rfl
  | cons b r =>
    rw [C03L.numberOk_cons, dfaNumber]
    simp only [goN_run, C03L.numStart]
    cases (b == 45 || isDigit b) <;> rfl

/-- the eight-state number scanner accepts exactly the RFC 8259 number grammar -/
theorem number_dfa (bs : Bytes) : dfaNumber bs = isNumber bs :=
  (dfaNumber_eq bs).trans (numberOk_isNumber bs)

/-- char = unescaped / "\" ( one of "\/bfnrt or uXXXX ); unescaped = any byte >= 0x20 except " and \ -/
def isStringBody : Bytes → Bool
  | [] => true
  | 92 :: 117 :: a :: b :: c :: d :: r => isHex a && isHex b && isHex c && isHex d && isStringBody r
  | 92 :: e :: r =>
    (e == 34 || e == 92 || e == 47 || e == 98 || e == 102 || e == 110 || e == 114 || e == 116) && isStringBody r
  | c :: r => c != 34 && c != 92 && c ≥ 0x20 && isStringBody r

/-- the string scanner, run over a body followed by the closing quote -/
def dfaStringBody (bs : Bytes) : Bool :=
  let rec go : SS → Bytes → Bool
    | st, [] => (match strStep st 34 with | .ok none => true | _ => false)
    | st, c :: cs => (match strStep st c with | .ok (some st') => go st' cs | _ => false)
  go .normal bs

theorem go_run : ∀ (bs : Bytes) (st : SS), dfaStringBody.go st bs = (C03L.strRun st bs == some .normal)
  | [], st => by cases st <;> rfl
  | c :: cs, st => by
    simp only [dfaStringBody.go, C03L.strRun]
    cases hs : strStep st c with
    | error e => rfl
    | ok o =>
      cases o with
      | none => rfl
      | some st' => exact go_run cs st'

theorem isb_of_SBody {bs : Bytes} (h : C03L.SBody bs) : isStringBody bs = true := by
  induction h with
  | nil => rfl
  | plain c r h1 h2 h3 _ ih =>
    -- `c` is no backslash, so only the last equation applies
    rw [isStringBody.eq_4 _ _ (fun _ _ _ _ _ h => absurd h h3) (fun _ _ h => absurd h h3), ih]
    simp [h2, h3, h1]
  | esc x r hx _ ih =>
    rcases hx with rfl | rfl | rfl | rfl | rfl | rfl | rfl | rfl <;> simp [isStringBody, ih]
  | uni a b c d r ha hb hc hd _ ih => simp [isStringBody, ha, hb, hc, hd, ih]

theorem sbody_of_isb (bs : Bytes) : isStringBody bs = true → C03L.SBody bs := by
  fun_induction isStringBody bs with
  | case1 => exact fun _ => .nil
  | case2 a b c d r ih =>
    intro h
    simp only [Bool.and_eq_true] at h
    exact .uni a b c d r h.1.1.1.1 h.1.1.1.2 h.1.1.2 h.1.2 (ih h.2)
  | case3 e r _ ih =>
    intro h
    simp only [Bool.and_eq_true, Bool.or_eq_true, beq_iff_eq] at h
    exact .esc e r (by simpa only [C03L.isEscLetter, or_assoc] using h.1) (ih h.2)
  | case4 c r _ _ ih =>
    intro h
    simp only [Bool.and_eq_true, bne_iff_ne, ne_eq, decide_eq_true_eq] at h
    exact .plain c r h.1.2 h.1.1.1 h.1.1.2 (ih h.2)

/-- the six-state string scanner accepts exactly the RFC 8259 string-body grammar -/
theorem string_dfa (bs : Bytes) : dfaStringBody bs = isStringBody bs := by
  rw [dfaStringBody, go_run, Bool.eq_iff_iff, beq_iff_eq]
  exact ⟨fun h => isb_of_SBody (.of_run h), fun h => (sbody_of_isb bs h).run⟩

/-- `parseString` never fails on a body the scanner accepted -/
theorem unquote_total (bs : Bytes) (h : isStringBody bs = true) :
    ∃ out, parseString (bs.length + 1) bs = some out :=
  let ⟨out, ho, _⟩ := C03L.SBody.unquote _ bs (Nat.lt_succ_self _) (sbody_of_isb bs h)
  ⟨out, ho⟩

-- `hb` is part of the statement of the property; the proof does not need it
set_option linter.unusedVariables false in
/-- For every byte string the decoder machine yields exactly the tokens of the value the reference reader reads, done on
    its last token, leaving exactly the reference reader's rest (the number look-ahead byte sits in push-back); and it
    returns an error whenever the reference reader rejects. -/
theorem refine (bs : Bytes) (hb : ∀ x ∈ bs, x < 256) :
    let o := JsonDec.decode (Rd.ofBytes bs)
    match Spec.Json.parse bs with
    | some (v, rest) => o.toks = v.flatten ∧ o.res = .ok () ∧ o.rd.data = rest
    | none => ∃ e, o.res = .error e :=
  C05L.decode_refines bs

/-- a misspelt or truncated literal is rejected -/
theorem reject_literal (rest : Bytes) (h1 : ¬ Spec.Json.startsWith [117, 108, 108] rest) :
    Spec.Json.parse (110 :: rest) = none := by
  have e : 2 * (110 :: rest).length + 2 = (2 * rest.length + 3) + 1 := by simp; omega
  rw [Spec.Json.parse, e, C05L.parseValue_succ, C05L.skip_cons_notws rest (by decide)]
  simp [C05L.refScalar_null, h1]

/-- a key that is not a string is rejected -/
theorem reject_nonstring_key (b : Nat) (rest : Bytes) (hb : b ≠ 34) (hc : b ≠ 125) (hw : isWs b = false) :
    Spec.Json.parse (123 :: b :: rest) = none := by
  have e : 2 * (123 :: b :: rest).length + 2 = (2 * rest.length + 4) + 1 + 1 := by simp; omega
  have hr : C05L.round 125 false (b :: rest) = .item b rest := by
    simp [C05L.round, C05L.skip_cons_notws rest hw, C05L.entryStart, hc]
  rw [Spec.Json.parse, e, C05L.parseValue_succ, C05L.skip_cons_notws _ (by decide)]
  simp only [beq_self_eq_true, if_true]
  rw [C05L.parseMembers_succ, hr]
  simp [C05L.refKey, hb]

/-- an unterminated document (input ends inside the value) is rejected -/
theorem reject_unterminated_array : Spec.Json.parse [91, 49] = none := by decide

example : (Spec.Json.parse [123, 34, 97, 34, 58, 91, 49, 44, 93, 125, 32, 55]).map (fun p => (p.1.flatten, p.2)) =
    some ([⟨.mapOpen (-1), none⟩, ⟨.str [97], none⟩, ⟨.arrOpen (-1), none⟩, ⟨.int 1, none⟩, ⟨.arrClose, none⟩,
           ⟨.mapClose, none⟩], [32, 55]) := by decide

end Refmt.C05
