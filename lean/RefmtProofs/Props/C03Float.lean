/-
  C03, the float clause: `C03.FloatTextOk` holds (`FloatL.floatTextOk`, and again as `C03Float.floatTextOk`).  For every
  finite binary64 bit pattern the text `FloatText.jsonFloat` writes is a complete RFC 8259 number for the scanner
  (`numberOk`) and `numTok` types it without a range error (`FloatL.jsonFloat_ok`; the bound `x < 2^64` in
  `FloatTextOk` is not used).  With it `C03.enc_valid_statement` and `C03.roundtrip_statement` hold without a
  hypothesis about floats.
-/
import RefmtProofs.Props.C03
import RefmtProofs.Lemmas.FloatJson
namespace Refmt.FloatL

theorem floatTextOk : Refmt.C03.FloatTextOk :=
  fun x _ hfin => floatOk_finite x hfin

theorem floatText_syntax (x : Nat) (hfin : Refmt.floatNonFinite x = false) :
    Refmt.C03L.numberOk (Refmt.FloatText.jsonFloat x) = true := (jsonFloat_ok x hfin).1

theorem floatText_numTok (x : Nat) (hfin : Refmt.floatNonFinite x = false) :
    ∃ b, Refmt.JsonDec.numTok (Refmt.FloatText.jsonFloat x) = .ok b := (jsonFloat_ok x hfin).2

end Refmt.FloatL

namespace Refmt.C03Float
open Refmt

theorem floatTextOk : C03.FloatTextOk := FloatL.floatTextOk

theorem enc_valid : C03.enc_valid_statement := C03.enc_valid_of_floatTextOk floatTextOk

theorem roundtrip : C03.roundtrip_statement := C03.roundtrip_of_floatTextOk floatTextOk

end Refmt.C03Float
