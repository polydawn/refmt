/-
  C12, claim (ii) — the re-marshalled document still decodes, into the value's own type, to the value.

  The chain in refmt is   v ─M→ b1 ─U(untyped)→ u1 ─M→ b2   and C12 claims
    (i)  b2 is a byte-exact fixpoint of (Unmarshal-into-untyped, Marshal)        [RefmtProofs/Props/C12.lean];
    (ii) b2 still decodes INTO v's OWN TYPE to a value equal to v (in the round-trip sense `normV`)   [this file].

  Token level.  Let t1 = Marshal(v) at type `id`, u1 = what an untyped slot (`interface{}`) reads from t1, and
  t2 = Marshal(u1).  t2 differs from t1: every map-shaped item (Go maps, structs, keyed unions) has its entries in the
  atlas' default key order (a struct's fields come out sorted by NAME, not in the atlas' field order), and non-negative
  integers below 2^63 written from unsigned Go types are spelled `int` instead of `uint`.  Declared lengths are unchanged.

  `remarshal_typed_leg_tokens`: for every type of the class `fullTy` (Lemmas/FullDefs.lean: structs with struct-map
        entries, keyed unions, transforms, untyped slots, slices / arrays / string-keyed maps / pointers of these), over
        an atlas WITHOUT TAGGED ENTRIES (`NoTags`), and every value satisfying the side conditions of
        `C13Full.clone_equal_full`: for every sufficiently large fuel the untyped pass succeeds and consumes t1 exactly,
        the re-marshal succeeds, and t2 read into a zero value of type `id` is accepted, consumed exactly, and yields a
        value equal, up to the order of map entries (`ValEqv''`), to the specified round-trip value `normV .pretty … id v`.
        In fact the value read from t2 is EXACTLY the one read from t1 (`remarshal_typed_same_as_first_pass`: both are `rtF`).
  `remarshal_typed_leg_tokens_hyp`: given that the untyped pass returned u1 and the re-marshal t2.
  `remarshal_typed_leg_cbor` / `remarshal_typed_leg_json`: on bytes, through the codec transport theorems of C01 (JSON
        only where the first rendering reads alike after a JSON round trip, `jsonSame`, and the type is `C01.typedTy`).

  Tags.  With a tagged entry the untyped pass does not produce a native untyped value but reconstructs the registered
  type (`unmWild`'s `getByTag` branch), and only if the tag leads back to the same entry.  The induction
  (`Refmt.Obj.legt_all`, Lemmas/TagLeg.lean) is carried out with tags allowed, under two hypotheses on the tagged entries
  (`TagsOk`, `TagStab`: Lemmas/TagDefs.lean); `typed_leg_tokens` is the statement with them, from which `hyp_of_tokens`
  and `cbor_of_tokens` derive the hypothesis form and the CBOR form (Props/C12Tagged.lean uses the three as well).  The
  `remarshal_typed_leg_*` theorems of this file are the case `NoTags a`, where both hypotheses hold vacuously.
  `tagged_statement` is the statement with `TagsOk` alone; it is false (C12Tagged.lean), and `TagsOk` cannot be dropped
  either (`dup_tag_untyped_pass_fails`).
  Fuel: the three runs (untyped pass, re-marshal, typed read) each need their own fuel, and the sorted order moves
  entries to other positions in the per-entry fuel countdown; the theorems are therefore stated for every fuel from some
  bound `N` on (fuel is a model artefact).

  Findings: none against refmt.  Re-ordering entries never changes what the typed unmarshaller returns on this domain:
  struct fields are found by name (field names are pairwise distinct in `fullTy`), duplicate detection in maps is
  order-independent, and for Go maps the order does not change at all (t1 is already sorted by the same order).
  Non-vacuity: `lgTs` / `lgA` / `lgV` (a struct with fields declared B, A holding a map with keys z, y), before
  `tagged_statement` and the atlas with a duplicate tag.
-/
import RefmtProofs.Lemmas.TagLeg
import RefmtProofs.Props.C13Full
import RefmtProofs.Props.C01
namespace Refmt.C12Typed
open Refmt Refmt.Obj Refmt.C13 Refmt.C11 Refmt.C12

theorem typed_leg_tokens (ts : Types) (a : Atlas) (trs : Trs) (it : IfaceTys) (fuel0 g id : Nat) (v : Val) (t1 : List Tok)
    (hp : fullTy ts a 64 id = true) (hv : hasTy ts 1000 id v = true) (hside : fullVal ts a trs it g id v = true)
    (he : UEnv ts a it) (hz : ZeroStable ts) (htr : TrsEqv trs) (hto : TagsOk a) (hts : TagStab ts a trs)
    (hm : marshalV ts a trs fuel0 id v = ⟨t1, none⟩) (h0 : fuel0 ≤ 1000) (hg : fuel0 ≤ g) :
    ∃ N, ∀ fuel, N ≤ fuel → ∃ u1 t2 r,
      unmV ts a trs it fuel it.iface (.iface none) t1 = .ok u1 [] t1.length ∧
      marshalV ts a trs fuel it.iface u1 = ⟨t2, none⟩ ∧
      unmV ts a trs it fuel id (zeroVal ts 64 id) t2 = .ok r [] t2.length ∧
      r = rtF ts a trs it g id v ∧
      ValEqv'' r (normV .pretty ts a trs it g id v) := by
  obtain ⟨u, tk2, ⟨-, ⟨f1, h1⟩, ⟨f2, h2⟩⟩, f3, h3⟩ :=
    (legt_all he hz htr hto hts fuel0 h0).v (Nat.le_refl _) hp trivial hg 1000 v t1 hv hside (MRun.of_out (job := .v id v) hm)
  -- each of the three runs stays the same run on more fuel
  exact ⟨f1 + f2 + f3, fun fuel hF => ⟨u, tk2, rtF ts a trs it g id v, zeroVal_iface he ▸ h1.unmV_eq (by omega),
    (h2.mono (by omega)).out, h3.unmV_eq (by omega), rfl, (rtSpec_cbor.eqv_norm htr he g).1 64 id v (Nat.le_refl _) hp hside⟩⟩

/-- Claim (ii) at token level.  `g` is the fuel at which the specification `normV` (and the side conditions
    `fullVal`) are evaluated; `fuel0` a fuel at which the marshaller succeeds on `v`.  `fuel0 ≤ 1000`: the specification
    lets a pointer come back nil by `isNullSer`, which looks at the marshaller's run on fuel 1000; the run at hand has
    to be that run.  `hasTy ts 1000`: the depth of `C13Full.clone_equal_full`; the proof takes any. -/
theorem remarshal_typed_leg_tokens (ts : Types) (a : Atlas) (trs : Trs) (it : IfaceTys) (fuel0 g id : Nat) (v : Val) (t1 : List Tok)
    (hp : fullTy ts a 64 id = true) (hv : hasTy ts 1000 id v = true) (hside : fullVal ts a trs it g id v = true)
    (he : UEnv ts a it) (hz : ZeroStable ts) (htr : TrsEqv trs) (hnt : NoTags a)
    (hm : marshalV ts a trs fuel0 id v = ⟨t1, none⟩) (h0 : fuel0 ≤ 1000) (hg : fuel0 ≤ g) :
    ∃ N, ∀ fuel, N ≤ fuel → ∃ u1 t2 r,
      unmV ts a trs it fuel it.iface (.iface none) t1 = .ok u1 [] t1.length ∧
      marshalV ts a trs fuel it.iface u1 = ⟨t2, none⟩ ∧
      unmV ts a trs it fuel id (zeroVal ts 64 id) t2 = .ok r [] t2.length ∧
      r = rtF ts a trs it g id v ∧
      ValEqv'' r (normV .pretty ts a trs it g id v) :=
  typed_leg_tokens ts a trs it fuel0 g id v t1 hp hv hside he hz htr hnt.tagsOk (hnt.tagStab ts trs) hm h0 hg

theorem hyp_of_tokens {ts : Types} {a : Atlas} {trs : Trs} {it : IfaceTys} {g id : Nat} {v : Val} {t1 : List Tok}
    (h : ∃ N, ∀ fuel, N ≤ fuel → ∃ u1 t2 r,
      unmV ts a trs it fuel it.iface (.iface none) t1 = .ok u1 [] t1.length ∧
      marshalV ts a trs fuel it.iface u1 = ⟨t2, none⟩ ∧
      unmV ts a trs it fuel id (zeroVal ts 64 id) t2 = .ok r [] t2.length ∧
      r = rtF ts a trs it g id v ∧
      ValEqv'' r (normV .pretty ts a trs it g id v)) :
    ∃ N, ∀ fuel, N ≤ fuel → ∀ (u1 : Val) (k : Nat) (t2 : List Tok),
      unmV ts a trs it fuel it.iface (.iface none) t1 = .ok u1 [] k →
      marshalV ts a trs fuel it.iface u1 = ⟨t2, none⟩ →
      ∃ r, unmV ts a trs it fuel id (zeroVal ts 64 id) t2 = .ok r [] t2.length ∧
        ValEqv'' r (normV .pretty ts a trs it g id v) := by
  obtain ⟨N, hN⟩ := h
  refine ⟨N, fun fuel hF u1 k t2 h1 h2 => ?_⟩
  obtain ⟨u1', t2', r, e1, e2, e3, -, e4⟩ := hN fuel hF
  rw [e1] at h1
  cases h1
  rw [e2] at h2
  cases h2
  exact ⟨r, e3, e4⟩

theorem remarshal_typed_leg_tokens_hyp (ts : Types) (a : Atlas) (trs : Trs) (it : IfaceTys) (fuel0 g id : Nat) (v : Val) (t1 : List Tok)
    (hp : fullTy ts a 64 id = true) (hv : hasTy ts 1000 id v = true) (hside : fullVal ts a trs it g id v = true)
    (he : UEnv ts a it) (hz : ZeroStable ts) (htr : TrsEqv trs) (hnt : NoTags a)
    (hm : marshalV ts a trs fuel0 id v = ⟨t1, none⟩) (h0 : fuel0 ≤ 1000) (hg : fuel0 ≤ g) :
    ∃ N, ∀ fuel, N ≤ fuel → ∀ (u1 : Val) (k : Nat) (t2 : List Tok),
      unmV ts a trs it fuel it.iface (.iface none) t1 = .ok u1 [] k →
      marshalV ts a trs fuel it.iface u1 = ⟨t2, none⟩ →
      ∃ r, unmV ts a trs it fuel id (zeroVal ts 64 id) t2 = .ok r [] t2.length ∧
        ValEqv'' r (normV .pretty ts a trs it g id v) :=
  hyp_of_tokens (remarshal_typed_leg_tokens ts a trs it fuel0 g id v t1 hp hv hside he hz htr hnt hm h0 hg)

theorem remarshal_typed_same_as_first_pass (ts : Types) (a : Atlas) (trs : Trs) (it : IfaceTys) (fuel0 id : Nat) (v : Val) (t1 : List Tok)
    (hp : fullTy ts a 64 id = true) (hv : hasTy ts 1000 id v = true)
    (he : UEnv ts a it) (hz : ZeroStable ts) (htr : TrsEqv trs) (hnt : NoTags a)
    (hm : marshalV ts a trs fuel0 id v = ⟨t1, none⟩) (h0 : fuel0 ≤ 1000)
    (hside : ∀ g, fullVal ts a trs it g id v = true) :
    ∃ N, ∀ fuel, N ≤ fuel → ∃ u1 t2 r,
      unmV ts a trs it fuel it.iface (.iface none) t1 = .ok u1 [] t1.length ∧
      marshalV ts a trs fuel it.iface u1 = ⟨t2, none⟩ ∧
      unmV ts a trs it fuel id (zeroVal ts 64 id) t2 = .ok r [] t2.length ∧
      unmV ts a trs it fuel id (zeroVal ts 64 id) t1 = .ok r [] t1.length := by
  obtain ⟨N, hN⟩ := remarshal_typed_leg_tokens ts a trs it fuel0 fuel0 id v t1 hp hv (hside _) he hz htr hnt hm h0 (Nat.le_refl _)
  refine ⟨max N (fuel0 + 1), fun fuel hF => ?_⟩
  obtain ⟨u1, t2, r, e1, e2, e3, e4, -⟩ := hN fuel (by omega)
  refine ⟨u1, t2, r, e1, e2, e3, ?_⟩
  rw [e4]
  exact (rt_cbor he hz htr h0 (Nat.le_refl _) hp hv (Nat.le_refl _) (hside _) (MRun.of_out (job := .v id v) hm)).unmV_eq (by omega)


/-- refmt.Unmarshal for CBOR in the model: decode one item, hand its tokens to the unmarshaller (the text of
    `C12.unmarshalCbor`, Props/C12.lean, which this module does not import; `viaDecJson` likewise of `C12.unmarshalJson`) -/
def viaDecCbor (ts : Types) (a : Atlas) (trs : Trs) (it : IfaceTys) (fuel id : Nat) (bs : Bytes) : Option Val :=
  let o := CborDec.decode false (Rd.ofBytes bs)
  if o.res.isOk then
    (match unmV ts a trs it fuel id (zeroVal ts 64 id) o.toks with
     | .ok r [] _ => some r
     | _ => none)
  else none

def viaDecJson (ts : Types) (a : Atlas) (trs : Trs) (it : IfaceTys) (fuel id : Nat) (bs : Bytes) : Option Val :=
  let o := JsonDec.decode (Rd.ofBytes bs)
  if o.res.isOk then
    (match unmV ts a trs it fuel id (zeroVal ts 64 id) o.toks with
     | .ok r [] _ => some r
     | _ => none)
  else none

theorem viaDecCbor_of_decoded {ts : Types} {a : Atlas} {trs : Trs} {it : IfaceTys} {fuel id n : Nat} {b : Bytes} {toks : List Tok}
    {r : Val} (ht : (CborDec.decode false (Rd.ofBytes b)).toks = toks) (hr : (CborDec.decode false (Rd.ofBytes b)).res = .ok ())
    (hu : unmV ts a trs it fuel id (zeroVal ts 64 id) toks = .ok r [] n) : viaDecCbor ts a trs it fuel id b = some r := by
  unfold viaDecCbor
  simp only [ht, hr, hu, Except.isOk, Except.toBool, if_true]

theorem viaDecJson_of_decoded {ts : Types} {a : Atlas} {trs : Trs} {it : IfaceTys} {fuel id n : Nat} {b : Bytes} {toks : List Tok}
    {r : Val} (ht : (JsonDec.decode (Rd.ofBytes b)).toks = toks) (hr : (JsonDec.decode (Rd.ofBytes b)).res = .ok ())
    (hu : unmV ts a trs it fuel id (zeroVal ts 64 id) toks = .ok r [] n) : viaDecJson ts a trs it fuel id b = some r := by
  unfold viaDecJson
  simp only [ht, hr, hu, Except.isOk, Except.toBool, if_true]

theorem viaDecCbor_of_tokens {ts : Types} {a : Atlas} {trs : Trs} {it : IfaceTys} {fuel0 id0 : Nat} {v : Val} {toks : List Tok}
    (hm : marshalV ts a trs fuel0 id0 v = ⟨toks, none⟩) (hc : toks.all C01.carryCbor = true) {fuel id n : Nat} {r : Val}
    (hu : unmV ts a trs it fuel id (zeroVal ts 64 id) toks = .ok r [] n) :
    ∃ b, C01.encodeCbor toks = some b ∧ viaDecCbor ts a trs it fuel id b = some r := by
  obtain ⟨b, hb, hr, hcodec⟩ := C01.unm_via_cbor ts a trs fuel0 id0 v toks hm hc
  exact ⟨b, hb, viaDecCbor_of_decoded rfl hr (by rw [hcodec, hu]; rfl)⟩

theorem cbor_of_tokens {ts : Types} {a : Atlas} {trs : Trs} {it : IfaceTys} {fuel0 g id : Nat} {v : Val} {t1 : List Tok}
    (he : UEnv ts a it) (hm : marshalV ts a trs fuel0 id v = ⟨t1, none⟩) (hc1 : t1.all C01.carryCbor = true)
    (h : ∃ N, ∀ fuel, N ≤ fuel → ∃ u1 t2 r,
      unmV ts a trs it fuel it.iface (.iface none) t1 = .ok u1 [] t1.length ∧
      marshalV ts a trs fuel it.iface u1 = ⟨t2, none⟩ ∧
      unmV ts a trs it fuel id (zeroVal ts 64 id) t2 = .ok r [] t2.length ∧
      r = rtF ts a trs it g id v ∧
      ValEqv'' r (normV .pretty ts a trs it g id v)) :
    ∃ N, ∀ fuel, N ≤ fuel → ∃ b1 u1 t2,
      C01.encodeCbor t1 = some b1 ∧
      viaDecCbor ts a trs it fuel it.iface b1 = some u1 ∧
      marshalV ts a trs fuel it.iface u1 = ⟨t2, none⟩ ∧
      (t2.all C01.carryCbor = true → ∃ b2 r,
        C01.encodeCbor t2 = some b2 ∧ viaDecCbor ts a trs it fuel id b2 = some r ∧
        ValEqv'' r (normV .pretty ts a trs it g id v)) := by
  obtain ⟨N, hN⟩ := h
  refine ⟨N, fun fuel hF => ?_⟩
  obtain ⟨u1, t2, r, e1, e2, e3, -, e4⟩ := hN fuel hF
  obtain ⟨b1, hb1, hd1⟩ := viaDecCbor_of_tokens hm hc1 (zeroVal_iface he ▸ e1)
  refine ⟨b1, u1, t2, hb1, hd1, e2, fun hc2 => ?_⟩
  obtain ⟨b2, hb2, hd2⟩ := viaDecCbor_of_tokens e2 hc2 e3
  exact ⟨b2, r, hb2, hd2, e4⟩

/-- Claim (ii) for CBOR: b1 = CBOR(Marshal v) decodes into an untyped variable to `u1`; Marshal(u1) = t2; and (provided
    t2 is within what the CBOR codec theorems cover, `carryCbor`: numbers in the 64-bit kinds, items within the decoder's
    per-item cap) b2 = CBOR(t2) decodes into `v`'s own type to the specified value. -/
theorem remarshal_typed_leg_cbor (ts : Types) (a : Atlas) (trs : Trs) (it : IfaceTys) (fuel0 g id : Nat) (v : Val) (t1 : List Tok)
    (hp : fullTy ts a 64 id = true) (hv : hasTy ts 1000 id v = true) (hside : fullVal ts a trs it g id v = true)
    (he : UEnv ts a it) (hz : ZeroStable ts) (htr : TrsEqv trs) (hnt : NoTags a)
    (hm : marshalV ts a trs fuel0 id v = ⟨t1, none⟩) (h0 : fuel0 ≤ 1000) (hg : fuel0 ≤ g)
    (hc1 : t1.all C01.carryCbor = true) :
    ∃ N, ∀ fuel, N ≤ fuel → ∃ b1 u1 t2,
      C01.encodeCbor t1 = some b1 ∧
      viaDecCbor ts a trs it fuel it.iface b1 = some u1 ∧
      marshalV ts a trs fuel it.iface u1 = ⟨t2, none⟩ ∧
      (t2.all C01.carryCbor = true → ∃ b2 r,
        C01.encodeCbor t2 = some b2 ∧ viaDecCbor ts a trs it fuel id b2 = some r ∧
        ValEqv'' r (normV .pretty ts a trs it g id v)) :=
  cbor_of_tokens he hm hc1 (remarshal_typed_leg_tokens ts a trs it fuel0 g id v t1 hp hv hside he hz htr hnt hm h0 hg)

/-- tokens an untyped slot reads alike before and after a JSON round trip: valid UTF-8 strings, no floats (a float's
    text may come back as an integer, which an untyped slot stores as an `int`: that case belongs to `normV .json`) -/
def jsonSame (t : Tok) : Bool :=
  t.tag.isNone &&
  (match t.body with
   | .float _ => false
   | .bytes _ => false
   | .str s => toValidUtf8 s == s
   | _ => true)

theorem compat_retype (t : Tok) (h : jsonSame t = true) : C01L.Respell True t (Spec.Json.retypeTok t) ∧ t.tag = none := by
  obtain ⟨b, tg⟩ := t
  simp only [jsonSame, Bool.and_eq_true, Option.isNone_iff_eq_none] at h
  obtain ⟨rfl, hb⟩ := h
  refine ⟨?_, rfl⟩
  cases b with
  | float _ | bytes _ => simp at hb
  | null | arrClose | mapClose | bool _ | int _ => exact .same _
  | arrOpen l => exact .arr l (-1) none trivial
  | mapOpen l => exact .map l (-1) none trivial
  | str s =>
    simp only [beq_iff_eq] at hb
    rw [C01L.rt_str hb]
    exact .same _
  | uint n =>
    by_cases hn : n < two63
    · simp only [Spec.Json.retypeTok, hn, if_true]
      exact .uint none hn
    · simp only [Spec.Json.retypeTok, hn, if_false]
      exact .same _

/-- Claim (ii) for JSON, restricted: types without untyped slots, unions and transforms (`C01.typedTy`), atlas without
    ignored fields, a first rendering free of floats, byte strings and invalid UTF-8 (`jsonSame`), and — as antecedent —
    a re-marshalled rendering `t2` within what the JSON codec theorems cover (`carryJson`, `plainJson`). -/
theorem remarshal_typed_leg_json (c : JsonEnc.Cfg) (ts : Types) (a : Atlas) (trs : Trs) (it : IfaceTys) (fuel0 g id : Nat) (v : Val)
    (t1 : List Tok)
    (hp : fullTy ts a 64 id = true) (hv : hasTy ts 1000 id v = true) (hside : fullVal ts a trs it g id v = true)
    (he : UEnv ts a it) (hz : ZeroStable ts) (htr : TrsEqv trs) (hnt : NoTags a)
    (hm : marshalV ts a trs fuel0 id v = ⟨t1, none⟩) (h0 : fuel0 ≤ 1000) (hg : fuel0 ≤ g)
    (hcfg : C03.cfgOk c = true) (hni : C01L.noIgnore a = true) (hty : C01.typedTy ts a 64 id = true)
    (hc1 : t1.all C01.carryJson = true) (hs1 : t1.all jsonSame = true) :
    ∃ N, ∀ fuel, N ≤ fuel → ∃ b1 u1 t2,
      C01.encodeJson c t1 = some b1 ∧
      viaDecJson ts a trs it fuel it.iface b1 = some u1 ∧
      marshalV ts a trs fuel it.iface u1 = ⟨t2, none⟩ ∧
      (t2.all C01.carryJson = true → t2.all C01.plainJson = true → ∃ b2 r,
        C01.encodeJson c t2 = some b2 ∧ viaDecJson ts a trs it fuel id b2 = some r ∧
        ValEqv'' r (normV .pretty ts a trs it g id v)) := by
  obtain ⟨N, hN⟩ := remarshal_typed_leg_tokens ts a trs it fuel0 g id v t1 hp hv hside he hz htr hnt hm h0 hg
  refine ⟨N, fun fuel hF => ?_⟩
  obtain ⟨u1, t2, r, e1, e2, e3, -, e4⟩ := hN fuel hF
  obtain ⟨b1, hb1, ht1, hr1⟩ := C01.transport_json c ts a trs fuel0 id v t1 hcfg hm hc1
  refine ⟨b1, u1, t2, hb1, ?_, e2, fun hc2 hp2 => ?_⟩
  · refine viaDecJson_of_decoded ht1 hr1 (n := t1.length) ?_
    rw [zeroVal_iface he, unm_compat trs he Spec.Json.retypeTok fuel _ t1 (fun t ht => compat_retype t (List.all_eq_true.mp hs1 t ht)),
      e1]
    rfl
  · obtain ⟨b2, hb2, ht2, hr2⟩ := C01.transport_json c ts a trs fuel it.iface u1 t2 hcfg e2 hc2
    exact ⟨b2, r, hb2, viaDecJson_of_decoded ht2 hr2 (C01.unm_retype_typed_partial ts a trs it fuel id _ t2 r [] _ hni hty hc2 hp2 e3),
      e4⟩

/-! Non-vacuity.  Type 0 = `struct { B map[string]uint; A int }` with the struct-map entry `b ↦ B, a ↦ A` (fields
  declared in non-alphabetical order), the value `{B: {"z": 1, "y": 2}, A: 7}` (map entries listed unsorted). -/

def lgTs : Types := [
  (0, .struct [⟨[66], 9, true, false, none⟩, ⟨[65], 2, true, false, none⟩]),
  (1, .prim .string true), (2, .prim .int true), (3, .bytes true), (4, .prim .bool true), (5, .prim .uint64 true), (6, .prim .f64 true),
  (7, .map 1 20), (8, .slice 20), (20, .iface false),
  (9, .map 1 10), (10, .prim .uint true)]

def lgA : Atlas := ⟨[⟨true, 0, none, .structMap [⟨[98], false, [0], 9, false⟩, ⟨[97], false, [1], 2, false⟩]⟩], .default⟩
def lgIt : IfaceTys := ⟨1, 3, 4, 2, 5, 6, 7, 8, 20⟩
def lgTrs : Trs := ⟨fun _ _ => none, fun _ _ => none⟩
def lgV : Val := .struct [.map (some [(.str [122], .uint 1), (.str [121], .uint 2)]), .int 7]

/-- first rendering: fields in atlas order (b, a), map keys sorted (y, z), unsigned spelling -/
def lgT1 : List Tok := [⟨.mapOpen 2, none⟩, ⟨.str [98], none⟩, ⟨.mapOpen 2, none⟩, ⟨.str [121], none⟩, ⟨.uint 2, none⟩,
  ⟨.str [122], none⟩, ⟨.uint 1, none⟩, ⟨.mapClose, none⟩, ⟨.str [97], none⟩, ⟨.int 7, none⟩, ⟨.mapClose, none⟩]

/-- re-marshalled rendering: fields sorted by name (a, b), signed spelling -/
def lgT2 : List Tok := [⟨.mapOpen 2, none⟩, ⟨.str [97], none⟩, ⟨.int 7, none⟩, ⟨.str [98], none⟩, ⟨.mapOpen 2, none⟩,
  ⟨.str [121], none⟩, ⟨.int 2, none⟩, ⟨.str [122], none⟩, ⟨.int 1, none⟩, ⟨.mapClose, none⟩, ⟨.mapClose, none⟩]

theorem lg_env : UEnv lgTs lgA lgIt := by constructor <;> decide
theorem lg_zero : ZeroStable lgTs := zeroStable_of_check _ (by decide)
theorem lg_trsEqv : TrsEqv lgTrs := by
  apply C13Full.trsEqv_of_scalar
  intro fn y b h
  simp [lgTrs] at h
theorem lg_noTags : NoTags lgA := by unfold NoTags; decide

theorem lg_facts : fullTy lgTs lgA 64 0 = true ∧ hasTy lgTs 1000 0 lgV = true ∧ fullVal lgTs lgA lgTrs lgIt 100 0 lgV = true := by
  decide

example : fullTy lgTs lgA 64 0 = true ∧ hasTy lgTs 1000 0 lgV = true ∧ fullVal lgTs lgA lgTrs lgIt 100 0 lgV = true :=
  lg_facts

theorem lg_marshal : marshalV lgTs lgA lgTrs 12 0 lgV = ⟨lgT1, none⟩ := by
  -- not `rfl`: the marshaller sorts the map's keys with `List.mergeSort`, which the kernel does not evaluate
  simp [marshalV, marshalBare, marshalEntries, marshalFields, traverse, machForEntry, peel, lgTs, lgA, lgV, lgT1,
    Types.get, List.lookup, pickBare, Atlas.get, sortKeys, List.mergeSort, keyLe, bytesLe, bytesLt, MOut.seq,
    MOut.ok, primTok]

theorem lg_leg : ∃ N, ∀ fuel, N ≤ fuel → ∃ u1 t2 r,
    unmV lgTs lgA lgTrs lgIt fuel lgIt.iface (.iface none) lgT1 = .ok u1 [] lgT1.length ∧
    marshalV lgTs lgA lgTrs fuel lgIt.iface u1 = ⟨t2, none⟩ ∧
    unmV lgTs lgA lgTrs lgIt fuel 0 (zeroVal lgTs 64 0) t2 = .ok r [] t2.length ∧
    r = rtF lgTs lgA lgTrs lgIt 100 0 lgV ∧
    ValEqv'' r (normV .pretty lgTs lgA lgTrs lgIt 100 0 lgV) :=
  remarshal_typed_leg_tokens lgTs lgA lgTrs lgIt 12 100 0 lgV lgT1 lg_facts.1 lg_facts.2.1 lg_facts.2.2
    lg_env lg_zero lg_trsEqv lg_noTags lg_marshal (by omega) (by omega)

/-- the chain evaluated at fuel 40: the untyped value, the re-marshalled tokens (`lgT2 ≠ lgT1`), and the value read from
    them into type 0: the map comes back in key order (y, z), the rest as in `lgV` -/
theorem lg_eval :
    unmV lgTs lgA lgTrs lgIt 40 20 (.iface none) lgT1 =
      .ok (.iface (some (7, .map (some [
        (.str [98], .iface (some (7, .map (some [(.str [121], .iface (some (2, .int 2))), (.str [122], .iface (some (2, .int 1)))])))),
        (.str [97], .iface (some (2, .int 7)))])))) [] 11 ∧
    marshalV lgTs lgA lgTrs 40 20 (.iface (some (7, .map (some [
        (.str [98], .iface (some (7, .map (some [(.str [121], .iface (some (2, .int 2))), (.str [122], .iface (some (2, .int 1)))])))),
        (.str [97], .iface (some (2, .int 7)))])))) = ⟨lgT2, none⟩ ∧
    unmV lgTs lgA lgTrs lgIt 40 0 (zeroVal lgTs 64 0) lgT2 =
      .ok (.struct [.map (some [(.str [121], .uint 2), (.str [122], .uint 1)]), .int 7]) [] 11 ∧
    lgT2 ≠ lgT1 := by
  refine ⟨by with_unfolding_all rfl, ?_, by with_unfolding_all rfl, by decide⟩
  -- the marshaller sorts (`List.mergeSort`): as in `lg_marshal`
  simp [marshalV, marshalBare, marshalEntries, peel, lgTs, lgA, lgT2,
    Types.get, List.lookup, pickBare, Atlas.get, sortKeys, List.mergeSort, keyLe, bytesLe, bytesLt, MOut.seq,
    MOut.ok, primTok]

/-- `remarshal_typed_leg_tokens` with `TagsOk` in place of `NoTags`; refuted by `C12Tagged.tagged_statement_false`
    (`omitempty` on a struct-typed field under a tag); what holds is `C12Tagged.remarshal_typed_leg_tokens_tagged` -/
def tagged_statement : Prop :=
  ∀ (ts : Types) (a : Atlas) (trs : Trs) (it : IfaceTys) (fuel0 g id : Nat) (v : Val) (t1 : List Tok),
    fullTy ts a 64 id = true → hasTy ts 1000 id v = true → fullVal ts a trs it g id v = true →
    UEnv ts a it → ZeroStable ts → TrsEqv trs → TagsOk a →
    marshalV ts a trs fuel0 id v = ⟨t1, none⟩ → fuel0 ≤ 1000 → fuel0 ≤ g →
    ∃ N, ∀ fuel, N ≤ fuel → ∃ u1 t2 r,
      unmV ts a trs it fuel it.iface (.iface none) t1 = .ok u1 [] t1.length ∧
      marshalV ts a trs fuel it.iface u1 = ⟨t2, none⟩ ∧
      unmV ts a trs it fuel id (zeroVal ts 64 id) t2 = .ok r [] t2.length ∧
      ValEqv'' r (normV .pretty ts a trs it g id v)

/-! Without `TagsOk` the chain breaks at its SECOND step: two registered struct types sharing tag 50.  A value
    of the second type marshals and clones fine, but the untyped pass looks the tag up, finds the first type, and rejects
    the field name: Unmarshal-into-untyped fails, so there is no b2.  (An atlas with duplicate tags; a statement about
    the atlas builder, not about the machines.) -/
def dupTs : Types := [
  (0, .struct [⟨[89], 2, true, false, none⟩]), (30, .struct [⟨[90], 1, true, false, none⟩]),
  (1, .prim .string true), (2, .prim .int true), (3, .bytes true), (4, .prim .bool true), (5, .prim .uint64 true), (6, .prim .f64 true),
  (7, .map 1 20), (8, .slice 20), (20, .iface false)]
def dupA : Atlas := ⟨[⟨true, 0, some 50, .structMap [⟨[121], false, [0], 2, false⟩]⟩,
                      ⟨true, 30, some 50, .structMap [⟨[122], false, [0], 1, false⟩]⟩], .default⟩

theorem dup_tag_untyped_pass_fails :
    fullTy dupTs dupA 64 30 = true ∧
    marshalV dupTs dupA lgTrs 30 30 (.struct [.str [7]]) =
      ⟨[⟨.mapOpen 1, some 50⟩, ⟨.str [122], none⟩, ⟨.str [7], none⟩, ⟨.mapClose, none⟩], none⟩ ∧
    (clone dupTs dupA lgTrs lgIt 30 30 (.struct [.str [7]])).isSome = true ∧
    unmV dupTs dupA lgTrs lgIt 30 20 (.iface none)
      [⟨.mapOpen 1, some 50⟩, ⟨.str [122], none⟩, ⟨.str [7], none⟩, ⟨.mapClose, none⟩] = .err 1 := by
  refine ⟨by decide, by with_unfolding_all rfl, by with_unfolding_all decide, by with_unfolding_all rfl⟩

end Refmt.C12Typed
