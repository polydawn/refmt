/-
  No-panic invariant of the object unmarshaller model: under a consistent context (`Ctx`: machines picked are valid,
  pointer peeling reaches a non-pointer, same-list delegation chains are bounded by `D`) and with fuel ≥
  (2D+3)·|toks| + 2D+2 no call of the six mutual functions returns `.panic`.  A token is consumed at most 2D+3 levels
  below the walk that reads it: walk → `unmV` → `unmBare`, at most D delegations of at most two levels each (`unmBare` →
  `unmWild` → `unmBare`), `unmBare` → walk; the bounds of `AllNP` are what is left of that budget at each function, `d`
  being the delegations still allowed.  `d` may be `D + 1` where `Ctx.deleg` gives `D`: the untyped slot that skips a
  struct field (`np_s`) and a union member that is a transform (`np_b`) each put one delegation on top of a machine of
  the atlas.
-/
import RefmtProofs.Lemmas.ObjRun
namespace Refmt.Obj
open Refmt
variable (ts : Types) (a : Atlas) (trs : Trs) (it : IfaceTys)

def NP (x : URes) : Prop := ∀ u, x ≠ .panic u

theorem NP.ok {v r u} : NP (.ok v r u) := fun _ h => by cases h
theorem NP.more {u} : NP (.more u) := fun _ h => by cases h
theorem NP.err {u} : NP (.err u) := fun _ h => by cases h
theorem NP.shift {x} (h : NP x) (k : Nat) : NP (x.shift k) := by
  cases x <;> simp [NP, URes.shift] at *
theorem NP.bind' {x K s} (h : NP x) (hK : ∀ v r u, x = .ok v r u → NP (K v r u)) : NP (x.bind' K s) := by
  cases x with
  | ok v r u => exact hK v r u rfl
  | more u => exact NP.more
  | err u => exact NP.err
  | panic u => exact absurd rfl (h u)

theorem setRoute_of_getRoute (f : Val → Val) : ∀ (n id : Nat) (route : List Nat) (cur x : Val),
    getRoute ts n id route cur = some x → ∃ y, setRoute ts n id route cur f = some y := by
  intro n
  induction n with
  | zero => intro id route cur x h; cases h
  | succ n ih =>
    intro id route cur x h
    cases route with
    | nil => exact ⟨f cur, by simp [setRoute]⟩
    | cons i rest =>
      rw [getRoute.eq_def] at h
      rw [setRoute.eq_def]
      simp only at h ⊢
      split at h
      · obtain ⟨y, hy⟩ := ih _ (i :: rest) _ x h
        simp [hy]
      · split at h
        · rename_i fd fv h1 h2
          have key : ∀ c : Bool, (if c = true then none else getRoute ts n fd.ty rest fv) = some x →
              c = false ∧ getRoute ts n fd.ty rest fv = some x := by
            intro c; cases c <;> simp
          obtain ⟨hc, h'⟩ := key _ h
          obtain ⟨y, hy⟩ := ih fd.ty rest fv x h'
          simp only [hc, hy]
          exact ⟨_, rfl⟩
        · cases h
      · cases h

/-- same-list delegation depth of a machine: a transform delegates to the machine of its receive type, an untyped
    slot to the machine of the type registered for the token's tag; every other machine consumes a token first -/
def delegOk (ts : Types) (a : Atlas) : Nat → UMach → Prop
  | 0, m => (match m with | .transform _ _ => False | .wildcard => False | _ => True)
  | n+1, m => (match m with
      | .transform _ uty => delegOk ts a n (upickBare ts a uty)
      | .wildcard => ∀ g e, a.getByTag g = some e → delegOk ts a n (upickBare ts a e.ty)
      | _ => True)

def notPtr (d : TyDesc) : Prop := ∀ e, d ≠ .ptr e

def memberOk (ts : Types) (me : Entry) : Prop :=
  (∃ fs, me.k = .structMap fs) ∨ (∃ fn mty uty, me.k = .transform fn mty uty ∧ notPtr (ts.get uty))

def mOk (ts : Types) (a : Atlas) : UMach → Prop
  | .panic => False
  | .transform _ uty => notPtr (ts.get uty)
  | .union ms => ∀ p ∈ ms, ∃ me, a.pool[p.2]? = some me ∧ memberOk ts me
  | _ => True

theorem delegOk_zero_wildcard {ts a} : ¬ delegOk ts a 0 .wildcard := id
theorem delegOk_zero_transform {ts a fn uty} : ¬ delegOk ts a 0 (.transform fn uty) := id
theorem delegOk_succ_wildcard {ts a n} :
    delegOk ts a (n+1) .wildcard ↔ ∀ g e, a.getByTag g = some e → delegOk ts a n (upickBare ts a e.ty) := Iff.rfl
theorem delegOk_succ_transform {ts a n fn uty} :
    delegOk ts a (n+1) (.transform fn uty) ↔ delegOk ts a n (upickBare ts a uty) := Iff.rfl
theorem mOk_transform {ts a fn uty} : mOk ts a (.transform fn uty) ↔ notPtr (ts.get uty) := Iff.rfl
theorem mOk_map {ts a kt vt} : mOk ts a (.map kt vt) := trivial
theorem mOk_slice {ts a e} : mOk ts a (.slice e) := trivial
theorem mOk_structMap {ts a fs} : mOk ts a (.structMap fs) := trivial
theorem delegOk_map {ts a d kt vt} : delegOk ts a d (.map kt vt) := by cases d <;> trivial
theorem delegOk_slice {ts a d e} : delegOk ts a d (.slice e) := by cases d <;> trivial
theorem delegOk_structMap {ts a d fs} : delegOk ts a d (.structMap fs) := by cases d <;> trivial

structure Ctx (ts : Types) (a : Atlas) (D : Nat) : Prop where
  pick : ∀ id, notPtr (ts.get id) ∨ (a.get id).isSome → mOk ts a (upickBare ts a id)
  base : ∀ id, notPtr (ts.get (peel ts 64 0 id).2)
  deleg : ∀ id, delegOk ts a D (upickBare ts a id)

structure AllNP (D fuel : Nat) : Prop where
  v : ∀ id cur toks, (2*D+3) * toks.length + (2*D+2) ≤ fuel → NP (unmV ts a trs it fuel id cur toks)
  b : ∀ id m cur toks d, mOk ts a m → delegOk ts a d m → d ≤ D + 1 → (2*D+3) * toks.length + 2*d + 1 ≤ fuel →
        NP (unmBare ts a trs it fuel id m cur toks)
  w : ∀ meth t rest d, delegOk ts a d .wildcard → d ≤ D + 1 → (2*D+3) * (rest.length + 1) + 2*d ≤ fuel →
        NP (unmWild ts a trs it fuel meth t rest)
  e : ∀ e cap acc toks, (2*D+3) * toks.length + (2*D+3) ≤ fuel → NP (unmElems ts a trs it fuel e cap acc toks)
  m : ∀ kf vt es toks, (2*D+3) * toks.length + (2*D+3) ≤ fuel → NP (unmMapEntries ts a trs it fuel kf vt es toks)
  s : ∀ id fields len idx cur toks, (2*D+3) * toks.length + (2*D+3) ≤ fuel →
        NP (unmStruct ts a trs it fuel id fields len idx cur toks)

theorem mul_len_lt {A n m : Nat} (h : n < m) : A * n + A ≤ A * m := by
  have := Nat.mul_le_mul_left A (Nat.succ_le_of_lt h)
  rwa [Nat.mul_succ] at this

variable {ts a trs it}

theorem np_v {D fuel} (cx : Ctx ts a D) (ih : AllNP ts a trs it D fuel) (id cur toks)
    (hf : (2*D+3) * toks.length + (2*D+2) ≤ fuel + 1) : NP (unmV ts a trs it (fuel+1) id cur toks) := by
  cases toks with
  | nil => rw [unmV_succ_nil]; exact NP.more
  | cons t rest =>
    have hb : ∀ cur', NP (unmBare ts a trs it fuel (peel ts 64 0 id).2 (upickBare ts a (peel ts 64 0 id).2) cur' (t :: rest)) :=
      fun cur' => ih.b _ _ cur' _ D (cx.pick _ (Or.inl (cx.base id))) (cx.deleg _) (by omega) (by omega)
    rw [unmV_cons]
    split
    · exact hb _
    · split
      · exact NP.ok
      · exact NP.bind' (hb _) (fun _ _ _ _ => NP.ok)

theorem np_e {D fuel} (ih : AllNP ts a trs it D fuel) (e cap acc toks)
    (hf : (2*D+3) * toks.length + (2*D+3) ≤ fuel + 1) : NP (unmElems ts a trs it (fuel+1) e cap acc toks) := by
  cases toks with
  | nil => rw [unmElems_succ_nil]; exact NP.more
  | cons t rest =>
    rw [unmElems_cons]
    simp only [List.length_cons, Nat.mul_succ] at hf
    split
    · exact NP.err
    · exact NP.ok
    · split
      · exact NP.err
      · refine NP.bind' (ih.v _ _ _ (by simp only [List.length_cons, Nat.mul_succ]; omega)) (fun v r u hv => NP.shift (ih.e _ _ _ _ ?_) _)
        have := Nat.mul_le_mul_left (2*D+3) (Nat.le_of_lt_succ (by simpa using unmV_ok_len hv))
        omega

theorem np_m {D fuel} (ih : AllNP ts a trs it D fuel) (kf vt es toks)
    (hf : (2*D+3) * toks.length + (2*D+3) ≤ fuel + 1) : NP (unmMapEntries ts a trs it (fuel+1) kf vt es toks) := by
  cases toks with
  | nil => rw [unmMapEntries_succ_nil]; exact NP.more
  | cons t rest =>
    rw [unmMapEntries_cons]
    simp only [List.length_cons, Nat.mul_succ] at hf
    split
    · exact NP.ok
    · split
      · exact NP.err
      · split
        · exact NP.err
        · refine NP.bind' (ih.v _ _ _ (by omega)) (fun v r u hv => NP.shift (ih.m _ _ _ _ ?_) _)
          have := Nat.mul_le_mul_left (2*D+3) (Nat.le_of_lt (unmV_ok_len hv))
          omega
    · exact NP.err

theorem np_s {D fuel} (cx : Ctx ts a D) (ih : AllNP ts a trs it D fuel) (id fields len idx cur toks)
    (hf : (2*D+3) * toks.length + (2*D+3) ≤ fuel + 1) : NP (unmStruct ts a trs it (fuel+1) id fields len idx cur toks) := by
  cases toks with
  | nil => rw [unmStruct_succ_nil]; exact NP.more
  | cons t rest =>
    rw [unmStruct_cons]
    simp only [List.length_cons, Nat.mul_succ] at hf
    split
    · split
      · exact NP.err
      · exact NP.ok
    · split
      · exact NP.err
      · split
        · split
          · exact NP.more
          · rename_i v rest2
            simp only [List.length_cons, Nat.mul_succ] at hf
            have hw : delegOk ts a (D + 1) .wildcard := delegOk_succ_wildcard.mpr fun g e _ => cx.deleg _
            refine NP.bind' (ih.w _ _ _ (D + 1) hw (by omega) (by simp only [Nat.mul_succ]; omega))
              (fun v r u hv => NP.shift (ih.s _ _ _ _ _ _ ?_) _)
            have := Nat.mul_le_mul_left (2*D+3) (unmWild_ok_len hv)
            omega
        · split
          · exact NP.more
          · split
            · exact NP.err
            · rename_i fcur hg
              refine NP.bind' (ih.v _ _ _ (by omega)) (fun v r u hv => ?_)
              obtain ⟨y, hy⟩ := setRoute_of_getRoute ts (fun _ => v) _ _ _ _ _ hg
              rw [structCont_some hy]
              refine NP.shift (ih.s _ _ _ _ _ _ ?_) _
              have := Nat.mul_le_mul_left (2*D+3) (Nat.le_of_lt (unmV_ok_len hv))
              omega
    · exact NP.err

theorem get_of_getByTag {a : Atlas} {g e} (h : a.getByTag g = some e) : (a.get e.ty).isSome := by
  unfold Atlas.get
  rw [List.find?_isSome]
  have hm := List.mem_of_find?_eq_some h
  have hp := List.find?_some h
  simp at hp
  exact ⟨e, hm, by simp [hp.1]⟩

theorem np_w {D fuel} (cx : Ctx ts a D) (ih : AllNP ts a trs it D fuel) (meth t rest d)
    (hd : delegOk ts a d .wildcard) (hdD : d ≤ D + 1)
    (hf : (2*D+3) * (rest.length + 1) + 2*d ≤ fuel + 1) : NP (unmWild ts a trs it (fuel+1) meth t rest) := by
  cases d with
  | zero => exact absurd hd delegOk_zero_wildcard
  | succ d =>
    cases htag : t.tag with
    | some g =>
      rw [unmWild_eq]
      simp only [htag]
      split
      · exact NP.err
      · rename_i e hg
        split
        · exact NP.err
        · refine NP.bind' (ih.b _ _ _ _ d (cx.pick _ (Or.inr (get_of_getByTag hg))) (delegOk_succ_wildcard.mp hd g e hg) (by omega) ?_) (fun _ _ _ _ => NP.ok)
          simp only [List.length_cons]; omega
    | none =>
      cases hrej : wildRej meth t.body with
      | true => rw [unmWild_eq]; simp only [htag, hrej, if_true]; exact NP.err
      | false =>
        rcases body_open_cases t.body with ⟨l, hb⟩ | ⟨l, hb⟩ | ho
        · rw [unmWild_eq]
          rw [hb] at hrej
          simp only [htag, hrej, hb, Bool.false_eq_true, if_false]
          refine NP.bind' (ih.b _ _ _ _ 0 mOk_map delegOk_map (by omega) ?_) (fun _ _ _ _ => NP.ok)
          simp only [List.length_cons]; omega
        · rw [unmWild_eq]
          rw [hb] at hrej
          simp only [htag, hrej, hb, Bool.false_eq_true, if_false]
          refine NP.bind' (ih.b _ _ _ _ 0 mOk_slice delegOk_slice (by omega) ?_) (fun _ _ _ _ => NP.ok)
          simp only [List.length_cons]; omega
        · rw [unmWild_scalar htag hrej ho]
          split
          · exact NP.ok
          · exact NP.err

theorem np_b {D fuel} (cx : Ctx ts a D) (ih : AllNP ts a trs it D fuel) (id m cur toks d)
    (hm : mOk ts a m) (hd : delegOk ts a d m) (hdD : d ≤ D + 1)
    (hf : (2*D+3) * toks.length + 2*d + 1 ≤ fuel + 1) : NP (unmBare ts a trs it (fuel+1) id m cur toks) := by
  cases toks with
  | nil => rw [unmBare_succ_nil]; exact NP.more
  | cons t rest =>
    simp only [List.length_cons, Nat.mul_succ] at hf
    cases m with
    | errThunk => rw [unmBare_errThunk]; exact NP.err
    | panic => exact absurd hm (by simp [mOk])
    | prim =>
      rw [unmBare_prim]
      split
      · exact NP.ok
      · exact NP.err
    | wildcard =>
      rw [unmBare_wild]
      exact ih.w _ _ _ d hd hdD (by simp only [Nat.mul_succ]; omega)
    | slice e =>
      rw [unmBare_slice]
      split
      · exact NP.ok
      · exact NP.shift (ih.e _ _ _ _ (by omega)) _
      · exact NP.err
    | array n e =>
      rw [unmBare_array]
      split
      · exact NP.ok
      · exact NP.bind' (ih.e _ _ _ _ (by omega)) (fun _ _ _ _ => NP.ok)
      · exact NP.err
    | map kt vt =>
      rw [unmBare_map]
      split
      · exact NP.err
      · split
        · exact NP.ok
        · exact NP.shift (ih.m _ _ _ _ (by omega)) _
        · exact NP.err
    | structMap fields =>
      rw [unmBare_structMap]
      split
      · exact NP.ok
      · exact NP.shift (ih.s _ _ _ _ _ _ (by omega)) _
      · exact NP.err
    | transform fn uty =>
      cases d with
      | zero => exact absurd hd delegOk_zero_transform
      | succ d =>
        rw [unmBare_transform]
        refine NP.bind' (ih.b _ _ _ _ d (cx.pick _ (Or.inl hm)) hd (by omega) ?_) (fun _ _ _ _ _ => trPost_ne_panic)
        simp only [List.length_cons, Nat.mul_succ]; omega
    | union members =>
      rw [unmBare_union]
      split
      · split
        · exact NP.err
        · split
          · exact NP.more
          · rename_i k rest2
            simp only [List.length_cons, Nat.mul_succ] at hf
            split
            · split
              · exact NP.err
              · rename_i nm idx hfind
                obtain ⟨me, hme, hmem⟩ := hm _ (List.mem_of_find?_eq_some hfind)
                rw [hme]
                simp only
                rcases hmem with ⟨fs, hk⟩ | ⟨fn', mty, uty', hk, hnp⟩
                · have hmach : umachForEntry ts me = .structMap fs := by simp [umachForEntry, hk]
                  rw [hmach]
                  exact NP.bind' (ih.b _ _ _ _ 0 mOk_structMap delegOk_structMap (by omega) (by omega)) (fun _ _ _ _ _ => unionClose_ne_panic)
                · have hmach : umachForEntry ts me = .transform fn' uty' := by simp [umachForEntry, hk]
                  rw [hmach]
                  refine NP.bind' (ih.b _ _ _ _ (D + 1) (mOk_transform.mpr hnp) (delegOk_succ_transform.mpr (cx.deleg uty')) (by omega) (by omega)) (fun _ _ _ _ _ => unionClose_ne_panic)
            · exact NP.err
      · exact NP.err

theorem allNP {D} (cx : Ctx ts a D) (fuel : Nat) : AllNP ts a trs it D fuel := by
  induction fuel with
  | zero =>
    exact ⟨fun _ _ _ hf => absurd hf (by omega), fun _ _ _ _ _ _ _ _ hf => absurd hf (by omega),
      fun _ _ _ _ _ _ hf => absurd hf (by simp only [Nat.mul_succ]; omega), fun _ _ _ _ hf => absurd hf (by omega),
      fun _ _ _ _ hf => absurd hf (by omega), fun _ _ _ _ _ _ hf => absurd hf (by omega)⟩
  | succ n ih =>
    exact ⟨np_v cx ih, np_b cx ih, np_w cx ih, np_e ih, np_m ih, np_s cx ih⟩

end Refmt.Obj
