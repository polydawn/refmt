/-
  Stateful object unmarshaller: all simulation statements by induction on the functional model's fuel, and the run of
  a bound instance.
-/
import RefmtProofs.Lemmas.UnmarshalMachUnion
import RefmtProofs.Lemmas.UnmarshalMachPtr
namespace Refmt.UMachU
open Refmt Refmt.Obj Refmt.Obj.UM

variable {ts : Types} {a : Atlas} {trs : Trs} {it : IfaceTys} {ub : Nat}

theorem wildDeps_of {S : List Nat} {wi : Option Nat} {n : Nat} (hS : Closed ts a S wi)
    (hWd : WildHyp ts a it ub S) (hwi : wildIn S wi) (hAll : ∀ m, m < n → SimL ts a trs it ub S wi m) :
    WildDeps ts a trs it ub S n :=
  ⟨fun m h => (hAll m h).elems, fun m h => (hAll m h).map, fun _ hm g e hg =>
    simDelegate hS (fun m' hm' => hAll m' (Nat.lt_trans hm' hm)) (okMember_mono (fun _ => hwi) (hWd.tags g e hg))
      (upick_shape e.ty)⟩

theorem simB_succ {S : List Nat} {wi : Option Nat} {n : Nat} (hS : Closed ts a S wi)
    (hWd : wildIn S wi → WildHyp ts a it ub S) (hN : SimL ts a trs it ub S wi n)
    (hAll : ∀ m, m < n → SimL ts a trs it ub S wi m) :
    SimB ts a trs it ub S wi (n+1) := by
  intro base hok hU row k hcfg
  cases hM : upickBare ts a base with
  | wildcard =>
    rw [hM] at hcfg hok
    cases hcfg
    exact simBare_wild hS (hWd hok) (wildDeps_of hS (hWd hok) hok hAll) row
  | transform fn uty =>
    rw [hM] at hcfg hok
    obtain ⟨rfl, hfn, hrt, k', hdl, hcl⟩ := hcfg
    exact simBare_transform hS hAll hok.2 hfn hrt hdl hcl
  | union ms =>
    rw [hM] at hcfg hok
    obtain ⟨rfl, hmem⟩ := hcfg
    exact simBare_union hS (hU ms hM) hAll hok hmem
  | panic => rw [hM] at hok; exact hok.elim
  | prim | errThunk | slice _ | array _ _ | map _ _ | structMap _ =>
    have hty := upick_shape (ts := ts) (a := a) base
    rw [hM] at hcfg hok hty
    exact (simLeaf hS hN hty hok hcfg).bare hcfg

variable (ts a trs it) in
structure Bundle (ub : Nat) (S : List Nat) (wi : Option Nat) (n : Nat) : Prop where
  v : SimV ts a trs it ub S n
  b : SimB ts a trs it ub S wi n
  l : SimL ts a trs it ub S wi n

theorem sim_all {S : List Nat} {wi : Option Nat} (hS : Closed ts a S wi)
    (hU : ∀ id ∈ S, ∀ ms, upickBare ts a (peel ts 64 0 id).2 = .union ms → 1 ≤ ub)
    (hWd : wildIn S wi → WildHyp ts a it ub S) (n : Nat) : Bundle ts a trs it ub S wi n := by
  induction n using Nat.strongRecOn with
  | ind n ih =>
    cases n with
    | zero => exact ⟨simV_zero S, simB_zero S wi, simE_zero S, simAr_zero S, simM_zero S, simSt_zero S wi⟩
    | succ n =>
      -- a container needs the level below; a machine that steps a delegate (wildcard, union, transform) spends
      -- functional fuel on the way down and needs the containers at levels further below as well
      obtain ⟨hV, hB, hN⟩ := ih n (Nat.lt_succ_self n)
      have hAll : ∀ m, m < n → SimL ts a trs it ub S wi m := fun m h => (ih m (Nat.lt_succ_of_lt h)).l
      exact ⟨simV_succ hS hU hB, simB_succ hS hWd hN hAll, loop_succ (slice_act hV) hN.elems,
        loop_succ (array_act hV) hN.arr, loop_succ (map_act hV) hN.map, loop_succ (struct_act hS hWd hV fun hwi =>
          childWild hS (hWd hwi) (wildDeps_of hS (hWd hwi) hwi hAll)) hN.struct⟩

theorem urun_bind {S : List Nat} {wi : Option Nat} (hS : Closed ts a S wi) {id : Nat} (hid : id ∈ S) (sf : Nat) (hsf : 4 ≤ sf)
    (dirty : UState) (cur : Val) (toks : List Tok) :
    ∃ crow ck, CfgV ts a crow id ck ∧
      urun ts a trs it sf (UM.bind ts a sf dirty id cur) toks
        = rtp ts a trs it sf sf sf ([] ++ crow :: []) [] none ⟨([] : List URow).length, ck⟩ id cur toks := by
  obtain ⟨f, rfl⟩ : ∃ f, sf = f + 4 := ⟨sf - 4, by omega⟩
  obtain ⟨crow, ck, hreq, hcc⟩ := requisition_cov [] hS hid
  refine ⟨crow, ck, hcc, ?_⟩
  cases toks with
  | nil => simp [urun, rtp]
  | cons t rest =>
    simp only [UM.bind, hreq f, rtp, List.nil_append, List.length_nil]
    cases hr : resetM ts a (f + 4) ⟨0, ck⟩ id cur [crow] with
    | error x => simp [urun]
    | ok R1 => simp only [urun]; rw [pump1_top]

theorem refines_closed {S : List Nat} {wi : Option Nat} (hS : Closed ts a S wi)
    (hU : ∀ id ∈ S, ∀ ms, upickBare ts a (peel ts 64 0 id).2 = .union ms → 1 ≤ ub)
    (hWd : wildIn S wi → WildHyp ts a it ub S) {id : Nat} (hid : id ∈ S) (fuel : Nat) (cur : Val)
    (toks : List Tok) (hnp : ∀ u, unmV ts a trs it fuel id cur toks ≠ .panic u) (sf : Nat) (hsf : 14 + 3 * ub ≤ sf)
    (dirty : UState) :
    urun ts a trs it sf (UM.bind ts a sf dirty id cur) toks = unmV ts a trs it fuel id cur toks := by
  obtain ⟨crow, ck, hcc, hrun⟩ := urun_bind (trs := trs) (it := it) hS hid sf (by omega) dirty cur toks
  rw [hrun]
  have hA := (sim_all (trs := trs) (it := it) hS hU hWd fuel).v id hid cur crow ck hcc [] [] [] none toks sf sf sf
    (by omega) (by omega) hsf
  rw [hA.top hnp]
  cases unmV ts a trs it fuel id cur toks <;> rfl

end Refmt.UMachU
