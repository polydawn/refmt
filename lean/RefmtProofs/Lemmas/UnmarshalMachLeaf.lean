/-
  Stateful object unmarshaller: the six leaf machines below any chain (`simLeaf`), and the transform machine over one
  of them (`simTr`: its `Reset` is its delegate's, its `Step` the delegate's followed by the user function, so the
  delegate runs below a chain one link longer, `Wr.belowTr`).
-/
import RefmtProofs.Lemmas.UnmarshalMachStruct
namespace Refmt.UMachU
open Refmt Refmt.Obj Refmt.Obj.UM

variable {ts : Types} {a : Atlas} {trs : Trs} {it : IfaceTys} {ub : Nat}

variable (ts a trs it) in
structure SimL (ub : Nat) (S : List Nat) (wi : Option Nat) (m : Nat) : Prop where
  elems : SimE ts a trs it ub S m
  arr : SimAr ts a trs it ub S m
  map : SimM ts a trs it ub S m
  struct : SimSt ts a trs it ub S wi m

theorem simLeaf {S : List Nat} {wi : Option Nat} {n : Nat} (hS : Closed ts a S wi) (hL : SimL ts a trs it ub S wi n)
    {base : Nat} {M : UMach} (hty : TyShape ts base M) (hok : okLeaf S wi M) {row : URow} {k : MK}
    (hcfg : CfgLeaf row base k M) : SimLeaf ts a trs it ub n base k M row := by
  obtain ⟨hE, hAr, hMp, hSt⟩ := hL
  cases M with
  | prim =>
    obtain ⟨rfl, hty, hak⟩ := hcfg
    exact simLeaf_prim hty hak
  | errThunk =>
    obtain ⟨rfl, he⟩ := hcfg
    exact simLeaf_err he
  | slice e =>
    cases hcfg
    exact simLeaf_slice hS hE hty hok row
  | array N e =>
    cases hcfg
    exact simLeaf_array hS hAr hty hok row
  | map kt vt =>
    cases hcfg
    exact simLeaf_map hS hMp hty hok row
  | structMap fields =>
    obtain ⟨rfl, hfl⟩ := hcfg
    exact simLeaf_struct hSt hok hfl
  | _ => exact hok.elim

theorem Agree.toTr {Q un c sf be stk lo fn w x r}
    (h : Agree ts a trs it ub Q un c sf be stk lo (trs.u fn) w x r) :
    Agree ts a trs it ub Q un c sf be stk lo some w x (r.bind' (trPost trs fn) 0) := by
  cases r with
  | ok rv rest u =>
    obtain ⟨h1, h2⟩ := h
    cases hU : trs.u fn rv with
    | none => rw [hU] at h2; rw [URes.bind'_ok, trPost_none hU]; exact h2
    | some v => rw [hU] at h2; rw [URes.bind'_ok, trPost_some hU]; exact ⟨h1, h2⟩
  | more u => exact h
  | err u => exact h
  | panic u => trivial

theorem simTr {S : List Nat} {wi : Option Nat} {n : Nat} (hS : Closed ts a S wi)
    (hL : ∀ m, m < n → SimL ts a trs it ub S wi m) {base fn uty : Nat} (hok : okLeaf S wi (upickBare ts a uty)) (cur : Val)
    (lo : List URow) (row : URow) (hi : List URow) (stk : List URef) (be : Option XFail) (c : URef) (w : Val → Val)
    (d : Nat) (toks : List Tok) (f sf1 sf : Nat) (hfn : row.transform.trFunc = fn) (hrt : row.transform.recv_rt = uty)
    {k' : MK} (hdl : row.transform.delegate = some k') (hcl : CfgLeaf row uty k' (upickBare ts a uty)) {un : Option Nat}
    (hw : Wr trs.u c lo row .transform some w d un) (hd : d ≤ 1 + ub)
    (hfr : 6 ≤ f) (hsf1 : 8 + 2 * ub ≤ sf1) (hsf : 14 + 3 * ub ≤ sf) :
    Agree ts a trs it ub (SameCfg row) un c sf be stk lo some w
      (rtpB ts a trs it (f + 1) sf1 sf (lo ++ row :: hi) stk be c ⟨lo.length, .transform⟩ base cur toks)
      (unmBare ts a trs it (n+1) base (.transform fn uty) cur toks) := by
  cases toks with
  | nil => rw [unmBare_succ_nil]; exact Agree.nil
  | cons t rest =>
  rw [unmBare_transform]
  cases n with
  | zero => rw [unmBare_zero]; trivial
  | succ m =>
  have hw' := (hw.of_fields (row' := rowTr row (trReset ts row.transform cur)) rfl rfl rfl rfl rfl).belowTr rfl hdl
    hcl.leaf.2.1
  rw [show (rowTr row (trReset ts row.transform cur)).transform.trFunc = fn from hfn] at hw'
  have hrr : rtpB ts a trs it (f + 1) sf1 sf (lo ++ row :: hi) stk be c ⟨lo.length, .transform⟩ base cur (t :: rest)
      = rtpB ts a trs it f sf1 sf (lo ++ rowTr row (trReset ts row.transform cur) :: hi) stk be c ⟨lo.length, k'⟩
          uty (zeroVal ts 64 uty) (t :: rest) := by
    simp only [rtpB, transform_reset hdl, hrt]
  rw [hrr]
  have hA := simLeaf hS (hL m (Nat.lt_succ_self m)) (upick_shape uty) hok (row := rowTr row (trReset ts row.transform cur))
    (hcl.same (rowTr_same ts row cur)) (zeroVal ts 64 uty) lo hi stk be c (trs.u fn) w (d + 1)
    (t :: rest) f sf1 sf hw' (by omega) (Nat.le_of_succ_le hfr) hsf1 hsf
  exact hA.toTr.rekeep fun _ hk => (rowTr_same ts row cur).trans hk

theorem simBare_transform {S : List Nat} {wi : Option Nat} {n : Nat} (hS : Closed ts a S wi)
    (hL : ∀ m, m < n → SimL ts a trs it ub S wi m)
    {base fn uty : Nat} (hok : okLeaf S wi (upickBare ts a uty)) {row : URow}
    (hfn : row.transform.trFunc = fn) (hrt : row.transform.recv_rt = uty) {k' : MK}
    (hdl : row.transform.delegate = some k') (hcl : CfgLeaf row uty k' (upickBare ts a uty)) :
    SimBare ts a trs it ub (n+1) base .transform (.transform fn uty) row := by
  refine SimBare.of_cons fun cur lo hi stk be c w d t rest f sf1 sf hwp hfr hsf1 hsf => ?_
  exact (simTr hS hL hok cur lo row hi stk be c w d (t :: rest) f sf1 sf hfn hrt hdl hcl hwp.toWr
    (Nat.le_trans hwp.le (Nat.le_add_right 1 ub)) (by omega) hsf1 hsf).toBare ⟨rfl, hfn, hrt, k', hdl, hcl⟩

end Refmt.UMachU
