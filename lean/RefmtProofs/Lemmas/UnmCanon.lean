/-
  Lemmas for C01 and C12: the unmarshal machines cannot tell a token list from a respelling of it (`unm_respell`: for
  every job, fuel and outcome the run on the respelt input gives the same answer, with the rest respelt).  A token is
  either left alone, and then only the rest of the input changes; or an integer of `[0, 2^63)` spelt `.int` or `.uint`
  (what the CBOR codec changes: `canon'` is `C02.canonTok` restricted to the int64 range), which the primitive machine
  stores alike (`storePrim_respell`), the untyped slot types as `int` and every other machine rejects; or an open token
  with another declared length (JSON has none), which only struct and union machines read.
-/
import RefmtProofs.Lemmas.ObjRun
namespace Refmt.C01L
open Refmt Refmt.Obj

def mapRest (f : List Tok → List Tok) : URes → URes
  | .ok v r k => .ok v (f r) k
  | x => x

@[simp] theorem mapRest_ok (f : List Tok → List Tok) (v : Val) (r : List Tok) (k : Nat) :
    mapRest f (.ok v r k) = .ok v (f r) k := rfl
@[simp] theorem mapRest_more (f : List Tok → List Tok) (k : Nat) : mapRest f (.more k) = .more k := rfl
@[simp] theorem mapRest_err (f : List Tok → List Tok) (k : Nat) : mapRest f (.err k) = .err k := rfl
@[simp] theorem mapRest_panic (f : List Tok → List Tok) (k : Nat) : mapRest f (.panic k) = .panic k := rfl

@[simp] theorem mapRest_shift (f : List Tok → List Tok) (x : URes) (k : Nat) :
    mapRest f (x.shift k) = (mapRest f x).shift k := by
  cases x <;> rfl

theorem mapRest_ite (f : List Tok → List Tok) (c : Prop) [Decidable c] (x y : URes) :
    mapRest f (if c then x else y) = if c then mapRest f x else mapRest f y := by
  split <;> rfl

theorem mapRest_bind' (f : List Tok → List Tok) (x : URes) (K : Val → List Tok → Nat → URes) (s : Nat)
    (h : ∀ v r u, x = .ok v r u → K v (f r) u = mapRest f (K v r u)) :
    (mapRest f x).bind' K s = mapRest f (x.bind' K s) := by
  cases x with
  | ok v r u => exact h v r u rfl
  | _ => rfl

/-- `untyped`: the document is read into an untyped slot, where no struct or union machine can be reached -/
inductive Respell (untyped : Prop) : Tok → Tok → Prop
  | same (t : Tok) : Respell untyped t t
  | int {i : Int} (tag : Option Int) : 0 ≤ i → i < (two63 : Int) → Respell untyped ⟨.int i, tag⟩ ⟨.uint i.toNat, tag⟩
  | uint {n : Nat} (tag : Option Int) : n < two63 → Respell untyped ⟨.uint n, tag⟩ ⟨.int n, tag⟩
  | arr (l l' : Int) (tag : Option Int) : untyped → Respell untyped ⟨.arrOpen l, tag⟩ ⟨.arrOpen l', tag⟩
  | map (l l' : Int) (tag : Option Int) : untyped → Respell untyped ⟨.mapOpen l, tag⟩ ⟨.mapOpen l', tag⟩

theorem Respell.tag {untyped : Prop} {t t' : Tok} (h : Respell untyped t t') : t'.tag = t.tag := by
  cases h <;> rfl

theorem storePrim_respell {untyped : Prop} {t t' : Tok} (d : TyDesc) (h : Respell untyped t t') :
    storePrim d t' = storePrim d t := by
  cases h with
  | same => rfl
  | @int i tag h0 _ => rw [storePrim_uint_eq_int, Int.toNat_of_nonneg h0]
  | @uint n tag hn => exact (storePrim_uint_eq_int d n tag).symm
  | arr | map => cases d with | prim k b => cases k <;> rfl | _ => rfl

def canon' (t : Tok) : Tok :=
  match t.body with
  | .int i => if 0 ≤ i ∧ i < (two63 : Int) then { t with body := .uint i.toNat } else t
  | _ => t

theorem canon'_respell (untyped : Prop) (t : Tok) : Respell untyped t (canon' t) := by
  obtain ⟨b, tag⟩ := t
  unfold canon'
  split
  · next i hb =>
    simp only at hb; subst hb
    split
    · next h => exact .int tag h.1 h.2
    · exact .same _
  · exact .same _

/-- the jobs an untyped slot gives rise to on untagged tokens -/
def UJob (it : IfaceTys) : Job → Prop
  | .bare _ .wildcard _ | .wild _ => True
  | .bare _ (.slice e) _ | .bare _ (.map _ e) _ | .v e _ | .elems e _ _ | .entries _ e _ => e = it.iface
  | _ => False

section
variable {ts : Types} {a : Atlas} {trs : Trs} {it : IfaceTys} {untyped : Prop} {g : Tok → Tok}

variable (untyped g) in
/-- in an untyped document there is no tag either: it would lead to the machine of a registered type -/
def RespellAll (toks : List Tok) : Prop := ∀ t ∈ toks, Respell untyped t (g t) ∧ (untyped → t.tag = none)

theorem RespellAll.tail {t : Tok} {rest : List Tok} (h : RespellAll untyped g (t :: rest)) : RespellAll untyped g rest :=
  fun x hx => h x (List.mem_cons_of_mem _ hx)

variable (ts a trs it untyped g) in
def Blind (f : Nat) : Prop := ∀ j toks, (untyped → UJob it j) → RespellAll untyped g toks →
  run ts a trs it f j (toks.map g) = mapRest (List.map g) (run ts a trs it f j toks)

theorem Blind.bind {f : Nat} (ih : Blind ts a trs it untyped g f) {j : Job} {toks : List Tok} (hD : untyped → UJob it j)
    (hP : RespellAll untyped g toks) {K : Val → List Tok → Nat → URes} (s : Nat)
    (hK : ∀ v r u, RespellAll untyped g r → K v (r.map g) u = mapRest (List.map g) (K v r u)) :
    (run ts a trs it f j (toks.map g)).bind' K s = mapRest (List.map g) ((run ts a trs it f j toks).bind' K s) := by
  rw [ih j toks hD hP]
  refine mapRest_bind' _ _ K s (fun v r u hx => hK v r u ?_)
  obtain ⟨c, rfl, -⟩ := reads_iff.1 hx
  exact fun t ht => hP t (List.mem_append_right c ht)

theorem Blind.shift {f : Nat} (ih : Blind ts a trs it untyped g f) {j : Job} {toks : List Tok} (hD : untyped → UJob it j)
    (hP : RespellAll untyped g toks) (k : Nat) :
    (run ts a trs it f j (toks.map g)).shift k = mapRest (List.map g) ((run ts a trs it f j toks).shift k) := by
  rw [ih j toks hD hP, mapRest_shift]

theorem respell_v {f : Nat} (hu : untyped → (peel ts 64 0 it.iface).1 = 0 ∧ upickBare ts a (peel ts 64 0 it.iface).2 = .wildcard)
    (ih : Blind ts a trs it untyped g f) (id : Nat) (cur : Val) (toks : List Tok) (hD : untyped → id = it.iface)
    (hP : RespellAll untyped g toks) :
    unmV ts a trs it (f+1) id cur (toks.map g) = mapRest (List.map g) (unmV ts a trs it (f+1) id cur toks) := by
  cases toks with
  | nil => simp only [List.map_nil, unmV_succ_nil]; rfl
  | cons t rest =>
    simp only [List.map_cons]
    rw [unmV_cons, unmV_cons]
    split
    · exact ih (.bare _ _ cur) (t :: rest) (fun hf => by rw [hD hf, (hu hf).2]; trivial) hP
    · next h0 =>
      have hnf : ¬ untyped := fun hf => h0 (by rw [hD hf, (hu hf).1]; rfl)
      have hb := ih.bind (j := .bare (peel ts 64 0 id).2 (upickBare ts a (peel ts 64 0 id).2)
        (innerCur ts (peel ts 64 0 id).1 id cur)) (fun hf => (hnf hf).elim) hP
        (K := fun v r u => .ok (wrapPtr (peel ts 64 0 id).1 v) r u) 0 (fun _ _ _ _ => rfl)
      simp only [run_bare, List.map_cons] at hb
      obtain ⟨ht, -⟩ := hP t (by simp)
      generalize g t = t' at ht hb ⊢
      -- a respelt token is `null` on neither side
      cases ht with
      | same =>
        -- the token is left alone, only the rest differs: `null` ends the run, anything else goes to the pointee's machine
        split
        · rfl
        · exact hb
      | _ => exact hb

theorem respell_elems {f : Nat} (ih : Blind ts a trs it untyped g f) (e : Nat) (cap : Option Nat) (acc : List Val)
    (toks : List Tok) (hD : untyped → e = it.iface) (hP : RespellAll untyped g toks) :
    unmElems ts a trs it (f+1) e cap acc (toks.map g) =
      mapRest (List.map g) (unmElems ts a trs it (f+1) e cap acc toks) := by
  cases toks with
  | nil => simp only [List.map_nil, unmElems_succ_nil]; rfl
  | cons t rest =>
    simp only [List.map_cons]
    rw [unmElems_cons, unmElems_cons]
    have hv := ih.bind (j := .v e (zeroVal ts 64 e)) hD hP
      (K := fun v r u => (unmElems ts a trs it f e cap (v :: acc) r).shift u) 0
      (fun v r u hr => ih.shift (j := .elems e cap (v :: acc)) hD hr u)
    simp only [run_v, List.map_cons] at hv
    obtain ⟨ht, -⟩ := hP t (by simp)
    generalize g t = t' at ht hv ⊢
    cases ht with
    | same =>
      -- left alone: `mapClose` is rejected, `arrClose` ends the run, else the capacity is checked and an element is read
      split
      · rfl
      · rfl
      · split
        · rfl
        · exact hv
    | _ =>
      dsimp only
      split
      · rfl
      · exact hv

theorem respell_entries {f : Nat} (ih : Blind ts a trs it untyped g f) (kf : Option Nat) (vt : Nat) (es : List (Val × Val))
    (toks : List Tok) (hD : untyped → vt = it.iface) (hP : RespellAll untyped g toks) :
    unmMapEntries ts a trs it (f+1) kf vt es (toks.map g) =
      mapRest (List.map g) (unmMapEntries ts a trs it (f+1) kf vt es toks) := by
  cases toks with
  | nil => simp only [List.map_nil, unmMapEntries_succ_nil]; rfl
  | cons t rest =>
    simp only [List.map_cons]
    rw [unmMapEntries_cons, unmMapEntries_cons]
    obtain ⟨ht, -⟩ := hP t (by simp)
    generalize g t = t' at ht ⊢
    cases ht with
    | same =>
      -- left alone: `mapClose` ends the run; a string is a key (no key, a duplicate, or the value is read); the rest is rejected
      split
      · rfl
      · split
        · rfl
        · next k _ =>
          split
          · rfl
          · exact ih.bind (j := .v vt (zeroVal ts 64 vt)) hD hP.tail 1
              (fun v r u hr => ih.shift (j := .entries kf vt (es ++ [(k, v)])) hD hr (u + 1))
      · rfl
    | _ => rfl

theorem respell_struct {f : Nat} (ih : Blind ts a trs it untyped g f) (id : Nat) (fields : List SMField) (len : Int)
    (idx : Nat) (cur : Val) (toks : List Tok) (hD : ¬ untyped) (hP : RespellAll untyped g toks) :
    unmStruct ts a trs it (f+1) id fields len idx cur (toks.map g) =
      mapRest (List.map g) (unmStruct ts a trs it (f+1) id fields len idx cur toks) := by
  have dom : ∀ j, untyped → UJob it j := fun _ hf => (hD hf).elim
  cases toks with
  | nil => simp only [List.map_nil, unmStruct_succ_nil]; rfl
  | cons t rest =>
    simp only [List.map_cons]
    rw [unmStruct_cons, unmStruct_cons]
    obtain ⟨ht, -⟩ := hP t (by simp)
    generalize g t = t' at ht ⊢
    cases ht with
    | same =>
      -- left alone: `mapClose` ends the run (the length check reads no token); a string is a field name (unknown; ignored:
      -- nothing follows, or a value is skipped; stored: nothing follows, no route, or the value is read); the rest is rejected
      split
      · rw [mapRest_ite]; rfl
      · split
        · rfl
        · split
          · cases rest with
            | nil => rfl
            | cons v rest2 =>
              exact ih.bind (j := .wild false) (toks := v :: rest2) (dom _) hP.tail 1
                (fun _ r u hr => ih.shift (j := .struct id fields len (idx + 1) cur) (dom _) hr (u + 1))
          · cases rest with
            | nil => rfl
            | cons v rest2 =>
              simp only [List.map_cons]
              split
              · rfl
              · refine ih.bind (j := .v _ _) (toks := v :: rest2) (dom _) hP.tail 1 (fun w r u hr => ?_)
                unfold structCont
                split
                · rfl
                · next cur' _ => exact ih.shift (j := .struct id fields len (idx + 1) cur') (dom _) hr (u + 1)
      · rfl
    | _ => rfl

theorem respell_wild {f : Nat} (ih : Blind ts a trs it untyped g f) (meth : Bool) (t : Tok) (rest : List Tok)
    (hP : RespellAll untyped g (t :: rest)) :
    unmWild ts a trs it (f+1) meth (g t) (rest.map g) = mapRest (List.map g) (unmWild ts a trs it (f+1) meth t rest) := by
  rw [unmWild_eq, unmWild_eq]
  have hb := fun (id : Nat) (m : UMach) (cur : Val) (F : Val → Val) (hD : untyped → UJob it (.bare id m cur)) =>
    ih.bind (j := .bare id m cur) hD hP (K := fun v r u => .ok (F v) r u) 0 (fun _ _ _ _ => rfl)
  simp only [run_bare, List.map_cons] at hb
  obtain ⟨ht, htag⟩ := hP t (by simp)
  generalize g t = t' at ht hb ⊢
  obtain ⟨b, tag⟩ := t
  obtain ⟨b', tag'⟩ := t'
  obtain rfl : tag' = tag := ht.tag
  cases tag' with
  | some tg =>
    have hnf : ¬ untyped := fun hf => nomatch htag hf
    dsimp only
    split
    · rfl
    · split
      · rfl
      · exact hb _ _ _ _ (fun hf => (hnf hf).elim)
  | none =>
    dsimp only
    cases ht with
    | same =>
      split
      · rfl
      · -- the arms of `unmWild_eq`: the two opens, the two closes, null, str, bytes, bool, int, uint, float
        split
        · exact hb _ _ _ _ (fun _ => rfl)
        · exact hb _ _ _ _ (fun _ => rfl)
        · rfl
        · rfl
        · rfl
        · rfl
        · rfl
        · rfl
        · rfl
        · split <;> rfl
        · rfl
    | @int i _ h0 h1 =>
      have hi : ((i.toNat : Nat) : Int) = i := Int.toNat_of_nonneg h0
      have hlt : i.toNat < two63 := by omega
      simp only [hlt, if_true, hi]
      rw [mapRest_ite]; rfl
    | uint _ hn =>
      simp only [hn, if_true]
      rw [mapRest_ite]; rfl
    | arr => rw [mapRest_ite, hb _ (.slice it.iface) _ _ (fun _ => rfl)]; rfl
    | map => rw [mapRest_ite, hb _ (.map it.str it.iface) _ _ (fun _ => rfl)]; rfl

theorem respell_bare {f : Nat} (ih : Blind ts a trs it untyped g f) (id : Nat) (m : UMach) (cur : Val) (toks : List Tok)
    (hD : untyped → UJob it (.bare id m cur)) (hP : RespellAll untyped g toks) :
    unmBare ts a trs it (f+1) id m cur (toks.map g) = mapRest (List.map g) (unmBare ts a trs it (f+1) id m cur toks) := by
  have dom : (untyped → False) → ∀ j, untyped → UJob it j := fun h _ hf => (h hf).elim
  cases toks with
  | nil => simp only [List.map_nil, unmBare_succ_nil]; rfl
  | cons t rest =>
    simp only [List.map_cons]
    obtain ⟨ht, -⟩ := hP t (by simp)
    cases m with
    | errThunk => rw [unmBare_errThunk, unmBare_errThunk]; rfl
    | panic => rw [unmBare_panic, unmBare_panic]; rfl
    | prim =>
      rw [unmBare_prim, unmBare_prim, storePrim_respell _ ht]
      split <;> rfl
    | wildcard => rw [unmBare_wild, unmBare_wild]; exact ih (.wild (UM.hasMethods ts id)) (t :: rest) (fun _ => trivial) hP
    | transform fn uty =>
      rw [unmBare_transform, unmBare_transform]
      exact ih.bind (j := .bare uty (upickBare ts a uty) (zeroVal ts 64 uty)) (toks := t :: rest) (dom hD _) hP 0
        (fun v r u _ => by unfold trPost; split <;> rfl)
    | slice e =>
      rw [unmBare_slice, unmBare_slice]
      have he := ih.shift (j := .elems e none []) hD hP.tail 1
      generalize g t = t' at ht ⊢
      cases ht with
      | same =>
        -- left alone: `null`, the open token, anything else
        split
        · rfl
        · exact he
        · rfl
      | arr => exact he
      | _ => rfl
    | array n e =>
      rw [unmBare_array, unmBare_array]
      have he := ih.bind (j := .elems e (some n) []) (dom hD _) hP.tail
        (K := fun v r u => .ok (arrFix ts n e v) r (u + 1)) 1 (fun _ _ _ _ => rfl)
      generalize g t = t' at ht ⊢
      cases ht with
      | same =>
        split
        · rfl
        · exact he
        · rfl
      | arr _ _ _ hf => exact (hD hf).elim
      | _ => rfl
    | map kt vt =>
      rw [unmBare_map, unmBare_map]
      split
      · rfl
      · next kf _ =>
        have hm := ih.shift (j := .entries kf vt (UM.mapEntries cur)) hD hP.tail 1
        generalize g t = t' at ht ⊢
        cases ht with
        | same =>
          split
          · rfl
          · exact hm
          · rfl
        | map => exact hm
        | _ => rfl
    | structMap fields =>
      rw [unmBare_structMap, unmBare_structMap]
      generalize g t = t' at ht ⊢
      cases ht with
      | same =>
        split
        · rfl
        · next len _ => exact ih.shift (j := .struct id fields len 0 cur) (dom hD _) hP.tail 1
        · rfl
      | map _ _ _ hf => exact (hD hf).elim
      | _ => rfl
    | union members =>
      rw [unmBare_union, unmBare_union]
      generalize g t = t' at ht ⊢
      cases ht with
      | same =>
        -- left alone: a map open (bad length; nothing follows; then the member's name, below), anything else
        split
        · rw [mapRest_ite]
          split
          · rfl
          · cases rest with
            | nil => rfl
            | cons k rest2 =>
              simp only [List.map_cons]
              obtain ⟨hk, -⟩ := hP.tail k (by simp)
              generalize g k = k' at hk ⊢
              cases hk with
              | same =>
                -- the name left alone: a string (unknown member; no entry; the entry's machine is `errThunk`; `panic`; any other
                -- machine reads the member, then the close token is read), anything else
                split
                · split
                  · rfl
                  · split
                    · rfl
                    · split
                      · rfl
                      · rfl
                      · refine ih.bind (j := .bare _ _ _) (dom hD _) hP.tail.tail 2 (fun v r u hr => ?_)
                        unfold unionClose
                        cases r with
                        | nil => rfl
                        | cons c r' =>
                          simp only [List.map_cons]
                          obtain ⟨hc, -⟩ := hr c (by simp)
                          generalize g c = c' at hc ⊢
                          cases hc with
                          | same => split <;> rfl
                          | _ => rfl
                · rfl
              | _ => rfl
        · rfl
      | map _ _ _ hf => exact (hD hf).elim
      | _ => rfl

/-- `hu`: in an untyped document the slot's type is what it claims to be (`C12.UEnv` provides it) -/
theorem unm_respell (hu : untyped → (peel ts 64 0 it.iface).1 = 0 ∧ upickBare ts a (peel ts 64 0 it.iface).2 = .wildcard) :
    ∀ f, Blind ts a trs it untyped g f := by
  intro f
  induction f with
  | zero =>
    intro j toks _ _
    cases j with
    | v => simp only [run_v, unmV_zero]; rfl
    | bare => simp only [run_bare, unmBare_zero]; rfl
    | wild => cases toks <;> simp only [run_wild, run_wild_nil, List.map_nil, List.map_cons, unmWild_zero] <;> rfl
    | elems => simp only [run_elems, unmElems_zero]; rfl
    | entries => simp only [run_entries, unmMapEntries_zero]; rfl
    | struct => simp only [run_struct, unmStruct_zero]; rfl
  | succ f ih =>
    intro j toks hD hP
    cases j with
    | v id cur => exact respell_v hu ih id cur toks hD hP
    | bare id m cur => exact respell_bare ih id m cur toks hD hP
    | wild meth =>
      cases toks with
      | nil => rfl
      | cons t rest => exact respell_wild ih meth t rest hP
    | elems e cap acc => exact respell_elems ih e cap acc toks hD hP
    | entries kf vt es => exact respell_entries ih kf vt es toks hD hP
    | struct id fields len idx cur => exact respell_struct ih id fields len idx cur toks (fun hf => hD hf) hP

end

theorem unm_canon' (ts : Types) (a : Atlas) (trs : Trs) (it : IfaceTys) (fuel id : Nat) (cur : Val) (toks : List Tok) :
    unmV ts a trs it fuel id cur (toks.map canon') =
      mapRest (List.map canon') (unmV ts a trs it fuel id cur toks) :=
  unm_respell (untyped := False) (fun hf => hf.elim) fuel (.v id cur) toks (fun hf => hf.elim)
    (fun t _ => ⟨canon'_respell False t, fun hf => hf.elim⟩)

end Refmt.C01L
