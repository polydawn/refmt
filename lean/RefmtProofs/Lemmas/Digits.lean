/-
  Decimal digit strings: `Digs`, what `natDigits` writes, and `digitsVal`, its inverse, on a text put together
  from parts.
-/
import RefmtModel
namespace Refmt.FloatL
open Refmt Refmt.JsonDec

def Digs (l : Bytes) : Prop := ∀ x ∈ l, isDigit x = true

theorem isDigit_iff {b : Nat} : isDigit b = true ↔ 48 ≤ b ∧ b ≤ 57 := by
  simp [isDigit]

theorem Digs.nil : Digs [] := List.forall_mem_nil _
theorem Digs.cons {b : Nat} {l : Bytes} (hb : isDigit b = true) (hl : Digs l) : Digs (b :: l) :=
  List.forall_mem_cons.2 ⟨hb, hl⟩
theorem Digs.head {b : Nat} {l : Bytes} (h : Digs (b :: l)) : isDigit b = true := (List.forall_mem_cons.1 h).1
theorem Digs.tail {b : Nat} {l : Bytes} (h : Digs (b :: l)) : Digs l := (List.forall_mem_cons.1 h).2
theorem Digs.append {a b : Bytes} (ha : Digs a) (hb : Digs b) : Digs (a ++ b) := fun x hx =>
  (List.mem_append.1 hx).elim (ha x) (hb x)
theorem Digs.zeros (n : Nat) : Digs (List.replicate n 48) := by
  intro x hx; simp only [List.mem_replicate] at hx; rw [hx.2]; decide
theorem Digs.take {l : Bytes} (h : Digs l) (n : Nat) : Digs (l.take n) := fun x hx => h x (List.mem_of_mem_take hx)
theorem Digs.all {l : Bytes} (h : Digs l) : l.all isDigit = true := List.all_eq_true.2 h
theorem Digs.drop {l : Bytes} (h : Digs l) (n : Nat) : Digs (l.drop n) := fun x hx => h x (List.mem_of_mem_drop hx)

end Refmt.FloatL

namespace Refmt.C03L
open Refmt Refmt.JsonEnc Refmt.JsonDec Refmt.FloatL

theorem natDigits_lt (n : Nat) (h : n < 10) : natDigits n = [48 + n] := by
  rw [natDigits]; simp [h]

theorem natDigits_ge (n : Nat) (h : ¬ n < 10) : natDigits n = natDigits (n / 10) ++ [48 + n % 10] := by
  rw [natDigits]; simp [h]

theorem natDigits_form (n : Nat) : ∃ b r, natDigits n = b :: r ∧ Digs (b :: r) ∧ (b = 48 → r = [] ∧ n = 0) := by
  induction n using Nat.strongRecOn with
  | _ n ih =>
    by_cases h : n < 10
    · exact ⟨48 + n, [], natDigits_lt n h, Digs.cons (isDigit_iff.2 (by omega)) Digs.nil, fun h0 => ⟨rfl, by omega⟩⟩
    · obtain ⟨b, r, e, hd, hb⟩ := ih (n / 10) (by omega)
      refine ⟨b, r ++ [48 + n % 10], by rw [natDigits_ge n h, e]; rfl, ?_, fun h0 => ?_⟩
      · exact hd.append (Digs.cons (isDigit_iff.2 (by omega)) Digs.nil)
      · omega

theorem _root_.Refmt.FloatL.Digs.nat (n : Nat) : Digs (natDigits n) := by
  obtain ⟨b, r, e, hd, _⟩ := natDigits_form n
  exact e ▸ hd

theorem foldl_digits (b : Bytes) : ∀ (acc : Nat),
    b.foldl (fun acc b => acc * 10 + (b - 48)) acc = acc * 10 ^ b.length + b.foldl (fun acc b => acc * 10 + (b - 48)) 0 := by
  induction b with
  | nil => intro acc; simp
  | cons x xs ih =>
    intro acc
    simp only [List.foldl_cons, List.length_cons, Nat.zero_mul, Nat.zero_add]
    rw [ih (acc * 10 + (x - 48)), ih (x - 48), Nat.pow_succ, Nat.add_mul, Nat.mul_assoc, Nat.mul_comm 10,
      Nat.add_assoc]

theorem digitsVal_append (a b : Bytes) : digitsVal (a ++ b) = digitsVal a * 10 ^ b.length + digitsVal b := by
  unfold digitsVal
  rw [List.foldl_append, foldl_digits]

theorem digitsVal_cons0 (l : Bytes) : digitsVal (48 :: l) = digitsVal l := rfl

theorem digitsVal_replicate0 : ∀ j, digitsVal (List.replicate j 48) = 0
  | 0 => rfl
  | j+1 => (digitsVal_cons0 _).trans (digitsVal_replicate0 j)

theorem digitsVal_snoc (l : Bytes) (d : Nat) : digitsVal (l ++ [d]) = digitsVal l * 10 + (d - 48) := by
  rw [digitsVal_append]
  simp [digitsVal]

theorem digitsVal_zeros (l : Bytes) (j : Nat) : digitsVal (l ++ List.replicate j 48) = digitsVal l * 10 ^ j := by
  rw [digitsVal_append, digitsVal_replicate0, List.length_replicate, Nat.add_zero]

theorem digitsVal_zeros_left (j : Nat) (l : Bytes) : digitsVal (List.replicate j 48 ++ l) = digitsVal l := by
  rw [digitsVal_append, digitsVal_replicate0, Nat.zero_mul, Nat.zero_add]

theorem digitsVal_natDigits (n : Nat) : digitsVal (natDigits n) = n := by
  induction n using Nat.strongRecOn with
  | _ n ih =>
    by_cases h : n < 10
    · rw [natDigits_lt n h]; simp [digitsVal]
    · rw [natDigits_ge n h, digitsVal_snoc, ih (n / 10) (by omega)]; omega

theorem lt_pow_natDigits (n : Nat) : n < 10 ^ (natDigits n).length := by
  induction n using Nat.strongRecOn with
  | _ n ih =>
    by_cases h : n < 10
    · rw [natDigits_lt n h]; simpa using h
    · rw [natDigits_ge n h, List.length_append, List.length_singleton, Nat.pow_succ]
      have := ih (n / 10) (by omega)
      omega

theorem natDigits_snoc (acc d : Nat) (ha : 1 ≤ acc) (hd : d < 10) :
    natDigits (acc * 10 + d) = natDigits acc ++ [48 + d] := by
  rw [natDigits_ge _ (by omega), Nat.mul_comm, Nat.mul_add_div (by decide), Nat.mul_add_mod,
    Nat.div_eq_of_lt hd, Nat.mod_eq_of_lt hd, Nat.add_zero]

theorem natDigits_foldl : ∀ (r : Bytes) (acc : Nat), Digs r → 1 ≤ acc →
    natDigits (r.foldl (fun a c => a * 10 + (c - 48)) acc) = natDigits acc ++ r
  | [], acc, _, _ => by rw [List.foldl_nil, List.append_nil]
  | z :: r, acc, hd, ha => by
    have hz := isDigit_iff.1 hd.head
    rw [List.foldl_cons, natDigits_foldl r _ hd.tail (by omega), natDigits_snoc acc _ ha (by omega),
      List.append_assoc, show 48 + (z - 48) = z by omega]
    rfl

theorem natDigits_digitsVal (b : Nat) (hb : 49 ≤ b ∧ b ≤ 57) (r : Bytes) (hd : Digs r) :
    natDigits (digitsVal (b :: r)) = b :: r := by
  unfold digitsVal
  rw [List.foldl_cons, natDigits_foldl r _ hd (by omega), natDigits_lt _ (by omega),
    show 48 + (0 * 10 + (b - 48)) = b by omega]
  rfl

end Refmt.C03L
