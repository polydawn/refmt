/-
  The encoder's text `txtV` read back.  By the reference reader `Spec.Json.parse`: domain predicate `DOk`,
  fuel, and the mutual induction `parseV / parseL / parseE`.  By the decoder machine, for C03: `decTop_ws`:
  from the initial state, behind whitespace and with any push-back mark, the machine reads the text of a tree
  as the tokens of the retyped tree and stops in front of what follows; it is `parseV` and the machine's
  refinement of the reference reader (`C05L.run_of_parse`).  `decV` says the same at a value position inside
  a container, in terms of runs over a prefix of the input (`VCtx`, `DRuns`).
-/
import RefmtProofs.Lemmas.JsonEncL
import RefmtProofs.Lemmas.JsonDec
namespace Refmt.C03L
open Refmt Refmt.JsonEnc Refmt.JsonDec Refmt.Spec.Json

mutual
  def DOk : TV → Bool
    | .scalar t => decOk t.body
    | .arr _ _ items => DOkL items
    | .map _ _ es => DOkE es
  def DOkL : List TV → Bool
    | [] => true
    | v :: vs => DOk v && DOkL vs
  def DOkE : List (TV × TV) → Bool
    | [] => true
    | (k, v) :: es =>
      (match k with | .scalar t => (match t.body with | .str _ => true | _ => false) | _ => false) && DOk v && DOkE es
end

/-- the key clause of the tree predicates (`DOkE`, `C12L.EOkE`, `C03.JWFe`), whatever they ask of the string -/
theorem key_form {p : Bytes → Bool} {k : TV}
    (h : (match k with | .scalar t => (match t.body with | .str s => p s | _ => false) | _ => false) = true) :
    ∃ s tag, k = .scalar ⟨.str s, tag⟩ := by
  cases k with
  | scalar t =>
    obtain ⟨body, tag⟩ := t
    cases body <;> simp at h
    exact ⟨_, _, rfl⟩
  | arr _ _ _ => simp at h
  | map _ _ _ => simp at h

theorem DOk_head (c : Cfg) (d : Nat) (v : TV) (h : DOk v = true) : ∃ hd tl, txtV c d v = hd :: tl ∧ vStartByte hd := by
  cases v with
  | scalar t => simpa [txtV] using scalarTxt_head t.body (by simpa [DOk] using h)
  | arr _ _ items => exact ⟨91, _, by rw [txtV], by unfold vStartByte; decide⟩
  | map _ _ es => exact ⟨123, _, by rw [txtV], by unfold vStartByte; decide⟩

-- fuel on which the reference reader reads the text of a tree (`parseV`); `needV_le` (twice the number of tokens) with `lenV` fits it under `parse`'s `2 * len + 2`
mutual
  def needV : TV → Nat
    | .scalar _ => 1
    | .arr _ _ items => 1 + needL items
    | .map _ _ es => 1 + needE es
  def needL : List TV → Nat
    | [] => 1
    | v :: vs => 1 + (needV v + needL vs)
  def needE : List (TV × TV) → Nat
    | [] => 1
    | (_, v) :: es => 1 + (needV v + needE es)
end

mutual
  theorem needV_le : ∀ (v : TV), needV v + 1 ≤ 2 * v.flatten.length
    | .scalar t => by simp [needV, TV.flatten]
    | .arr _ _ items => by
      have := needL_le items
      simp only [needV, TV.flatten, List.length_cons, List.length_append, List.length_nil]; omega
    | .map _ _ es => by
      have := needE_le es
      simp only [needV, TV.flatten, List.length_cons, List.length_append, List.length_nil]; omega
  theorem needL_le : ∀ (vs : List TV), needL vs ≤ 2 * (TV.flattenList vs).length + 1
    | [] => by simp [needL, TV.flattenList]
    | v :: vs => by
      have := needV_le v
      have := needL_le vs
      simp only [needL, TV.flattenList, List.length_append]; omega
  theorem needE_le : ∀ (es : List (TV × TV)), needE es ≤ 2 * (TV.flattenEntries es).length + 1
    | [] => by simp [needE, TV.flattenEntries]
    | (k, v) :: es => by
      have := needV_le v
      have := needE_le es
      simp only [needE, TV.flattenEntries, List.length_append]; omega
end

mutual
  theorem lenV (c : Cfg) : ∀ (v : TV), DOk v = true → ∀ d, v.flatten.length ≤ (txtV c d v).length
    | .scalar t, h, d => by
      obtain ⟨hd, tl, e, _⟩ := scalarTxt_head t.body (by simpa [DOk] using h)
      simp [TV.flatten, txtV, e]
    | .arr _ _ items, h, d => by
      have := lenL c items (by simpa [DOk] using h) (d + 1) false
      simp only [TV.flatten, txtV, List.length_cons, List.length_append, List.length_nil]; omega
    | .map _ _ es, h, d => by
      have := lenE c es (by simpa [DOk] using h) (d + 1) false
      simp only [TV.flatten, txtV, List.length_cons, List.length_append, List.length_nil]; omega
  theorem lenL (c : Cfg) : ∀ (vs : List TV), DOkL vs = true → ∀ d sm, (TV.flattenList vs).length ≤ (txtL c d sm vs).length
    | [], _, d, sm => by simp [TV.flattenList]
    | v :: vs, h, d, sm => by
      simp only [DOkL, Bool.and_eq_true] at h
      have := lenV c v h.1 d
      have := lenL c vs h.2 d true
      simp only [TV.flattenList, txtL, List.length_append]; omega
  theorem lenE (c : Cfg) : ∀ (es : List (TV × TV)), DOkE es = true → ∀ d sm,
      (TV.flattenEntries es).length ≤ (txtE c d sm es).length
    | [], _, d, sm => by simp [TV.flattenEntries]
    | (k, v) :: es, h, d, sm => by
      simp only [DOkE, Bool.and_eq_true] at h
      obtain ⟨⟨hk, hv⟩, hes⟩ := h
      obtain ⟨s, tag, rfl⟩ := key_form (p := fun _ => true) hk
      have := lenV c v hv d
      have := lenE c es hes d true
      simp only [TV.flattenEntries, TV.flatten, txtE, keyTxt, scalarTxt, List.length_append, List.length_cons,
        List.length_nil]; omega
end


theorem Stop_txtL (c : Cfg) (hc : CfgWs c) (d : Nat) (vs : List TV) (b : Nat) (hb : numEnd b = true) (rest : Bytes) :
    Stop (txtL c d true vs ++ (closeSep c d true ++ b :: rest)) = true := by
  cases vs with
  | nil => simpa [txtL] using Stop_ws_cons _ b rest (closeSep_ws hc d true) hb
  | cons v vs => simp [txtL, sep, Stop]; decide

theorem Stop_txtE (c : Cfg) (hc : CfgWs c) (d : Nat) (es : List (TV × TV)) (b : Nat) (hb : numEnd b = true) (rest : Bytes) :
    Stop (txtE c d true es ++ (closeSep c d true ++ b :: rest)) = true := by
  cases es with
  | nil => simpa [txtE] using Stop_ws_cons _ b rest (closeSep_ws hc d true) hb
  | cons e es => obtain ⟨k, v⟩ := e; simp [txtE, sep, Stop]; decide

theorem parseValue_ws (fuel : Nat) (w X : Bytes) (hw : WsOnly w) : parseValue fuel (w ++ X) = parseValue fuel X := by
  cases fuel with
  | zero => simp [parseValue]
  | succ k => simp only [parseValue, skip_ws w X hw]

theorem parseValue_arrOpen (fuel : Nat) (X : Bytes) :
    parseValue (fuel + 1) (91 :: X) = (parseElements fuel X false).map fun (vs, r') => (.arr none (-1) vs, r') := by
  rw [C05L.parseValue_succ, C05L.skip_cons_notws X (by decide)]
  rfl

theorem parseValue_mapOpen (fuel : Nat) (X : Bytes) :
    parseValue (fuel + 1) (123 :: X) = (parseMembers fuel X false).map fun (es, r') => (.map none (-1) es, r') := by
  rw [C05L.parseValue_succ, C05L.skip_cons_notws X (by decide)]
  rfl

theorem skip_sep_false {c : Cfg} (hc : CfgWs c) (d : Nat) (hd : Nat) (Y : Bytes) (hv : vStartByte hd) :
    skip (sep c d false ++ hd :: Y) = hd :: Y := by
  simp only [sep, Bool.false_eq_true, if_false, List.nil_append]
  rw [skip_ws _ _ (sep_tail_ws hc d), C05L.skip_cons_notws (b := hd) Y hv.1]

theorem skip_sep_true (c : Cfg) (d : Nat) (Y : Bytes) :
    skip (sep c d true ++ Y) = 44 :: (c.lineBytes ++ ((List.replicate d c.indent).flatten ++ Y)) := by
  simp only [sep, if_true, List.cons_append, List.nil_append, List.append_assoc]
  rw [C05L.skip_cons_notws (b := 44) _ (by decide)]

theorem skip_tail {c : Cfg} (hc : CfgWs c) (d : Nat) (Y : Bytes) :
    skip (c.lineBytes ++ ((List.replicate d c.indent).flatten ++ Y)) = skip Y := by
  rw [← List.append_assoc]; exact skip_ws _ _ (sep_tail_ws hc d)

theorem round_sep {c : Cfg} (hc : CfgWs c) (d : Nat) (sm : Bool) (close hd : Nat) (Y : Bytes)
    (hv : vStartByte hd) (hcl : hd ≠ close) (h44 : close ≠ 44) :
    C05L.round close sm (sep c d sm ++ hd :: Y) = .item hd Y := by
  unfold C05L.round
  cases sm
  · rw [skip_sep_false hc d hd Y hv]
    simp [C05L.entryStart, hcl]
  · rw [skip_sep_true c d]
    simp only [show ((44 : Nat) == close) = false by simpa using Ne.symm h44, C05L.entryStart, Bool.false_eq_true, if_false,
      if_true, beq_self_eq_true, skip_tail hc d, C05L.skip_cons_notws (b := hd) Y hv.1,
      show (hd == close) = false by simpa using hcl]

theorem round_closeSep {c : Cfg} (hc : CfgWs c) (d : Nat) (sm sm' : Bool) (close : Nat) (rest : Bytes)
    (hw : isWs close = false) :
    C05L.round close sm (closeSep c d sm' ++ close :: rest) = .close rest := by
  unfold C05L.round
  rw [skip_ws _ _ (closeSep_ws hc d sm'), C05L.skip_cons_notws rest hw]
  simp

theorem parseElements_close {c : Cfg} (hc : CfgWs c) (d : Nat) (sm sm' : Bool) (fuel : Nat) (rest : Bytes) :
    parseElements (fuel + 1) (closeSep c d sm' ++ 93 :: rest) sm = some ([], rest) := by
  rw [C05L.parseElements_succ, round_closeSep hc d sm sm' 93 rest (by decide)]

theorem parseElements_item {c : Cfg} (hc : CfgWs c) (d : Nat) (sm : Bool) (fuel : Nat) (hd : Nat) (Y : Bytes)
    (hv : vStartByte hd) :
    parseElements (fuel + 1) (sep c d sm ++ hd :: Y) sm =
      match parseValue fuel (hd :: Y) with
      | none => none
      | some (v, r2) => (parseElements fuel r2 true).map fun (vs, r3) => (v :: vs, r3) := by
  rw [C05L.parseElements_succ, round_sep hc d sm 93 hd Y hv hv.2.1 (by decide)]
  rfl

theorem parseMembers_close {c : Cfg} (hc : CfgWs c) (d : Nat) (sm sm' : Bool) (fuel : Nat) (rest : Bytes) :
    parseMembers (fuel + 1) (closeSep c d sm' ++ 125 :: rest) sm = some ([], rest) := by
  rw [C05L.parseMembers_succ, round_closeSep hc d sm sm' 125 rest (by decide)]

theorem skip_colon (c : Cfg) (Y : Bytes) : ∃ w, WsOnly w ∧ skip (colon c ++ Y) = 58 :: (w ++ Y) := by
  unfold colon
  cases c.line with
  | none => exact ⟨[], WsOnly.nil, by simp [skip, isWs]⟩
  | some l => exact ⟨[32], by intro x hx; simp at hx; subst hx; decide, by simp [skip, isWs]⟩

theorem parseMembers_entry {c : Cfg} (hc : CfgWs c) (d : Nat) (sm : Bool) (fuel : Nat) (k : Bytes) (Y : Bytes) :
    parseMembers (fuel + 1) (sep c d sm ++ ((34 :: (esc k ++ [34])) ++ (colon c ++ Y))) sm =
      match parseValue fuel Y with
      | none => none
      | some (v, r4) => (parseMembers fuel r4 true).map fun (es, r5) =>
          ((.scalar ⟨.str (toValidUtf8 k), none⟩, v) :: es, r5) := by
  obtain ⟨w, hw, hsk⟩ := skip_colon c Y
  have hq : vStartByte 34 := by unfold vStartByte; decide
  have key : ∀ X, (34 :: (esc k ++ [34])) ++ X = 34 :: (esc k ++ 34 :: X) := by intro X; simp
  rw [key, C05L.parseMembers_succ, round_sep hc d sm 125 34 _ hq (by decide) (by decide)]
  simp only [C05L.refKey_str (lexString_esc k (colon c ++ Y)) hsk, unq_esc, parseValue_ws fuel w Y hw]
  rfl

mutual
  theorem parseV (c : Cfg) (hc : CfgWs c) : ∀ (v : TV), DOk v = true → ∀ (fuel d : Nat) (rest : Bytes),
      needV v ≤ fuel → Stop rest = true → parseValue fuel (txtV c d v ++ rest) = some (retV v, rest)
    | .scalar t, h, fuel, d, rest, hf, hs => by
      obtain ⟨k, rfl⟩ : ∃ k, fuel = k + 1 := ⟨fuel - 1, by simp [needV] at hf; omega⟩
      have e := parseValue_scalar t.body (by simpa [DOk] using h) k rest hs
      rw [show retypeTok ⟨t.body, none⟩ = retypeTok t from rfl] at e
      simpa [txtV, retV] using e
    | .arr tag len items, h, fuel, d, rest, hf, hs => by
      obtain ⟨k, rfl⟩ : ∃ k, fuel = k + 1 := ⟨fuel - 1, by simp [needV] at hf; omega⟩
      have h2 := parseL c hc items (by simpa [DOk] using h) k (d + 1) false rest (by simp [needV] at hf; omega)
      simp only [txtV, List.cons_append, List.append_assoc, List.nil_append, parseValue_arrOpen]
      simp only [Bool.false_or] at h2
      rw [h2]; rfl
    | .map tag len es, h, fuel, d, rest, hf, hs => by
      obtain ⟨k, rfl⟩ : ∃ k, fuel = k + 1 := ⟨fuel - 1, by simp [needV] at hf; omega⟩
      have h2 := parseE c hc es (by simpa [DOk] using h) k (d + 1) false rest (by simp [needV] at hf; omega)
      simp only [txtV, List.cons_append, List.append_assoc, List.nil_append, parseValue_mapOpen]
      simp only [Bool.false_or] at h2
      rw [h2]; rfl
  theorem parseL (c : Cfg) (hc : CfgWs c) : ∀ (vs : List TV), DOkL vs = true → ∀ (fuel d : Nat) (sm : Bool) (rest : Bytes),
      needL vs ≤ fuel →
      parseElements fuel (txtL c d sm vs ++ (closeSep c d (sm || !vs.isEmpty) ++ 93 :: rest)) sm = some (retL vs, rest)
    | [], _, fuel, d, sm, rest, hf => by
      obtain ⟨k, rfl⟩ : ∃ k, fuel = k + 1 := ⟨fuel - 1, by simp [needL] at hf; omega⟩
      simpa [txtL, retL] using parseElements_close hc d sm _ k rest
    | v :: vs, h, fuel, d, sm, rest, hf => by
      obtain ⟨k, rfl⟩ : ∃ k, fuel = k + 1 := ⟨fuel - 1, by simp [needL] at hf; omega⟩
      simp only [DOkL, Bool.and_eq_true] at h
      simp only [needL] at hf
      obtain ⟨hd, tl, e, hv⟩ := DOk_head c d v h.1
      have hS := Stop_txtL c hc d vs 93 (by decide) rest
      have h1 := parseV c hc v h.1 k d _ (by omega) hS
      have h2 := parseL c hc vs h.2 k d true rest (by omega)
      simp only [Bool.true_or] at h2
      rw [e, List.cons_append] at h1
      simp only [txtL, List.append_assoc, e, List.cons_append, List.isEmpty_cons, Bool.not_false, Bool.or_true]
      rw [parseElements_item hc d sm k hd _ hv, h1]
      simp only [h2, Option.map_some, retL]
  theorem parseE (c : Cfg) (hc : CfgWs c) : ∀ (es : List (TV × TV)), DOkE es = true →
      ∀ (fuel d : Nat) (sm : Bool) (rest : Bytes), needE es ≤ fuel →
      parseMembers fuel (txtE c d sm es ++ (closeSep c d (sm || !es.isEmpty) ++ 125 :: rest)) sm = some (retE es, rest)
    | [], _, fuel, d, sm, rest, hf => by
      obtain ⟨k, rfl⟩ : ∃ k, fuel = k + 1 := ⟨fuel - 1, by simp [needE] at hf; omega⟩
      simpa [txtE, retE] using parseMembers_close hc d sm _ k rest
    | (key, v) :: es, h, fuel, d, sm, rest, hf => by
      obtain ⟨k, rfl⟩ : ∃ k, fuel = k + 1 := ⟨fuel - 1, by simp [needE] at hf; omega⟩
      simp only [DOkE, Bool.and_eq_true] at h
      obtain ⟨⟨hk, hv⟩, hes⟩ := h
      obtain ⟨s, tag, rfl⟩ := key_form (p := fun _ => true) hk
      simp only [needE] at hf
      have hS := Stop_txtE c hc d es 125 (by decide) rest
      have h1 := parseV c hc v hv k d _ (by omega) hS
      have h2 := parseE c hc es hes k d true rest (by omega)
      simp only [Bool.true_or] at h2
      simp only [txtE, keyTxt, scalarTxt, List.append_assoc, List.isEmpty_cons, Bool.not_false, Bool.or_true]
      have := parseMembers_entry hc d sm k s (txtV c d v ++ (txtE c d true es ++ (closeSep c d true ++ 125 :: rest)))
      rw [this, h1]
      simp only [h2, Option.map_some, retE, retV, retypeTok]
end

end Refmt.C03L

-- the decoder machine: of `JsonEnc` only `Cfg` is open, since `step`, `init`, `St` are names of both machines
namespace Refmt.C03L
open Refmt Refmt.JsonDec Refmt.Spec.Json
open Refmt.JsonEnc (Cfg)

abbrev rdOf (bs : Bytes) (pb : Nat) : Rd := ⟨bs, none, pb⟩

theorem decTop_ws (c : Cfg) (hc : CfgWs c) (v : TV) (h : DOk v = true) (fuel : Nat) (w rest : Bytes) (pb : Nat)
    (hw : WsOnly w) (hs : Stop rest = true) (hf : v.flatten.length ≤ fuel) :
    ∃ pb', run fuel JsonDec.init (rdOf (w ++ (txtV c 0 v ++ rest)) pb) [] 0 =
      ⟨v.flatten.map retypeTok, .ok (), rdOf rest pb', v.flatten.length⟩ := by
  have hp := parseV c hc v h (needV v) 0 rest (Nat.le_refl _) hs
  rw [← parseValue_ws _ w _ hw] at hp
  obtain ⟨pb', e⟩ := C05L.run_of_parse _ _ _ _ hp pb (fuel - v.flatten.length)
  rw [retV_flatten, List.length_map, show v.flatten.length + (fuel - v.flatten.length) = fuel by omega] at e
  exact ⟨pb', e⟩

theorem decTop (c : Cfg) (hc : CfgWs c) (v : TV) (h : DOk v = true) (fuel : Nat) (rest : Bytes)
    (hs : Stop rest = true) (hf : v.flatten.length ≤ fuel) :
    (run fuel JsonDec.init (rdOf (txtV c 0 v ++ rest) 0) [] 0).toks = v.flatten.map retypeTok ∧
    (run fuel JsonDec.init (rdOf (txtV c 0 v ++ rest) 0) [] 0).res = .ok () := by
  obtain ⟨pb', e⟩ := decTop_ws c hc v h fuel [] rest 0 WsOnly.nil hs hf
  rw [List.nil_append] at e
  rw [e]
  exact ⟨rfl, rfl⟩

/-- In state `s`, after the bytes `pre`, the next step reads one value with `acceptValue` in state `sIn`
    (inside a container, so the helper's done flag is dropped), and `sIn` has a frame to return to. -/
def VCtx (s sIn : St) (pre : Bytes) : Prop :=
  (∃ g stk, sIn.stack = g :: stk) ∧
  ∀ b r pb, vStartByte b → subStep s (rdOf (pre ++ b :: r) pb) = inContainer (acceptValue sIn (rdOf r 0) b)

def colonWs (c : Cfg) : Bytes := if c.line.isSome then [32] else []

theorem colon_eq (c : Cfg) : colon c = 58 :: colonWs c := rfl

/-- From `s`, reading `bs` (followed by any `rest` satisfying `P`) yields the tokens `ts`, none of them
    final, and leaves the machine in `s'` in front of `rest`. -/
def DRuns (P : Bytes → Prop) (s : St) (bs : Bytes) (ts : List Tok) (s' : St) : Prop :=
  ∀ (fuel : Nat) (rest : Bytes) (acc : List Tok) (steps pb : Nat), P rest →
    ∃ pb', run (ts.length + fuel) s (rdOf (bs ++ rest) pb) acc steps =
      run fuel s' (rdOf rest pb') (ts.reverse ++ acc) (steps + ts.length)

def StopRest : Bytes → Prop := fun r => Stop r = true

theorem DRuns.single {P : Bytes → Prop} {s s' : St} {bs : Bytes} {t : Tok}
    (h : ∀ rest pb, P rest → ∃ pb', step s (rdOf (bs ++ rest) pb) = ⟨s', rdOf rest pb', .tok t false⟩) :
    DRuns P s bs [t] s' := by
  intro fuel rest acc steps pb hp
  obtain ⟨pb', e⟩ := h rest pb hp
  refine ⟨pb', ?_⟩
  have : [t].length + fuel = fuel + 1 := by simp [Nat.add_comm]
  rw [this, run]
  simp [e]

theorem DRuns.append {P P' : Bytes → Prop} {s s' s'' : St} {bs bs' : Bytes} {ts ts' : List Tok}
    (h1 : DRuns P' s bs ts s') (h2 : DRuns P s' bs' ts' s'') (hp : ∀ rest, P rest → P' (bs' ++ rest)) :
    DRuns P s (bs ++ bs') (ts ++ ts') s'' := by
  intro fuel rest acc steps pb hr
  obtain ⟨p1, e1⟩ := h1 (ts'.length + fuel) (bs' ++ rest) acc steps pb (hp rest hr)
  obtain ⟨p2, e2⟩ := h2 fuel rest (ts.reverse ++ acc) (steps + ts.length) p1 hr
  refine ⟨p2, ?_⟩
  have : (ts ++ ts').length + fuel = ts.length + (ts'.length + fuel) := by simp [Nat.add_assoc]
  rw [this, List.append_assoc, e1, e2]
  simp [Nat.add_assoc]

theorem DRuns.finish {P P' : Bytes → Prop} {s s' : St} {bs bs' : Bytes} {ts : List Tok} {t : Tok}
    (h : DRuns P' s bs ts s')
    (hstep : ∀ rest pb, P rest → ∃ st rd', step s' (rdOf (bs' ++ rest) pb) = ⟨st, rd', .tok t true⟩)
    (hp : ∀ rest, P rest → P' (bs' ++ rest))
    (fuel : Nat) (rest : Bytes) (hr : P rest) (hf : ts.length + 1 ≤ fuel) :
    (run fuel s (rdOf ((bs ++ bs') ++ rest) 0) [] 0).toks = ts ++ [t] ∧
    (run fuel s (rdOf ((bs ++ bs') ++ rest) 0) [] 0).res = .ok () := by
  obtain ⟨k, rfl⟩ : ∃ k, fuel = ts.length + (k + 1) := ⟨fuel - ts.length - 1, by omega⟩
  obtain ⟨p1, e1⟩ := h (k + 1) (bs' ++ rest) [] 0 0 (hp rest hr)
  obtain ⟨st, rd', e2⟩ := hstep rest p1 hr
  rw [List.append_assoc, e1, run]
  simp [e2]


theorem decV (c : Cfg) (hc : CfgWs c) : ∀ (v : TV), DOk v = true → ∀ (d : Nat) (s sIn : St) (pre : Bytes),
    VCtx s sIn pre → DRuns StopRest s (pre ++ txtV c d v) (v.flatten.map retypeTok) sIn := by
  intro v h d s sIn pre hctx fuel rest acc steps pb hs
  obtain ⟨hd, tl, e, hv⟩ := DOk_head c d v h
  obtain ⟨g, stk, hstk⟩ := hctx.1
  have hp := parseV c hc v h (needV v) d rest (Nat.le_refl _) hs
  rw [e, List.cons_append] at hp
  have hstep := C05L.step_of_sub_nested s sIn _ _ hd g stk hstk (hctx.2 hd (tl ++ rest) pb hv)
  obtain ⟨pb', hV⟩ := C05L.run_value _ _ _ _ hd (tl ++ rest) hp (C05L.skip_cons_notws (b := hd) _ hv.1) sIn 0 fuel acc steps
  have hpos := (retV v).flatten_pos
  rw [retV_flatten] at hV hpos
  refine ⟨pb', ?_⟩
  rw [List.append_assoc, e, List.cons_append,
    show (v.flatten.map retypeTok).length + fuel = ((v.flatten.map retypeTok).length - 1 + fuel) + 1 by omega,
    C05L.run_succ, hstep, hV]
  obtain ⟨stack, frame⟩ := sIn
  cases hstk
  rfl

end Refmt.C03L
