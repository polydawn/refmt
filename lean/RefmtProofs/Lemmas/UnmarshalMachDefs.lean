/-
  Stateful object unmarshaller against the functional model: the notions of the simulation.  The driver is followed in
  continuation-passing style (`kont`: what happens once the current machine reports done; the stack below it stays
  opaque); the machines that step another one (pointer, wildcard, transform, union) form a chain `Wr` above a leaf
  machine, so that each leaf machine is simulated once, below any chain (`Agree`, `SimLeaf`).  `ub` is the slack that
  union machines and tagged atlas entries need: with them a chain has up to 3 wrappers and `ub = 1` (machine fuel 17),
  without them (`UMachL.Closed`) depth 2 and `ub = 0` (fuel 14).
-/
import RefmtModel.Model.Obj.UnmarshalMach
import RefmtProofs.Lemmas.ObjMarshal
import RefmtProofs.Lemmas.ObjUnmEq
import RefmtProofs.Lemmas.RowList
namespace Refmt.UMachU
open Refmt Refmt.Obj Refmt.Obj.UM

section
variable (ts : Types) (a : Atlas) (trs : Trs) (it : IfaceTys)

/-- a done report on a non-empty stack is dropped, as `Recurse` does -/
def pump1 (sf1 sf : Nat) (s : UState) : List Tok → URes
  | [] => .more 0
  | t :: rest =>
    match ustep ts a trs it sf1 s t with
    | .error x => x.toURes
    | .ok res =>
      match res.done, s.stack with
      | some v, [] => .ok v rest 1
      | _, _ => (pump ts a trs it sf res.st rest).shift 1

def kont (fa sf : Nat) (be : Option XFail) : List URef → Val → List URow → List Tok → URes
  | [], v, _, rest => .ok v rest 1
  | p :: stk, v, R, rest =>
    match absorbM ts fa p v R with
    | .error x => x.toURes
    | .ok Rp => (pump ts a trs it sf ⟨Rp, stk, some p, be⟩ rest).shift 1

def rtp (fr sf1 sf : Nat) (R : List URow) (stk : List URef) (be : Option XFail) (c : URef) (id : Nat) (cur : Val) :
    List Tok → URes
  | [] => .more 0
  | t :: rest =>
    match resetM ts a fr c id cur R with
    | .error x => x.toURes
    | .ok R1 => pump1 ts a trs it sf1 sf ⟨R1, stk, some c, be⟩ (t :: rest)

def mapDone (w : Val → Val) : X SRes → X SRes
  | .error x => .error x
  | .ok res => .ok { res with done := res.done.map w }

def tagW (ty : Nat) (v : Val) : Val := .iface (some (ty, v))

def ifaceW (row : URow) (v : Val) : Val := tagW (row.wild.holder.getD row.wild.dyn) v

def mapDoneO (F : Val → Option Val) : X SRes → X SRes
  | .error x => .error x
  | .ok res =>
    match res.done with
    | none => .ok res
    | some v =>
      match F v with
      | some v' => .ok { res with done := some v' }
      | none => .error (.f .err)

/-- the wrapping machines from the driver's current machine `c` down to the leaf `⟨lo.length, mk⟩` with row `row` (rows
    `lo ++ row :: …`).  A wrapper lives in row `i` of `lo ++ [row]`, the leaf's own row or one below it: the wildcard and
    the union machine put their delegate into `slab.tip()`, which need not be their own row.  `F` is what the transform
    machine does to the content the leaf reports (`U` stands for `trs.u`), `w` what the others then do to it, `d` their
    number; the last index is the row of a union machine in its delegate phase in the chain, which has at most the
    pointer machine above it (`ptrU`) -/
inductive Wr (U : Nat → Val → Option Val) : URef → List URow → URow → MK → (Val → Option Val) → (Val → Val) → Nat → Option Nat → Prop
  | refl (lo : List URow) (row : URow) (k : MK) : Wr U ⟨lo.length, k⟩ lo row k some id 0 none
  | trS (lo : List URow) (row : URow) {k : MK} : row.transform.delegate = some k →
      Wr U ⟨lo.length, .transform⟩ lo row k (U row.transform.trFunc) id 1 none
  | ptr {lo row i r0 k mk F w d} : (lo ++ [row])[i]? = some r0 → r0.ptr.mach = some k → r0.ptr.firstStep = false →
      Wr U ⟨i, k⟩ lo row mk F w d none → Wr U ⟨i, .ptr⟩ lo row mk F (wrapPtr r0.ptr.peelCount ∘ w) (d + 1) none
  | wild {lo row i r0 dl mk F w d} : (lo ++ [row])[i]? = some r0 → r0.wild.delegate = some dl →
      Wr U dl lo row mk F w d none → Wr U ⟨i, .wild⟩ lo row mk F (ifaceW r0 ∘ w) (d + 1) none
  | union {lo row i r0 dl mk F w d} : (lo ++ [row])[i]? = some r0 → r0.union.phase = .delegate →
      r0.union.delegate = some dl → Wr U dl lo row mk F w d none → Wr U ⟨i, .union⟩ lo row mk F w (d + 1) (some i)
  | ptrU {lo row i r0 mk F w d} : (lo ++ [row])[i]? = some r0 → r0.ptr.mach = some .union → r0.ptr.firstStep = false →
      Wr U ⟨i, .union⟩ lo row mk F w d (some i) → Wr U ⟨i, .ptr⟩ lo row mk F w (d + 1) (some i)

def closeU (v : Val) (r : URow) : URow := { r with union := { r.union with tmp_rv := v, phase := .acceptMapClose } }

/-- what a union machine in its delegate phase (row `i`) makes of its delegate's step: a done report is kept in its
    row (`closeU`) and not passed on -/
def finU (un : Option Nat) : X SRes → X SRes
  | .error e => .error e
  | .ok ⟨none, st⟩ => .ok ⟨none, st⟩
  | .ok ⟨some v, st⟩ =>
    match un with
    | some i => .ok ⟨none, st.upd i (closeU v)⟩
    | none => .ok ⟨some v, st⟩

def CfgLeaf (row : URow) (base : Nat) (k : MK) : UMach → Prop
  | .prim => k = .prim ∧ row.prim.ty = base ∧ row.prim.anyKind = false
  | .errThunk => k = .errThunk ∧ row.err.err = some .err
  | .slice _ => k = .slice
  | .array _ _ => k = .array
  | .map _ _ => k = .map
  | .structMap fs => k = .struct ∧ row.struct.fields = fs
  | _ => False

def CfgBare (row : URow) (base : Nat) (k : MK) : UMach → Prop
  | .wildcard => k = .wild
  | .transform fn uty => k = .transform ∧ row.transform.trFunc = fn ∧ row.transform.recv_rt = uty ∧
      ∃ k', row.transform.delegate = some k' ∧ CfgLeaf row uty k' (upickBare ts a uty)
  | .union ms => k = .union ∧ row.union.members = ms
  | M => CfgLeaf row base k M

/-- a row configured (by `requisitionMachine`) for declared type `id`, machine kind `ck` -/
def CfgV (row : URow) (id : Nat) (ck : MK) : Prop :=
  ∃ k, CfgBare ts a row (peel ts 64 0 id).2 k (upickBare ts a (peel ts 64 0 id).2) ∧
    (if (peel ts 64 0 id).1 = 0 then ck = k
     else ck = .ptr ∧ row.ptr.mach = some k ∧ row.ptr.peelCount = (peel ts 64 0 id).1)

/-- untyped slots are covered when `wi = some ifc`, `ifc` (the type id of `interface{}`) a member of `S` -/
def wildIn (S : List Nat) : Option Nat → Prop
  | some ifc => ifc ∈ S
  | none => False

instance (S : List Nat) (wi : Option Nat) : Decidable (wildIn S wi) := by
  cases wi <;> simp only [wildIn] <;> infer_instance

def okLeaf (S : List Nat) (wi : Option Nat) : UMach → Prop
  | .prim | .errThunk => True
  | .slice e | .array _ e | .map _ e => e ∈ S
  | .structMap fs => ∀ f ∈ fs, if f.ignore then wildIn S wi else f.ty ∈ S
  | _ => False

instance (S : List Nat) (wi : Option Nat) (M : UMach) : Decidable (okLeaf S wi M) := by
  cases M <;> simp only [okLeaf] <;> infer_instance

/-- what a transform that is a union member may delegate to: the machine lives in a borrowed row (`slab.tip()`), whose
    `anyKind` flag is not under control, hence no primitive machine; the map machine's key type must be accepted
    (otherwise the models differ: `Refmt.C17ObjUnmarshal.clash_union_reset`, Props/C17ObjUnmarshalFull.lean) -/
def okSub (S : List Nat) (wi : Option Nat) : UMach → Prop
  | .structMap fs => ∀ f ∈ fs, if f.ignore then wildIn S wi else f.ty ∈ S
  | .slice e | .array _ e => e ∈ S
  | .map kt e => e ∈ S ∧ (keyFnOfU ts a kt).isSome = true
  | _ => False

instance (S : List Nat) (wi : Option Nat) (M : UMach) : Decidable (okSub ts a S wi M) := by
  cases M <;> simp only [okSub] <;> infer_instance

def okMember (S : List Nat) (wi : Option Nat) (M : UMach) : Prop :=
  match M with
  | .structMap fs => ∀ f ∈ fs, if f.ignore then wildIn S wi else f.ty ∈ S
  | .map kt e => e ∈ S ∧ (keyFnOfU ts a kt).isSome = true
  | .transform _ uty => isPtrTy ts uty = false ∧ okSub ts a S wi (upickBare ts a uty)
  | _ => False

instance (S : List Nat) (wi : Option Nat) (M : UMach) : Decidable (okMember ts a S wi M) := by
  unfold okMember; cases M <;> simp only [] <;> infer_instance

/-- a dangling pool index panics in both models -/
def okMemIdx (S : List Nat) (wi : Option Nat) (idx : Nat) : Prop :=
  match a.pool[idx]? with
  | none => True
  | some me => okMember ts a S wi (umachForEntry ts me)

instance (S : List Nat) (wi : Option Nat) (idx : Nat) : Decidable (okMemIdx ts a S wi idx) := by
  unfold okMemIdx; split <;> infer_instance

def okMach (S : List Nat) (wi : Option Nat) : UMach → Prop
  | .wildcard => wildIn S wi
  | .transform _ uty => isPtrTy ts uty = false ∧ okLeaf S wi (upickBare ts a uty)
  | .union ms => ∀ m ∈ ms, okMemIdx ts a S wi m.2
  | M => okLeaf S wi M

instance (S : List Nat) (wi : Option Nat) (M : UMach) : Decidable (okMach ts a S wi M) := by
  cases M <;> simp only [okMach] <;> infer_instance

def Closed (S : List Nat) (wi : Option Nat) : Prop :=
  ∀ id ∈ S, okMach ts a S wi (upickBare ts a (peel ts 64 0 id).2)

instance (S : List Nat) (wi : Option Nat) : Decidable (Closed ts a S wi) := by unfold Closed; infer_instance
end

variable {ts : Types} {a : Atlas} {trs : Trs} {it : IfaceTys} {ub : Nat}

theorem fields_mono {S : List Nat} {P Q : Prop} (h : P → Q) {fs : List SMField}
    (hf : ∀ f ∈ fs, if f.ignore then P else f.ty ∈ S) : ∀ f ∈ fs, if f.ignore then Q else f.ty ∈ S := by
  intro f hm
  have := hf f hm
  split at this
  · rename_i hi; simp only [hi, if_true]; exact h this
  · rename_i hi; simp only [hi]; exact this

theorem okSub_mono {S : List Nat} {wi wi' : Option Nat} (h : wildIn S wi → wildIn S wi') {M : UMach}
    (hM : okSub ts a S wi M) : okSub ts a S wi' M := by
  cases M with
  | structMap fs => exact fields_mono h hM
  | _ => exact hM

theorem okMember_mono {S : List Nat} {wi wi' : Option Nat} (h : wildIn S wi → wildIn S wi') {M : UMach}
    (hM : okMember ts a S wi M) : okMember ts a S wi' M := by
  cases M with
  | structMap fs => exact fields_mono h hM
  | transform fn uty => exact ⟨hM.1, okSub_mono h hM.2⟩
  | _ => exact hM

theorem okSub.toLeaf {S : List Nat} {wi : Option Nat} {M : UMach} (h : okSub ts a S wi M) : okLeaf S wi M := by
  cases M with
  | map kt e => exact h.1
  | structMap _ | slice _ | array _ _ => exact h
  | _ => exact h.elim

/-- what the `Reset` of a slice, array or map machine reads of the type it is given -/
def TyShape (ts : Types) (base : Nat) : UMach → Prop
  | .slice e => ts.get base = .slice e
  | .array n e => ts.get base = .arr n e
  | .map k v => ts.get base = .map k v
  | _ => True

theorem umachForEntry_shape (e : Entry) : TyShape ts e.ty (umachForEntry ts e) := by
  unfold umachForEntry
  split
  · trivial
  · trivial
  · trivial
  · split
    · assumption
    · trivial
  · trivial

theorem upick_shape (base : Nat) : TyShape ts base (upickBare ts a base) := by
  unfold upickBare
  split
  · trivial
  · trivial
  · split
    · next e he => rw [← ObjL.atlas_get_ty he]; exact umachForEntry_shape e
    · split <;> first | trivial | assumption

theorem umachForEntry_not_wild (e : Entry) : umachForEntry ts e ≠ .wildcard := by
  unfold umachForEntry
  split <;> try simp
  split <;> simp

theorem updRow_at (lo : List URow) (row : URow) (hi : List URow) (f : URow → URow) :
    updRow (lo ++ row :: hi) lo.length f = lo ++ f row :: hi := by
  simp [updRow]

theorem upd_at (lo : List URow) (row : URow) (hi : List URow) (f : URow → URow) (st be) (cur : Option URef) :
    (UState.mk (lo ++ row :: hi) st cur be).upd lo.length f = ⟨lo ++ f row :: hi, st, cur, be⟩ := by
  simp [UState.upd, updRow_at]

theorem updRow_length (R : List URow) (i : Nat) (g : URow → URow) : (updRow R i g).length = R.length := by
  unfold updRow; split <;> simp

theorem updRow_get_eq {R : List URow} {i : Nat} {r : URow} (g : URow → URow) (h : R[i]? = some r) :
    (updRow R i g)[i]? = some (g r) := by
  simp only [updRow, h]
  simp [RowL.lt_of_getElem? h]

theorem updRow_get_ne {R : List URow} {i j : Nat} (g : URow → URow) (h : i ≠ j) : (updRow R i g)[j]? = R[j]? := by
  unfold updRow; split
  · simp [h]
  · rfl

theorem updRow_get_none {R : List URow} {i j : Nat} (g : URow → URow) (h : R[j]? = none) : (updRow R i g)[j]? = none := by
  rw [List.getElem?_eq_none_iff] at h ⊢
  rw [updRow_length]; exact h

theorem updRow_comm (R : List URow) (i j : Nat) (g h : URow → URow) (hc : ∀ r, g (h r) = h (g r)) :
    updRow (updRow R i g) j h = updRow (updRow R j h) i g := by
  apply List.ext_getElem?
  intro k
  by_cases hik : i = k <;> by_cases hjk : j = k
  · have hij : i = j := hik.trans hjk.symm
    subst hij; subst hik
    cases hr : R[i]? with
    | none => rw [updRow_get_none _ (updRow_get_none _ hr), updRow_get_none _ (updRow_get_none _ hr)]
    | some r => rw [updRow_get_eq _ (updRow_get_eq _ hr), updRow_get_eq _ (updRow_get_eq _ hr), hc]
  · subst hik
    rw [updRow_get_ne _ hjk]
    cases hr : R[i]? with
    | none => rw [updRow_get_none _ hr, updRow_get_none _ (updRow_get_none _ hr)]
    | some r => rw [updRow_get_eq _ hr, updRow_get_eq _ (by rw [updRow_get_ne _ hjk]; exact hr)]
  · subst hjk
    rw [updRow_get_ne _ hik]
    cases hr : R[j]? with
    | none => rw [updRow_get_none _ hr, updRow_get_none _ (updRow_get_none _ hr)]
    | some r => rw [updRow_get_eq _ hr, updRow_get_eq _ (by rw [updRow_get_ne _ hik]; exact hr)]
  · rw [updRow_get_ne _ hjk, updRow_get_ne _ hik, updRow_get_ne _ hik, updRow_get_ne _ hjk]

theorem updRow_snoc_lt (R : List URow) (x : URow) (i : Nat) (g : URow → URow) (hi : i < R.length) :
    updRow (R ++ [x]) i g = updRow R i g ++ [x] := by
  simp [updRow, List.getElem?_append_left hi, hi]

theorem release_snoc (R : List URow) (x : URow) : release (R ++ [x]) = R := by
  simp [release]

theorem dropLast_at (lo : List URow) (row x : URow) (hi : List URow) :
    release (lo ++ row :: (hi ++ [x])) = lo ++ row :: hi := by
  rw [show lo ++ row :: (hi ++ [x]) = (lo ++ row :: hi) ++ [x] by simp]
  exact release_snoc _ _

theorem getLo' {lo : List URow} {i : Nat} {r0 : URow} (h : lo[i]? = some r0) (tl : List URow) :
    (lo ++ tl)[i]? = some r0 := by
  rw [List.getElem?_append_left (RowL.lt_of_getElem? h)]; exact h

theorem getRow_ext {lo : List URow} {row r0 : URow} {i : Nat} (h : (lo ++ [row])[i]? = some r0) (hi : List URow) :
    (lo ++ row :: hi)[i]? = some r0 := by
  rw [show lo ++ row :: hi = (lo ++ [row]) ++ hi by simp]; exact getLo' h hi

theorem getRow_congr {lo : List URow} {row row' r0 : URow} {i : Nat} (h : (lo ++ [row])[i]? = some r0)
    (hp1 : row'.ptr = row.ptr) (hp2 : row'.wild = row.wild) (hp4 : row'.union = row.union) :
    ∃ r0', (lo ++ [row'])[i]? = some r0' ∧ r0'.ptr = r0.ptr ∧ r0'.wild = r0.wild ∧ r0'.union = r0.union := by
  rcases Nat.lt_or_ge i lo.length with hlt | hge
  · rw [List.getElem?_append_left hlt] at h
    exact ⟨r0, by rw [List.getElem?_append_left hlt]; exact h, rfl, rfl, rfl⟩
  · rw [List.getElem?_append_right hge] at h
    have h0 : i - lo.length = 0 := by
      cases hk : i - lo.length with
      | zero => rfl
      | succ k => rw [hk] at h; simp at h
    rw [h0] at h
    obtain rfl : row = r0 := by simpa using h
    exact ⟨row', by rw [List.getElem?_append_right hge, h0]; rfl, hp1, hp2, hp4⟩

theorem tipIx_last (lo : List URow) (row : URow) : tipIx (lo ++ row :: []) = lo.length := by
  simp [tipIx]

theorem tipIx_snoc (lo : List URow) (row : URow) (mid : List URow) (x : URow) :
    tipIx (lo ++ row :: (mid ++ [x])) = lo.length + 1 + mid.length := by
  simp [tipIx]; omega

@[simp] theorem mapDone_id (x : X SRes) : mapDone id x = x := by
  cases x with
  | error e => rfl
  | ok res => cases res with | mk d s => cases d <;> rfl

theorem mapDone_comp (w1 w2 : Val → Val) (x : X SRes) : mapDone w1 (mapDone w2 x) = mapDone (w1 ∘ w2) x := by
  cases x with
  | error e => rfl
  | ok res => cases res with | mk d s => cases d <;> rfl

@[simp] theorem mapDoneO_some (x : X SRes) : mapDoneO some x = x := by
  cases x with
  | error e => rfl
  | ok res => cases res with | mk d s => cases d <;> rfl

@[simp] theorem finU_none (x : X SRes) : finU none x = x := by
  cases x with
  | error e => rfl
  | ok res => cases res with | mk dn st => cases dn <;> rfl

theorem mapDone_finU (g : Val → Val) (i : Nat) (x : X SRes) : mapDone g (finU (some i) x) = finU (some i) x := by
  cases x with
  | error e => rfl
  | ok res => cases res with | mk dn s' => cases dn <;> rfl

theorem finU_err (un : Option Nat) (e : XFail) : finU un (.error e : X SRes) = .error e := rfl
theorem finU_cont (un : Option Nat) (s' : UState) : finU un (.ok ⟨none, s'⟩ : X SRes) = .ok ⟨none, s'⟩ := rfl

theorem ustep_err {f R stk c be t x} (h : stepM ts a trs it f c ⟨R, stk, some c, be⟩ t = .error x) :
    ustep ts a trs it (f+1) ⟨R, stk, some c, be⟩ t = .error x := by
  simp [ustep, ustepBody, h]

theorem ustep_cont {f R stk c be t s'} (h : stepM ts a trs it f c ⟨R, stk, some c, be⟩ t = .ok ⟨none, s'⟩) :
    ustep ts a trs it (f+1) ⟨R, stk, some c, be⟩ t = .ok ⟨none, s'⟩ := by
  simp [ustep, ustepBody, h]

theorem ustep_done {f R stk c be t v R' c'}
    (h : stepM ts a trs it f c ⟨R, stk, some c, be⟩ t = .ok ⟨some v, ⟨R', stk, c', be⟩⟩) :
    ustep ts a trs it (f+1) ⟨R, stk, some c, be⟩ t =
      match stk with
      | [] => .ok ⟨some v, ⟨R', [], c', be⟩⟩
      | p :: stk' =>
        match absorbM ts f p v R' with
        | .error x => .error x
        | .ok Rp => .ok ⟨none, ⟨Rp, stk', some p, be⟩⟩ := by
  cases stk with
  | nil => simp [ustep, ustepBody, h]
  | cons p stk' =>
    simp only [ustep, ustepBody, h]
    cases absorbM ts f p v R' <;> rfl

theorem ustep_rec {f g R stk c be t R' rv rt next}
    (h : stepM ts a trs it f c ⟨R, stk, some c, be⟩ t
      = recurse ts a trs it (g+1) ⟨R', stk, some c, be⟩ t rv rt next) :
    ustep ts a trs it (f+1) ⟨R, stk, some c, be⟩ t =
      match resetM ts a g next rt rv R' with
      | .error x => .error x
      | .ok R1 =>
        match ustep ts a trs it g ⟨R1, c :: stk, some next, be⟩ t with
        | .error x => .error x
        | .ok res => .ok ⟨none, res.st⟩ := by
  simp only [ustep, ustepBody, h, recurse, recurseBody]
  cases resetM ts a g next rt rv R' with
  | error x => rfl
  | ok R1 =>
    simp only []
    cases ustep ts a trs it g ⟨R1, c :: stk, some next, be⟩ t <;> rfl

variable (ts a trs it) in
/-- the two ways the driver goes through the remaining tokens, `pump` and `pump1` (whose first token is the one a
    `Recurse` hands to the machine it has just Reset): a `Step` of the current machine means the same for both -/
inductive Drv : (UState → List Tok → URes) → Nat → Nat → Prop
  | all (sf : Nat) : Drv (pump ts a trs it sf) sf sf
  | first (sf1 sf : Nat) : Drv (pump1 ts a trs it sf1 sf) sf1 sf

theorem Drv.err {P f sf R stk c be t rest x} (hD : Drv ts a trs it P (f+1) sf)
    (h : stepM ts a trs it f c ⟨R, stk, some c, be⟩ t = .error x) :
    P ⟨R, stk, some c, be⟩ (t :: rest) = x.toURes := by
  cases hD <;> simp [pump, pump1, ustep_err h]

theorem Drv.cont {P f sf R stk c be t rest s'} (hD : Drv ts a trs it P (f+1) sf)
    (h : stepM ts a trs it f c ⟨R, stk, some c, be⟩ t = .ok ⟨none, s'⟩) :
    P ⟨R, stk, some c, be⟩ (t :: rest) = (pump ts a trs it sf s' rest).shift 1 := by
  cases hD <;> simp [pump, pump1, ustep_cont h]

theorem Drv.done {P f sf R stk c be t rest v R' c'} (hD : Drv ts a trs it P (f+1) sf)
    (h : stepM ts a trs it f c ⟨R, stk, some c, be⟩ t = .ok ⟨some v, ⟨R', stk, c', be⟩⟩) :
    P ⟨R, stk, some c, be⟩ (t :: rest) = kont ts a trs it f sf be stk v R' rest := by
  cases stk with
  | nil => cases hD <;> simp [pump, pump1, ustep_done h, kont]
  | cons p stk =>
    cases hD <;> simp only [pump, pump1, ustep_done h, kont] <;> cases absorbM ts f p v R' <;> rfl

theorem Drv.call {P f g sf R stk c be t rest R' rv rt next} (hD : Drv ts a trs it P (f+1) sf)
    (h : stepM ts a trs it f c ⟨R, stk, some c, be⟩ t
      = recurse ts a trs it (g+1) ⟨R', stk, some c, be⟩ t rv rt next) :
    P ⟨R, stk, some c, be⟩ (t :: rest) = rtp ts a trs it g g sf R' (c :: stk) be next rt rv (t :: rest) := by
  cases hD <;> simp only [pump, pump1, ustep_rec h, rtp] <;> cases resetM ts a g next rt rv R' with
  | error x => rfl
  | ok R1 =>
    simp only []
    cases ustep ts a trs it g ⟨R1, c :: stk, some next, be⟩ t with
    | error x => rfl
    | ok res => cases hd : res.done <;> cases stk <;> simp [hd]

theorem pump1_rec {f g sf R stk c be t rest R' rv rt next}
    (h : stepM ts a trs it f c ⟨R, stk, some c, be⟩ t
      = recurse ts a trs it (g+1) ⟨R', stk, some c, be⟩ t rv rt next) :
    pump1 ts a trs it (f+1) sf ⟨R, stk, some c, be⟩ (t :: rest)
      = rtp ts a trs it g g sf R' (c :: stk) be next rt rv (t :: rest) :=
  (Drv.first (f+1) sf).call h

theorem pump1_top (sf : Nat) (R : List URow) (c : Option URef) (be : Option XFail) (toks : List Tok) :
    pump1 ts a trs it sf sf ⟨R, [], c, be⟩ toks = pump ts a trs it sf ⟨R, [], c, be⟩ toks := by
  cases toks with
  | nil => rfl
  | cons t rest =>
    simp only [pump1, pump]
    cases ustep ts a trs it sf ⟨R, [], c, be⟩ t with
    | error x => rfl
    | ok res => cases hd : res.done <;> simp [hd]

theorem pump_eq_pump1 {sf : Nat} {s : UState} {t : Tok} {rest : List Tok}
    (h : ∀ res, ustep ts a trs it sf s t = .ok res → res.done = none) :
    pump ts a trs it sf s (t :: rest) = pump1 ts a trs it sf sf s (t :: rest) := by
  simp only [pump, pump1]
  cases hu : ustep ts a trs it sf s t with
  | error x => rfl
  | ok res => simp only [h res hu]

theorem recurse_nd (g : Nat) (s : UState) (t : Tok) (rv : Val) (rt : Nat) (next : URef) :
    (∃ e, recurse ts a trs it g s t rv rt next = .error e) ∨ ∃ s', recurse ts a trs it g s t rv rt next = .ok ⟨none, s'⟩ := by
  cases g with
  | zero => exact .inl ⟨_, rfl⟩
  | succ g =>
    simp only [recurse, recurseBody]
    cases s.step with
    | none => exact .inl ⟨_, rfl⟩
    | some cur =>
      cases resetM ts a g next rt rv s.rows with
      | error x => exact .inl ⟨_, rfl⟩
      | ok R1 =>
        simp only []
        cases ustep ts a trs it g _ t with
        | error x => exact .inl ⟨_, rfl⟩
        | ok res => exact .inr ⟨_, rfl⟩

theorem stepM_ptr {f i : Nat} {R : List URow} {r0 : URow} {k : MK} {stk st be} {t : Tok} (hr : R[i]? = some r0)
    (hm : r0.ptr.mach = some k) (hf : r0.ptr.firstStep = false) :
    stepM ts a trs it (f+1) ⟨i, .ptr⟩ ⟨R, stk, st, be⟩ t
      = mapDone (wrapPtr r0.ptr.peelCount) (stepM ts a trs it f ⟨i, k⟩ ⟨R, stk, st, be⟩ t) := by
  simp only [stepM, stepBody, hr, stepPtr, hm, hf]
  cases stepM ts a trs it f ⟨i, k⟩ ⟨R, stk, st, be⟩ t <;> simp [mapDone]

theorem stepM_wild {f i : Nat} {R : List URow} {r0 : URow} {dl : URef} {stk st be} {t : Tok} (hr : R[i]? = some r0)
    (hdl : r0.wild.delegate = some dl) :
    stepM ts a trs it (f+1) ⟨i, .wild⟩ ⟨R, stk, st, be⟩ t
      = mapDone (ifaceW r0) (stepM ts a trs it f dl ⟨R, stk, st, be⟩ t) := by
  simp only [stepM, stepBody, hr, stepWild, hdl, wildFwd]
  cases stepM ts a trs it f dl ⟨R, stk, st, be⟩ t <;> simp [mapDone] <;> rfl

theorem stepM_transform {f i : Nat} {R : List URow} {r0 : URow} {k : MK} {stk st be} {t : Tok} (hr : R[i]? = some r0)
    (hdl : r0.transform.delegate = some k) :
    stepM ts a trs it (f+1) ⟨i, .transform⟩ ⟨R, stk, st, be⟩ t
      = mapDoneO (trs.u r0.transform.trFunc) (stepM ts a trs it f ⟨i, k⟩ ⟨R, stk, st, be⟩ t) := by
  simp only [stepM, stepBody, hr, stepTransform, hdl]
  cases stepM ts a trs it f ⟨i, k⟩ ⟨R, stk, st, be⟩ t with
  | error x => rfl
  | ok res =>
    simp only [mapDoneO]
    cases res.done with
    | none => rfl
    | some rv => simp only []; cases trs.u r0.transform.trFunc rv <;> rfl

theorem stepM_union {f i : Nat} {R : List URow} {r0 : URow} {dl : URef} {stk st be} {t : Tok} (hr : R[i]? = some r0)
    (hph : r0.union.phase = .delegate) (hdl : r0.union.delegate = some dl) :
    stepM ts a trs it (f+1) ⟨i, .union⟩ ⟨R, stk, st, be⟩ t
      = finU (some i) (stepM ts a trs it f dl ⟨R, stk, st, be⟩ t) := by
  simp only [stepM, stepBody, hr, stepUnion, hph, hdl]
  cases stepM ts a trs it f dl ⟨R, stk, st, be⟩ t with
  | error x => rfl
  | ok res => cases res with | mk dn s' => cases dn <;> rfl

theorem absorbM_ptr {f i : Nat} {R : List URow} {r0 : URow} {k : MK} {v : Val} (hr : R[i]? = some r0)
    (hm : r0.ptr.mach = some k) : absorbM ts (f+1) ⟨i, .ptr⟩ v R = absorbM ts f ⟨i, k⟩ v R := by
  simp only [absorbM, absorbBody, hr, hm]

theorem absorbM_wild {f i : Nat} {R : List URow} {r0 : URow} {dl : URef} {v : Val} (hr : R[i]? = some r0)
    (hdl : r0.wild.delegate = some dl) : absorbM ts (f+1) ⟨i, .wild⟩ v R = absorbM ts f dl v R := by
  simp only [absorbM, absorbBody, hr, hdl]

theorem absorbM_transform {f i : Nat} {R : List URow} {r0 : URow} {k : MK} {v : Val} (hr : R[i]? = some r0)
    (hdl : r0.transform.delegate = some k) : absorbM ts (f+1) ⟨i, .transform⟩ v R = absorbM ts f ⟨i, k⟩ v R := by
  simp only [absorbM, absorbBody, hr, hdl]

theorem absorbM_union {f i : Nat} {R : List URow} {r0 : URow} {dl : URef} {v : Val} (hr : R[i]? = some r0)
    (hdl : r0.union.delegate = some dl) : absorbM ts (f+1) ⟨i, .union⟩ v R = absorbM ts f dl v R := by
  simp only [absorbM, absorbBody, hr, hdl]

theorem Wr.step {c lo row mk F w d un} (h : Wr trs.u c lo row mk F w d un) (hi : List URow) (stk st be) (t : Tok) (f : Nat) :
    stepM ts a trs it (f+d) c ⟨lo ++ row :: hi, stk, st, be⟩ t
      = finU un (mapDone w (mapDoneO F (stepM ts a trs it f ⟨lo.length, mk⟩ ⟨lo ++ row :: hi, stk, st, be⟩ t))) := by
  induction h with
  | refl lo row k => simp
  | @trS lo row k hdl =>
    rw [finU_none, mapDone_id]
    exact stepM_transform (RowL.getRow lo row hi) hdl
  | ptr hr hm hf _ ih =>
    rw [finU_none] at ih ⊢
    rw [← mapDone_comp, ← ih]
    exact stepM_ptr (getRow_ext hr _) hm hf
  | wild hr hdl _ ih =>
    rw [finU_none] at ih ⊢
    rw [← mapDone_comp, ← ih]
    exact stepM_wild (getRow_ext hr _) hdl
  | union hr hph hdl _ ih =>
    rw [finU_none] at ih
    rw [← ih]
    exact stepM_union (getRow_ext hr _) hph hdl
  | @ptrU lo row i r0 mk F w d hr hm hf _ ih =>
    rw [← mapDone_finU (wrapPtr r0.ptr.peelCount), ← ih]
    exact stepM_ptr (getRow_ext hr _) hm hf

theorem Wr.absorb {c lo row mk F w d un} (h : Wr trs.u c lo row mk F w d un) (hi : List URow) (v : Val) (f : Nat) :
    absorbM ts (f+d) c v (lo ++ row :: hi) = absorbM ts f ⟨lo.length, mk⟩ v (lo ++ row :: hi) := by
  induction h with
  | refl lo row k => simp
  | @trS lo row k hdl => exact absorbM_transform (RowL.getRow lo row hi) hdl
  | ptr hr hm hf _ ih => rw [← ih]; exact absorbM_ptr (getRow_ext hr _) hm
  | wild hr hdl _ ih => rw [← ih]; exact absorbM_wild (getRow_ext hr _) hdl
  | union hr hph hdl _ ih => rw [← ih]; exact absorbM_union (getRow_ext hr _) hdl
  | ptrU hr hm hf _ ih => rw [← ih]; exact absorbM_ptr (getRow_ext hr _) hm

theorem Wr.of_fields {U c lo row row' mk F w d un} (h : Wr U c lo row mk F w d un)
    (hp1 : row'.ptr = row.ptr) (hp2 : row'.wild = row.wild) (hp4 : row'.union = row.union)
    (hd : row'.transform.delegate = row.transform.delegate) (hf : row'.transform.trFunc = row.transform.trFunc) :
    Wr U c lo row' mk F w d un := by
  induction h with
  | refl lo row k => exact .refl lo row' k
  | @trS lo row k hdl =>
    have := Wr.trS (U := U) lo row' (k := k) (by rw [hd]; exact hdl)
    rw [hf] at this; exact this
  | ptr hr hm hf' _ ih =>
    obtain ⟨r0', hr', e1, _, _⟩ := getRow_congr hr hp1 hp2 hp4
    have := Wr.ptr hr' (by rw [e1]; exact hm) (by rw [e1]; exact hf') (ih hp1 hp2 hp4 hd hf)
    rw [e1] at this; exact this
  | @wild lo row i r0 dl mk F w d hr hdl _ ih =>
    obtain ⟨r0', hr', _, e2, _⟩ := getRow_congr hr hp1 hp2 hp4
    have := Wr.wild hr' (by rw [e2]; exact hdl) (ih hp1 hp2 hp4 hd hf)
    rw [show ifaceW r0' = ifaceW r0 from funext fun v => by simp [ifaceW, e2]] at this; exact this
  | union hr hph hdl _ ih =>
    obtain ⟨r0', hr', _, _, e4⟩ := getRow_congr hr hp1 hp2 hp4
    exact Wr.union hr' (by rw [e4]; exact hph) (by rw [e4]; exact hdl) (ih hp1 hp2 hp4 hd hf)
  | ptrU hr hm hf' _ ih =>
    obtain ⟨r0', hr', e1, _, _⟩ := getRow_congr hr hp1 hp2 hp4
    exact Wr.ptrU hr' (by rw [e1]; exact hm) (by rw [e1]; exact hf') (ih hp1 hp2 hp4 hd hf)

theorem Wr.congr {U c lo row row' mk F w d un} (h : Wr U c lo row mk F w d un)
    (hp : (row'.ptr, row'.wild, row'.transform, row'.union) = (row.ptr, row.wild, row.transform, row.union)) :
    Wr U c lo row' mk F w d un :=
  have hp3 : row'.transform = row.transform := congrArg (fun x => x.2.2.1) hp
  h.of_fields (congrArg Prod.fst hp) (congrArg (fun x => x.2.1) hp) (congrArg (fun x => x.2.2.2) hp) (by rw [hp3]) (by rw [hp3])

theorem Wr.belowTr {U c lo row mk F w d un} (h : Wr U c lo row mk F w d un) {k' : MK} (hmk : mk = .transform)
    (hdl : row.transform.delegate = some k') (hk' : k' ≠ .transform) :
    Wr U c lo row k' (U row.transform.trFunc) w (d + 1) un := by
  induction h with
  | refl lo row k => subst hmk; exact .trS lo row hdl
  | @trS lo row k hdl0 => subst hmk; rw [hdl0] at hdl; cases hdl; exact absurd rfl hk'
  | ptr hr hm hf _ ih => exact .ptr hr hm hf (ih hmk hdl)
  | wild hr hdl' _ ih => exact .wild hr hdl' (ih hmk hdl)
  | union hr hph hdl' _ ih => exact .union hr hph hdl' (ih hmk hdl)
  | ptrU hr hm hf _ ih => exact .ptrU hr hm hf (ih hmk hdl)

/-- the wrappers the driver-level machine can have when it is Reset: at most the pointer machine, same row -/
inductive WrP : URef → List URow → URow → MK → (Val → Val) → Nat → Prop
  | refl (lo : List URow) (row : URow) (k : MK) : WrP ⟨lo.length, k⟩ lo row k id 0
  | ptrS {lo row k} : row.ptr.mach = some k → row.ptr.firstStep = false →
      WrP ⟨lo.length, .ptr⟩ lo row k (wrapPtr row.ptr.peelCount ∘ id) 1

theorem WrP.toWr {U c lo row mk w d} (h : WrP c lo row mk w d) : Wr U c lo row mk some w d none := by
  cases h with
  | refl => exact .refl _ _ _
  | ptrS hm hf => exact .ptr (RowL.getRow _ _ []) hm hf (.refl _ _ _)

theorem WrP.le {c lo row mk w d} (h : WrP c lo row mk w d) : d ≤ 1 := by
  cases h <;> omega

theorem WrP.of_fields {c lo row row' mk w d} (h : WrP c lo row mk w d) (h1 : row'.ptr.mach = row.ptr.mach)
    (h2 : row'.ptr.firstStep = row.ptr.firstStep) (h3 : row'.ptr.peelCount = row.ptr.peelCount) :
    WrP c lo row' mk w d := by
  cases h with
  | refl => exact .refl _ _ _
  | ptrS hm hf =>
    have := WrP.ptrS (lo := lo) (row := row') (by rw [h1]; exact hm) (by rw [h2]; exact hf)
    rw [h3] at this; exact this

theorem WrP.congr {c lo row row' mk w d} (h : WrP c lo row mk w d) (hp : row'.ptr = row.ptr) : WrP c lo row' mk w d :=
  h.of_fields (by rw [hp]) (by rw [hp]) (by rw [hp])

theorem WrP.above {U c lo row mk w d} (h : WrP c lo row mk w d) {lo' : List URow} {row' : URow} {k F2 w2 d2}
    (hsub : ∀ (i : Nat) (r0 : URow), (lo ++ [row])[i]? = some r0 → (lo' ++ [row'])[i]? = some r0)
    (h2 : Wr U ⟨lo.length, mk⟩ lo' row' k F2 w2 d2 none) : Wr U c lo' row' k F2 (w ∘ w2) (d2 + d) none := by
  cases h with
  | refl => exact h2
  | ptrS hm hf => exact Wr.ptr (hsub _ _ (RowL.getRow _ _ [])) hm hf h2

section
def SameCfgC (row row' : URow) : Prop :=
  row'.prim.ty = row.prim.ty ∧ row'.prim.anyKind = row.prim.anyKind ∧ row'.err = row.err ∧
  row'.struct.fields = row.struct.fields ∧ row'.transform.trFunc = row.transform.trFunc ∧
  row'.transform.recv_rt = row.transform.recv_rt ∧ row'.transform.delegate = row.transform.delegate ∧
  row'.union.members = row.union.members

/-- what a machine below a chain leaves of its row: the configuration fields, and what a union / pointer machine of
    the same row above it still needs (`tmp_rt`, `firstStep`) -/
def SameCfg (row row' : URow) : Prop :=
  row'.ptr.mach = row.ptr.mach ∧ row'.ptr.peelCount = row.ptr.peelCount ∧ row'.prim.ty = row.prim.ty ∧ row'.prim.anyKind = row.prim.anyKind ∧ row'.err = row.err ∧
  row'.struct.fields = row.struct.fields ∧ row'.transform.trFunc = row.transform.trFunc ∧
  row'.transform.recv_rt = row.transform.recv_rt ∧ row'.transform.delegate = row.transform.delegate ∧
  row'.union.members = row.union.members ∧ row'.union.tmp_rt = row.union.tmp_rt ∧ row'.ptr.firstStep = row.ptr.firstStep

theorem SameCfg.mach {row row' : URow} (h : SameCfg row row') : row'.ptr.mach = row.ptr.mach := h.1
theorem SameCfg.peelCount {row row' : URow} (h : SameCfg row row') : row'.ptr.peelCount = row.ptr.peelCount := h.2.1
theorem SameCfg.trFunc {row row' : URow} (h : SameCfg row row') : row'.transform.trFunc = row.transform.trFunc :=
  h.2.2.2.2.2.2.1
theorem SameCfg.trDelegate {row row' : URow} (h : SameCfg row row') :
    row'.transform.delegate = row.transform.delegate := h.2.2.2.2.2.2.2.2.1
theorem SameCfg.members {row row' : URow} (h : SameCfg row row') : row'.union.members = row.union.members :=
  h.2.2.2.2.2.2.2.2.2.1
theorem SameCfg.tmp_rt {row row' : URow} (h : SameCfg row row') : row'.union.tmp_rt = row.union.tmp_rt :=
  h.2.2.2.2.2.2.2.2.2.2.1
theorem SameCfg.firstStep {row row' : URow} (h : SameCfg row row') : row'.ptr.firstStep = row.ptr.firstStep :=
  h.2.2.2.2.2.2.2.2.2.2.2
theorem SameCfgC.members {row row' : URow} (h : SameCfgC row row') : row'.union.members = row.union.members :=
  h.2.2.2.2.2.2.2

theorem SameCfg.toC {row row' : URow} (h : SameCfg row row') : SameCfgC row row' := by
  obtain ⟨_, _, a2, a3, a4, a5, a6, a7, a8, a9, _⟩ := h
  exact ⟨a2, a3, a4, a5, a6, a7, a8, a9⟩

theorem SameCfg.refl (row : URow) : SameCfg row row := ⟨rfl, rfl, rfl, rfl, rfl, rfl, rfl, rfl, rfl, rfl, rfl, rfl⟩
theorem SameCfg.trans {r1 r2 r3 : URow} (h1 : SameCfg r1 r2) (h2 : SameCfg r2 r3) : SameCfg r1 r3 := by
  obtain ⟨a0, a1, a2, a3, a4, a5, a6, a7, a8, a9, a10, a11⟩ := h1
  obtain ⟨b0, b1, b2, b3, b4, b5, b6, b7, b8, b9, b10, b11⟩ := h2
  exact ⟨b0.trans a0, b1.trans a1, b2.trans a2, b3.trans a3, b4.trans a4, b5.trans a5, b6.trans a6, b7.trans a7,
    b8.trans a8, b9.trans a9, b10.trans a10, b11.trans a11⟩
theorem CfgLeaf.of_fields {row row' : URow} {base k M} (h : CfgLeaf row base k M) (a2 : row'.prim.ty = row.prim.ty)
    (a3 : row'.prim.anyKind = row.prim.anyKind) (a4 : row'.err = row.err) (a5 : row'.struct.fields = row.struct.fields) :
    CfgLeaf row' base k M := by
  cases M with
  | prim => exact ⟨h.1, a2.trans h.2.1, a3.trans h.2.2⟩
  | errThunk => exact ⟨h.1, by rw [a4]; exact h.2⟩
  | structMap fs => exact ⟨h.1, a5.trans h.2⟩
  | _ => exact h

theorem CfgLeaf.sameC {row row' : URow} {base k M} (h : CfgLeaf row base k M) (hs : SameCfgC row row') :
    CfgLeaf row' base k M := h.of_fields hs.1 hs.2.1 hs.2.2.1 hs.2.2.2.1

theorem CfgBare.sameC {ts : Types} {a : Atlas} {row row' : URow} {base k M} (h : CfgBare ts a row base k M)
    (hs : SameCfgC row row') : CfgBare ts a row' base k M := by
  cases M with
  | wildcard => exact h
  | transform fn uty =>
    obtain ⟨h1, h2, h3, k', h4, h5⟩ := h
    obtain ⟨a2, a3, a4, a5, a6, a7, a8, a9⟩ := hs
    exact ⟨h1, a6.trans h2, a7.trans h3, k', a8.trans h4, h5.sameC ⟨a2, a3, a4, a5, a6, a7, a8, a9⟩⟩
  | union ms => exact ⟨h.1, hs.members.trans h.2⟩
  | _ => simp only [CfgBare] at h ⊢; exact CfgLeaf.sameC h hs

theorem CfgLeaf.same {row row' : URow} {base k M} (h : CfgLeaf row base k M) (hs : SameCfg row row') :
    CfgLeaf row' base k M := h.sameC hs.toC

theorem CfgBare.same {ts : Types} {a : Atlas} {row row' : URow} {base k M} (h : CfgBare ts a row base k M)
    (hs : SameCfg row row') : CfgBare ts a row' base k M := h.sameC hs.toC

theorem CfgV.sameC {ts : Types} {a : Atlas} {row row' : URow} {id ck} (h : CfgV ts a row id ck) (hs : SameCfgC row row')
    (h1 : row'.ptr.mach = row.ptr.mach) (h2 : row'.ptr.peelCount = row.ptr.peelCount) : CfgV ts a row' id ck := by
  obtain ⟨k, hb, hp⟩ := h
  refine ⟨k, hb.sameC hs, ?_⟩
  rw [h1, h2]; exact hp

variable (ts a trs it)

theorem CfgV.same {row row' : URow} {id ck} (h : CfgV ts a row id ck) (hs : SameCfg row row') :
    CfgV ts a row' id ck := h.sameC hs.toC hs.mach hs.peelCount

def rtpB (fr sf1 sf : Nat) (R : List URow) (stk : List URef) (be : Option XFail) (c m : URef) (id : Nat) (cur : Val) :
    List Tok → URes
  | [] => .more 0
  | t :: rest =>
    match resetM ts a fr m id cur R with
    | .error x => x.toURes
    | .ok R1 => pump1 ts a trs it sf1 sf ⟨R1, stk, some c, be⟩ (t :: rest)

theorem rtp_eq (fr sf1 sf R stk be c id cur toks) :
    rtp ts a trs it fr sf1 sf R stk be c id cur toks = rtpB ts a trs it fr sf1 sf R stk be c c id cur toks := by
  cases toks <;> rfl

def kontU (un : Option Nat) (c : URef) (fa sf : Nat) (be : Option XFail) (stk : List URef) (v : Val) (R : List URow)
    (rest : List Tok) : URes :=
  match un with
  | none => kont ts a trs it fa sf be stk v R rest
  | some i => (pump ts a trs it sf ⟨updRow R i (closeU v), stk, some c, be⟩ rest).shift 1

@[simp] theorem kontU_none (c fa sf be stk v R rest) :
    kontU ts a trs it none c fa sf be stk v R rest = kont ts a trs it fa sf be stk v R rest := rfl

/-- run `x` of the stateful model against result `r` of the functional one; the machine lives in row `lo.length` and
    hands its row back with `Q`; `fa` is the fuel the suspended parent absorbs with: enough to get through a chain of
    `2 + ub` wrappers -/
def Agree (ub : Nat) (Q : URow → Prop) (un : Option Nat) (c : URef) (sf : Nat) (be : Option XFail) (stk : List URef)
    (lo : List URow) (F : Val → Option Val) (w : Val → Val) (x r : URes) : Prop :=
  match r with
  | .panic _ => True
  | .more u => x = .more u
  | .err u => x = .err u
  | .ok v rest u => 1 ≤ u ∧
      match F v with
      | some v' => ∃ row' hi' fa, Q row' ∧ 3 + ub ≤ fa ∧
          x = (kontU ts a trs it un c fa sf be stk (w v') (lo ++ row' :: hi') rest).shift (u - 1)
      | none => x = .err (u - 1)

/-- machine `cck` of a configured row `crow`, Reset for (`e`, `rv`) above any rows and any stack and pumped, runs as
    `child`.  `fr` is the fuel of the `Reset`, `sf1` that of the first `Step` (for the pointer and the wildcard machine
    it pays for the `Reset` of their delegate as well), `sf` that of every later one; the bounds are what `fuel_split`
    leaves a child below a chain of `2 + ub` wrappers.  With `un = none`, `Agree` does not read its machine reference:
    `⟨0, .prim⟩` stands for any -/
def ChildSim (ub : Nat) (Q : URow → Prop) (e : Nat) (rv : Val) (cck : MK) (crow : URow) (child : List Tok → URes) : Prop :=
  ∀ (L hi : List URow) (stk : List URef) (be : Option XFail) (toks : List Tok) (fr sf1 sf : Nat), 8 ≤ fr → 9 + 2 * ub ≤ sf1 →
    14 + 3 * ub ≤ sf →
    Agree ts a trs it ub Q none ⟨0, .prim⟩ sf be stk L some _root_.id
      (rtp ts a trs it fr sf1 sf (L ++ crow :: hi) stk be ⟨L.length, cck⟩ e rv toks) (child toks)

/-- the row stays configured for `id`: the machines of a slice, an array, a map Reset the same row for every element -/
def SimV (ub : Nat) (S : List Nat) (n : Nat) : Prop :=
  ∀ id ∈ S, ∀ (cur : Val) (row : URow) (ck : MK), CfgV ts a row id ck →
    ChildSim ts a trs it ub (fun row' => CfgV ts a row' id ck) id cur ck row (unmV ts a trs it n id cur)

/-- what a bare machine hands back of its row.  Less than `SameCfg`, which a leaf machine keeps: the wildcard and the
    union machine may have lent the row to a delegate in between -/
structure StillBare (row : URow) (base : Nat) (k : MK) (M : UMach) (row' : URow) : Prop where
  cfg : CfgBare ts a row' base k M
  mach : row'.ptr.mach = row.ptr.mach
  peelCount : row'.ptr.peelCount = row.ptr.peelCount

/-- `7 ≤ fr` is what is left below a pointer machine, which Resets its delegate in its first `Step` with `sf1 - 2` of the
    `9 + 2 * ub ≤ sf1` of `ChildSim` (`simV_succ`); a transform machine hands `fr - 1` to its delegate, which needs 5
    (`SimLeaf`); `8 + 2 * ub ≤ sf1` is what `fuel1_split` asks -/
def SimBare (ub : Nat) (n base : Nat) (k : MK) (M : UMach) (row : URow) : Prop :=
  ∀ (cur : Val) (lo hi : List URow) (stk : List URef) (be : Option XFail) (c : URef) (w : Val → Val) (d : Nat)
    (toks : List Tok) (fr sf1 sf : Nat), WrP c lo row k w d → 7 ≤ fr → 8 + 2 * ub ≤ sf1 → 14 + 3 * ub ≤ sf →
    Agree ts a trs it ub (StillBare ts a row base k M) none c sf be stk lo some w
      (rtpB ts a trs it fr sf1 sf (lo ++ row :: hi) stk be c ⟨lo.length, k⟩ base cur toks)
      (unmBare ts a trs it n base M cur toks)

def SimB (ub : Nat) (S : List Nat) (wi : Option Nat) (n : Nat) : Prop :=
  ∀ base, okMach ts a S wi (upickBare ts a base) → (∀ ms, upickBare ts a base = .union ms → 1 ≤ ub) →
    ∀ (row : URow) (k : MK), CfgBare ts a row base k (upickBare ts a base) →
      SimBare ts a trs it ub n base k (upickBare ts a base) row

/-- `5 ≤ fr`: one unit for the machine's `Reset`, four for the `requisition` of its element machine in it
    (`requisition_cov`) -/
def SimLeaf (ub : Nat) (n base : Nat) (k : MK) (M : UMach) (row : URow) : Prop :=
  ∀ (cur : Val) (lo hi : List URow) (stk : List URef) (be : Option XFail) (c : URef) (F : Val → Option Val)
    (w : Val → Val) (d : Nat) (toks : List Tok) (fr sf1 sf : Nat) {un : Option Nat}, Wr trs.u c lo row k F w d un →
    d ≤ 2 + ub → 5 ≤ fr → 8 + 2 * ub ≤ sf1 → 14 + 3 * ub ≤ sf →
    Agree ts a trs it ub (SameCfg row) un c sf be stk lo F w
      (rtpB ts a trs it fr sf1 sf (lo ++ row :: hi) stk be c ⟨lo.length, k⟩ base cur toks)
      (unmBare ts a trs it (n+1) base M cur toks)

variable {ts a trs it}

theorem Agree.nil {Q un c sf be stk lo F w} :
    Agree ts a trs it ub Q un c sf be stk lo F w (.more 0) (.more 0) := rfl

theorem SimLeaf.of_cons {n base k M row}
    (h : ∀ cur lo hi stk be c F w d t rest f sf1 sf {un},
      Wr trs.u c lo row k F w d un → d ≤ 2 + ub → 4 ≤ f → 8 + 2 * ub ≤ sf1 → 14 + 3 * ub ≤ sf →
      Agree ts a trs it ub (SameCfg row) un c sf be stk lo F w
        (rtpB ts a trs it (f + 1) sf1 sf (lo ++ row :: hi) stk be c ⟨lo.length, k⟩ base cur (t :: rest))
        (unmBare ts a trs it (n+1) base M cur (t :: rest))) :
    SimLeaf ts a trs it ub n base k M row := by
  intro cur lo hi stk be c F w d toks fr sf1 sf un hw hd hfr hsf1 hsf
  cases toks with
  | nil => rw [unmBare_succ_nil]; exact Agree.nil
  | cons t rest =>
    obtain ⟨f, rfl⟩ : ∃ f, fr = f + 1 := ⟨fr - 1, by omega⟩
    exact h cur lo hi stk be c F w d t rest f sf1 sf hw hd (by omega) hsf1 hsf

theorem SimBare.of_cons {n base k M row}
    (h : ∀ cur lo hi stk be c w d t rest f sf1 sf, WrP c lo row k w d → 6 ≤ f → 8 + 2 * ub ≤ sf1 → 14 + 3 * ub ≤ sf →
      Agree ts a trs it ub (StillBare ts a row base k M) none c sf be stk lo some w
        (rtpB ts a trs it (f + 1) sf1 sf (lo ++ row :: hi) stk be c ⟨lo.length, k⟩ base cur (t :: rest))
        (unmBare ts a trs it (n+1) base M cur (t :: rest))) :
    SimBare ts a trs it ub (n+1) base k M row := by
  intro cur lo hi stk be c w d toks fr sf1 sf hw hfr hsf1 hsf
  cases toks with
  | nil => rw [unmBare_succ_nil]; exact Agree.nil
  | cons t rest =>
    obtain ⟨f, rfl⟩ : ∃ f, fr = f + 1 := ⟨fr - 1, by omega⟩
    exact h cur lo hi stk be c w d t rest f sf1 sf hw (by omega) hsf1 hsf

theorem Agree.map {Q un c sf be stk lo w g x r} (h : Agree ts a trs it ub Q un c sf be stk lo some (w ∘ g) x r) :
    Agree ts a trs it ub Q un c sf be stk lo some w x (r.bind' (fun v r u => .ok (g v) r u) 0) := by
  cases r with
  | ok v rest u => exact h
  | more u => exact h
  | err u => exact h
  | panic u => trivial

theorem Agree.shiftK {Q Q' : URow → Prop} {un c sf be stk lo F w x r} (k : Nat)
    (h : Agree ts a trs it ub Q un c sf be stk lo F w x r) (hk : ∀ r', Q r' → Q' r') :
    Agree ts a trs it ub Q' un c sf be stk lo F w (x.shift k) (r.shift k) := by
  cases r with
  | ok v rest u =>
    obtain ⟨h3, h'⟩ := h
    refine ⟨by omega, ?_⟩
    cases hF : F v with
    | none =>
      rw [hF] at h'
      rw [h']; simp [URes.shift]; omega
    | some v' =>
      rw [hF] at h'
      obtain ⟨row', hi', fa, h1, h2, h4⟩ := h'
      refine ⟨row', hi', fa, hk _ h1, h2, ?_⟩
      rw [h4, URes.shift_shift]
      congr 1; omega
  | more u => simp only [Agree] at h; simp [Agree, h, URes.shift]
  | err u => simp only [Agree] at h; simp [Agree, h, URes.shift]
  | panic u => simp [Agree, URes.shift]

theorem Agree.rekeep {Q Q' : URow → Prop} {un c sf be stk lo F w x r} (h : Agree ts a trs it ub Q un c sf be stk lo F w x r)
    (hk : ∀ r', Q r' → Q' r') : Agree ts a trs it ub Q' un c sf be stk lo F w x r := by
  simpa using h.shiftK 0 hk

theorem Agree.toBare {row : URow} {base k M un c sf be stk lo F w x r} (hcfg : CfgBare ts a row base k M)
    (h : Agree ts a trs it ub (SameCfg row) un c sf be stk lo F w x r) :
    Agree ts a trs it ub (StillBare ts a row base k M) un c sf be stk lo F w x r :=
  h.rekeep fun _ hs => ⟨hcfg.same hs, hs.mach, hs.peelCount⟩

theorem SimLeaf.bare {n base k M row} (hcfg : CfgBare ts a row base k M) (h : SimLeaf ts a trs it ub n base k M row) :
    SimBare ts a trs it ub (n+1) base k M row :=
  fun cur lo hi stk be c w d toks fr sf1 sf hw hfr hsf1 hsf =>
    (h cur lo hi stk be c some w d toks fr sf1 sf hw.toWr (Nat.le_trans hw.le (by omega)) (by omega) hsf1 hsf).toBare hcfg

/-- sequencing: when the value of the child (pushed above `p`) is complete the driver pops `p` and lets it absorb the
    value, with fuel `fa + 1 + d` enough for the `d` wrappers of `p` -/
theorem Agree.bind {Q Q' : URow → Prop} {c0 p c : URef} {un : Option Nat} {sf be stk L lo F w x r0} {d : Nat}
    {k : Val → List Tok → Nat → URes} (hd : d ≤ 2 + ub)
    (hA : Agree ts a trs it ub Q none c0 sf be (p :: stk) L some _root_.id x r0)
    (hk : ∀ v rest u crow' hi' fa, 1 ≤ u → Q crow' →
      Agree ts a trs it ub Q' un c sf be stk lo F w
        ((kont ts a trs it (fa + 1 + d) sf be (p :: stk) v (L ++ crow' :: hi') rest).shift (u - 1)) (k v rest u)) :
    Agree ts a trs it ub Q' un c sf be stk lo F w x (r0.bind' k 0) := by
  cases r0 with
  | panic u => trivial
  | more u => exact hA
  | err u => exact hA
  | ok v rest u =>
    obtain ⟨hu, crow', hi', fa, hc1, hfa, hX⟩ := hA
    obtain ⟨fa', rfl⟩ : ∃ f, fa = f + 1 + d := ⟨fa - 1 - d, by omega⟩
    rw [hX]
    exact hk v rest u crow' hi' fa' hu hc1

theorem Agree.top {Q c sf be lo w x r} (h : Agree ts a trs it ub Q none c sf be [] lo some w x r)
    (hnp : ∀ u, r ≠ .panic u) : x = r.bind' (fun v r u => .ok (w v) r u) 0 := by
  cases r with
  | panic u => exact absurd rfl (hnp u)
  | more u => exact h
  | err u => exact h
  | ok v rest u =>
    obtain ⟨hu, row', hi', fa, _, _, hx⟩ := h
    rw [hx]
    simp only [kontU, kont, URes.shift, URes.bind'_ok]
    congr 1; omega

/-- the machine fuel of a container machine below `d ≤ 2 + ub` wrappers: one unit for the driver, `d` for the
    wrappers, two for the machine's `Step` and its `Recurse`; what is left is enough for the child (`SimV`) and for a
    done report (`Agree.fin`) -/
theorem fuel_split {ub d sf : Nat} (hd : d ≤ 2 + ub) (hsf : 14 + 3 * ub ≤ sf) :
    ∃ g, sf = g + 1 + 1 + d + 1 ∧ 8 ≤ g ∧ 9 + 2 * ub ≤ g ∧ 3 + ub ≤ g + 1 + 1 + d :=
  ⟨sf - d - 3, by omega, by omega, by omega, by omega⟩

theorem fuel1_split {ub d sf1 : Nat} (hd : d ≤ 2 + ub) (hsf1 : 8 + 2 * ub ≤ sf1) :
    ∃ g, sf1 = g + 1 + d + 1 ∧ 3 + ub ≤ g + 1 + d :=
  ⟨sf1 - d - 2, by omega, by omega⟩

theorem Wr.done {c lo row k F w d un} (hw : Wr trs.u c lo row k F w d un) {f : Nat} {hi : List URow} {stk st be}
    {t : Tok} {X : Val} {s' : UState}
    (hl : stepM ts a trs it f ⟨lo.length, k⟩ ⟨lo ++ row :: hi, stk, st, be⟩ t = .ok ⟨some X, s'⟩) :
    stepM ts a trs it (f + d) c ⟨lo ++ row :: hi, stk, st, be⟩ t =
      match F X, un with
      | none, _ => .error (.f .err)
      | some v', none => .ok ⟨some (w v'), s'⟩
      | some v', some i => .ok ⟨none, s'.upd i (closeU (w v'))⟩ := by
  rw [hw.step, hl]
  cases hF : F X with
  | none => simp [mapDoneO, hF, mapDone, finU_err]
  | some v' => cases un <;> simp [mapDoneO, hF, mapDone, finU]

theorem Agree.fin {P c lo row row' row0 k F w d un} (hw : Wr trs.u c lo row k F w d un) {f sf : Nat} {hi hi' : List URow}
    {stk be} {t : Tok} {rest : List Tok} {X : Val} (hD : Drv ts a trs it P (f + d + 1) sf)
    (hl : stepM ts a trs it f ⟨lo.length, k⟩ ⟨lo ++ row :: hi, stk, some c, be⟩ t
      = .ok ⟨some X, ⟨lo ++ row' :: hi', stk, some c, be⟩⟩)
    (hs : SameCfg row0 row') (hf : 3 + ub ≤ f + d) :
    Agree ts a trs it ub (SameCfg row0) un c sf be stk lo F w
      (P ⟨lo ++ row :: hi, stk, some c, be⟩ (t :: rest)) (.ok X rest 1) := by
  have hst := hw.done hl
  refine ⟨Nat.le_refl 1, ?_⟩
  cases hF : F X with
  | none =>
    rw [hF] at hst
    rw [hD.err hst]; rfl
  | some v' =>
    rw [hF] at hst
    cases un with
    | none => exact ⟨row', hi', f + d, hs, hf, by rw [hD.done hst]; simp⟩
    | some i => exact ⟨row', hi', f + d, hs, hf, by rw [hD.cont hst]; simp [kontU, UState.upd]⟩

theorem Wr.pass {c lo row k F w d un} (hw : Wr trs.u c lo row k F w d un) {f : Nat} {hi : List URow} {stk st be} {t : Tok}
    {x : X SRes}
    (hl : stepM ts a trs it f ⟨lo.length, k⟩ ⟨lo ++ row :: hi, stk, st, be⟩ t = x)
    (hx : (∃ e, x = .error e) ∨ (∃ s', x = .ok ⟨none, s'⟩)) :
    stepM ts a trs it (f + d) c ⟨lo ++ row :: hi, stk, st, be⟩ t = x := by
  rw [hw.step, hl]
  rcases hx with ⟨e, rfl⟩ | ⟨s', rfl⟩
  · exact finU_err un e
  · exact finU_cont un s'

theorem Wr.run_rec {P c lo row k F w d un} (hw : Wr trs.u c lo row k F w d un) {f g sf : Nat} {hi R' : List URow} {stk be}
    {t : Tok} {rest : List Tok} {rv : Val} {rt : Nat} {next : URef} (hD : Drv ts a trs it P (f + d + 1) sf)
    (hl : stepM ts a trs it f ⟨lo.length, k⟩ ⟨lo ++ row :: hi, stk, some c, be⟩ t
      = recurse ts a trs it (g+1) ⟨R', stk, some c, be⟩ t rv rt next) :
    P ⟨lo ++ row :: hi, stk, some c, be⟩ (t :: rest)
      = rtp ts a trs it g g sf R' (c :: stk) be next rt rv (t :: rest) :=
  hD.call (hw.pass hl (recurse_nd _ _ _ _ _ _))

theorem Wr.run_err {P c lo row k F w d un} (hw : Wr trs.u c lo row k F w d un) {f sf : Nat} {hi : List URow} {stk be}
    {t : Tok} {rest : List Tok} {x : XFail} (hD : Drv ts a trs it P (f + d + 1) sf)
    (hl : stepM ts a trs it f ⟨lo.length, k⟩ ⟨lo ++ row :: hi, stk, some c, be⟩ t = .error x) :
    P ⟨lo ++ row :: hi, stk, some c, be⟩ (t :: rest) = x.toURes :=
  hD.err (hw.pass hl (Or.inl ⟨x, rfl⟩))

theorem Wr.run_cont {P c lo row k F w d un} (hw : Wr trs.u c lo row k F w d un) {f sf : Nat} {hi : List URow} {stk be}
    {t : Tok} {rest : List Tok} {s' : UState} (hD : Drv ts a trs it P (f + d + 1) sf)
    (hl : stepM ts a trs it f ⟨lo.length, k⟩ ⟨lo ++ row :: hi, stk, some c, be⟩ t = .ok ⟨none, s'⟩) :
    P ⟨lo ++ row :: hi, stk, some c, be⟩ (t :: rest) = (pump ts a trs it sf s' rest).shift 1 :=
  hD.cont (hw.pass hl (Or.inr ⟨s', rfl⟩))

end

end Refmt.UMachU
