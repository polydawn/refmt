/-
  The two list walks of the unmarshaller (`unmElems`, `unmMapEntries`) as derived rules of `Reads`: if every item of a
  list is read, the items one after the other followed by the close token are read as the slice / the map.  Item `i`
  is read one level below the walk's `i`-th step, so it may come with any fuel `g` with `g + i + 1 ≤ F`
  (`Reads.elems_at`, `Reads.entries_at`); `_of`: all items from one fuel.
-/
import RefmtProofs.Lemmas.ObjRun
namespace Refmt.Obj
open Refmt
variable {ts : Types} {a : Atlas} {trs : Trs} {it : IfaceTys}

theorem hasKey_snoc_str (k k' : Bytes) (v : Val) (es : List (Val × Val)) :
    hasKey (.str k) (es ++ [(.str k', v)]) = (hasKey (.str k) es || (k' == k)) := by
  unfold hasKey
  rw [List.any_append, List.any_cons, List.any_nil, Bool.or_false]
  rfl

theorem capFull_of_room {α : Type} {cap : Option Nat} {acc : List Val} {x : α} {xs : List α}
    (hcap : ∀ n, cap = some n → acc.length + (x :: xs).length ≤ n) : capFull cap acc = false := by
  cases cap with
  | none => rfl
  | some n => have := hcap n rfl; simp [capFull_some] at this ⊢; omega

theorem hasKey_snoc_fresh {α : Type} {key : α → Bytes} {x : α} {xs : List α} {es0 : List (Val × Val)} (v : Val)
    (hx : key x ∉ xs.map key) (hes : ∀ y ∈ x :: xs, hasKey (.str (key y)) es0 = false) :
    ∀ y ∈ xs, hasKey (.str (key y)) (es0 ++ [(.str (key x), v)]) = false := by
  intro y hy
  rw [hasKey_snoc_str, hes y (by simp [hy])]
  simp only [Bool.false_or, beq_eq_false_iff_ne]
  intro he
  exact hx (by rw [he]; exact List.mem_map_of_mem hy)

theorem Reads.elems_at {α : Type} (tk : α → List Tok) (r : α → Val) {e : Nat} {cap : Option Nat} {cl : Tok}
    (hcl : cl.body = .arrClose) : ∀ (l : List α) (F : Nat) (acc : List Val), l.length + 1 ≤ F →
    (∀ i (h : i < l.length), ∃ g, g + i + 1 ≤ F ∧ Reads ts a trs it g (.v e (zeroVal ts 64 e)) (tk l[i]) (r l[i])) →
    (∀ n, cap = some n → acc.length + l.length ≤ n) →
    Reads ts a trs it F (.elems e cap acc) (l.flatMap tk ++ [cl]) (.slice (some (acc.reverse ++ l.map r)))
  | [], F, acc, hF, _, _ => by
    obtain ⟨F, rfl⟩ := Nat.exists_eq_add_one_of_ne_zero (by simp at hF; omega : F ≠ 0)
    simpa using Reads.elems_close hcl
  | x :: xs, F, acc, hF, hel, hcap => by
    obtain ⟨F, rfl⟩ := Nat.exists_eq_add_one_of_ne_zero (by simp at hF; omega : F ≠ 0)
    obtain ⟨g, hg, hx⟩ := hel 0 (by simp)
    simp only [List.getElem_cons_zero] at hx
    obtain ⟨t, c, hc, hc1, hc2⟩ := hx.head
    have hxs := Reads.elems_at tk r hcl xs F (r x :: acc) (by simp at hF; omega)
      (fun i h => by
        obtain ⟨g, hg, hy⟩ := hel (i+1) (by simp; omega)
        exact ⟨g, by omega, by simpa using hy⟩)
      (fun n hn => by have := hcap n hn; simp at this ⊢; omega)
    have hcf : capFull cap acc = false := capFull_of_room hcap
    rw [hc] at hx
    have := Reads.elems_cons hc2 hc1 hcf (hx.mono (by omega : g ≤ F)) hxs
    simpa [hc] using this

theorem Reads.elems_of {α : Type} (tk : α → List Tok) (r : α → Val) {f e : Nat} {cap : Option Nat} {cl : Tok}
    (hcl : cl.body = .arrClose) (l : List α) (acc : List Val)
    (hel : ∀ x ∈ l, Reads ts a trs it f (.v e (zeroVal ts 64 e)) (tk x) (r x))
    (hcap : ∀ n, cap = some n → acc.length + l.length ≤ n) :
    Reads ts a trs it (f + l.length + 1) (.elems e cap acc) (l.flatMap tk ++ [cl])
      (.slice (some (acc.reverse ++ l.map r))) :=
  Reads.elems_at tk r hcl l _ acc (by omega) (fun i h => ⟨f, by omega, hel _ (List.getElem_mem h)⟩) hcap

/-- for string keys (key function `none`); a map whose keys go through a transform is not covered -/
theorem Reads.entries_at {α : Type} (kt : α → Tok) (key : α → Bytes) (tk : α → List Tok) (r : α → Val) {vt : Nat}
    {cl : Tok} (hcl : cl.body = .mapClose) : ∀ (l : List α) (F : Nat) (es0 : List (Val × Val)), l.length + 1 ≤ F →
    (∀ x ∈ l, (kt x).body = .str (key x)) →
    (∀ i (h : i < l.length), ∃ g, g + i + 1 ≤ F ∧ Reads ts a trs it g (.v vt (zeroVal ts 64 vt)) (tk l[i]) (r l[i])) →
    (l.map key).Nodup → (∀ x ∈ l, hasKey (.str (key x)) es0 = false) →
    Reads ts a trs it F (.entries none vt es0) (l.flatMap (fun x => kt x :: tk x) ++ [cl])
      (.map (some (es0 ++ l.map fun x => (Val.str (key x), r x))))
  | [], F, es0, hF, _, _, _, _ => by
    obtain ⟨F, rfl⟩ := Nat.exists_eq_add_one_of_ne_zero (by simp at hF; omega : F ≠ 0)
    simpa using Reads.entries_close hcl
  | x :: xs, F, es0, hF, hkt, hel, hnd, hes => by
    obtain ⟨F, rfl⟩ := Nat.exists_eq_add_one_of_ne_zero (by simp at hF; omega : F ≠ 0)
    obtain ⟨g, hg, hx⟩ := hel 0 (by simp)
    simp only [List.map_cons, List.nodup_cons] at hnd
    have hxs := Reads.entries_at kt key tk r hcl xs F (es0 ++ [(.str (key x), r x)]) (by simp at hF; omega)
      (fun y hy => hkt y (by simp [hy]))
      (fun i h => by
        obtain ⟨g, hg, hy⟩ := hel (i+1) (by simp; omega)
        exact ⟨g, by omega, by simpa using hy⟩)
      hnd.2
      (hasKey_snoc_fresh _ hnd.1 hes)
    have := Reads.entries_cons (hkt x (by simp)) (mapKey_none trs _) (hes x (by simp)) (hx.mono (by omega : g ≤ F)) hxs
    simpa using this

theorem Reads.entries_of {α : Type} (key : α → Bytes) (tk : α → List Tok) (r : α → Val) {f vt : Nat} {cl : Tok}
    (hcl : cl.body = .mapClose) (l : List α) (es0 : List (Val × Val))
    (hel : ∀ x ∈ l, Reads ts a trs it f (.v vt (zeroVal ts 64 vt)) (tk x) (r x)) (hnd : (l.map key).Nodup)
    (hes : ∀ x ∈ l, hasKey (.str (key x)) es0 = false) :
    Reads ts a trs it (f + l.length + 1) (.entries none vt es0)
      (l.flatMap (fun x => ⟨.str (key x), none⟩ :: tk x) ++ [cl])
      (.map (some (es0 ++ l.map fun x => (Val.str (key x), r x)))) :=
  Reads.entries_at (fun x => ⟨.str (key x), none⟩) key tk r hcl l _ es0 (by omega) (fun _ _ => rfl)
    (fun i h => ⟨f, by omega, hel _ (List.getElem_mem h)⟩) hnd hes

end Refmt.Obj
