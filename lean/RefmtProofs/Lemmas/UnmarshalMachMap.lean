/-
  Stateful object unmarshaller: the map machine.
-/
import RefmtProofs.Lemmas.UnmarshalMachLoop
namespace Refmt.UMachU
open Refmt Refmt.Obj Refmt.Obj.UM

variable {ts : Types} {a : Atlas} {trs : Trs} {it : IfaceTys} {ub : Nat}

def rowMp (row : URow) (mm : MapM) : URow := { row with map := mm }

@[simp] theorem rowMp_ptr (row mm) : (rowMp row mm).ptr = row.ptr := rfl
@[simp] theorem rowMp_map (row mm) : (rowMp row mm).map = mm := rfl
theorem rowMp_same (row mm) : SameCfg row (rowMp row mm) := ⟨rfl, rfl, rfl, rfl, rfl, rfl, rfl, rfl, rfl, rfl, rfl, rfl⟩

def mpReset (ts : Types) (v : Val) (kt vt : Nat) (kf : Option Nat) (j : Nat) (cck : MK) : MapM :=
  { target_rv := v, value_rt := vt, valueMach := some ⟨j, cck⟩, valueZero_rv := zeroVal ts 64 vt,
    key_rv := zeroVal ts 64 kt, keyDestringer := kf, tmp_rv := zeroVal ts 64 vt, phase := .initial }
def mpOpen (mm : MapM) : MapM :=
  { mm with phase := .acceptKeyOrClose, target_rv := .map (some (mapEntries mm.target_rv)) }
def mpCommit (mm : MapM) : MapM :=
  { mm with target_rv := .map (some (mapEntries mm.target_rv ++ [(mm.key_rv, mm.tmp_rv)])) }
def mpKey (mm : MapM) (k : Val) : MapM := { mm with key_rv := k, phase := .acceptValue }
def mpVal (mm : MapM) : MapM := { mm with phase := .acceptAnotherKeyOrClose, tmp_rv := mm.valueZero_rv }
def mpAbs (mm : MapM) (v : Val) : MapM := { mm with tmp_rv := v }

/-- the row the key phases work on: a pending entry is committed first -/
def effRow (row : URow) : URow :=
  match row.map.phase with
  | .acceptAnotherKeyOrClose => rowMp row (mpCommit row.map)
  | _ => row

theorem effRow_same (row : URow) : SameCfg row (effRow row) := by
  unfold effRow; split
  · exact rowMp_same _ _
  · exact SameCfg.refl _

theorem effRow_ptr (row : URow) : (effRow row).ptr = row.ptr := by
  unfold effRow; split <;> rfl

theorem effRow_pw (row : URow) :
    ((effRow row).ptr, (effRow row).wild, (effRow row).transform, (effRow row).union) = (row.ptr, row.wild, row.transform, row.union) := by
  unfold effRow; split <;> rfl

theorem map_reset_ok {f : Nat} {lo hi : List URow} {row : URow} {rt kt vt : Nat} {kf : Option Nat} {v : Val}
    {crow : URow} {cck : MK} (hrt : ts.get rt = .map kt vt) (hkf : keyFnOfU ts a kt = some kf)
    (hreq : requisition ts a f (lo ++ row :: hi) vt = .ok ((lo ++ row :: hi) ++ [crow], ⟨(lo ++ row :: hi).length, cck⟩)) :
    resetM ts a (f+1) ⟨lo.length, .map⟩ rt v (lo ++ row :: hi)
      = .ok (lo ++ rowMp row (mpReset ts v kt vt kf (lo.length + 1 + hi.length) cck) :: (hi ++ [crow])) := by
  simp only [resetM, resetBody, RowL.getRow, resetMap, hrt, hreq, hkf, updRow_snoc, RowL.len_at]
  rfl

theorem map_reset_err {f : Nat} {lo hi : List URow} {row : URow} {rt kt vt : Nat} {v : Val}
    {crow : URow} {cck : MK} (hrt : ts.get rt = .map kt vt) (hkf : keyFnOfU ts a kt = none)
    (hreq : requisition ts a f (lo ++ row :: hi) vt = .ok ((lo ++ row :: hi) ++ [crow], ⟨(lo ++ row :: hi).length, cck⟩)) :
    resetM ts a (f+1) ⟨lo.length, .map⟩ rt v (lo ++ row :: hi) = .error (.f .err) := by
  simp only [resetM, resetBody, RowL.getRow, resetMap, hrt, hreq, hkf]

theorem map_step_init_open {f : Nat} {lo hi : List URow} {row : URow} {stk st be} {t : Tok} {len : Int}
    (hph : row.map.phase = .initial) (ht : t.body = .mapOpen len) :
    stepM ts a trs it (f+1) ⟨lo.length, .map⟩ ⟨lo ++ row :: hi, stk, st, be⟩ t
      = .ok ⟨none, ⟨lo ++ rowMp row (mpOpen row.map) :: hi, stk, st, be⟩⟩ := by
  simp only [stepM, stepBody, RowL.getRow, stepMap, hph, ht, cont, UState.upd, updRow_at]
  rfl

theorem map_step_init_null {f : Nat} {lo hi : List URow} {row : URow} {stk st be} {t : Tok}
    (hph : row.map.phase = .initial) (ht : t.body = .null) :
    stepM ts a trs it (f+1) ⟨lo.length, .map⟩ ⟨lo ++ row :: hi, stk, st, be⟩ t
      = .ok ⟨some (.map none), ⟨lo ++ row :: hi, stk, st, be⟩⟩ := by
  simp only [stepM, stepBody, RowL.getRow, stepMap, hph, ht, fin]

theorem map_step_init_other {f : Nat} {lo hi : List URow} {row : URow} {stk st be} {t : Tok}
    (hph : row.map.phase = .initial) (h1 : ∀ len, t.body ≠ .mapOpen len) (h2 : t.body ≠ .null) :
    stepM ts a trs it (f+1) ⟨lo.length, .map⟩ ⟨lo ++ row :: hi, stk, st, be⟩ t = .error (.f .err) := by
  simp only [stepM, stepBody, RowL.getRow, stepMap, hph]
  rfl

theorem map_step_keyphase {f : Nat} {lo hi : List URow} {row : URow} {stk st be} {t : Tok}
    (hph : row.map.phase = .acceptKeyOrClose ∨ row.map.phase = .acceptAnotherKeyOrClose) :
    stepM ts a trs it (f+1) ⟨lo.length, .map⟩ ⟨lo ++ row :: hi, stk, st, be⟩ t
      = mapKeyOrClose trs ⟨lo.length, .map⟩ (effRow row).map ⟨lo ++ effRow row :: hi, stk, st, be⟩ t := by
  rcases hph with h | h
  · simp only [stepM, stepBody, RowL.getRow, stepMap, h, effRow]
  · simp only [stepM, stepBody, RowL.getRow, stepMap, h, effRow, UState.upd, updRow_at]
    simp [rowMp, mpCommit, h]

theorem mapKey_close {m : URef} {mm : MapM} {R : List URow} {stk st be} {t : Tok} (ht : t.body = .mapClose) :
    mapKeyOrClose trs m mm ⟨R, stk, st, be⟩ t = .ok ⟨some mm.target_rv, ⟨release R, stk, st, be⟩⟩ := by
  simp only [mapKeyOrClose, ht, fin]

theorem mapKey_other {m : URef} {mm : MapM} {s : UState} {t : Tok} (h1 : t.body ≠ .mapClose)
    (h2 : ∀ x, t.body ≠ .str x) : mapKeyOrClose trs m mm s t = .error (.f .err) := by
  simp only [mapKeyOrClose]
  rfl

theorem mapKey_str {lo hi : List URow} {row : URow} {stk st be} {t : Tok} {x : Bytes} (ht : t.body = .str x) :
    mapKeyOrClose trs ⟨lo.length, .map⟩ row.map ⟨lo ++ row :: hi, stk, st, be⟩ t
      = match mapKey trs row.map.keyDestringer x with
        | none => .error (.f .err)
        | some k =>
          if hasKey k (mapEntries row.map.target_rv) then .error (.f .err)
          else .ok ⟨none, ⟨lo ++ rowMp row (mpKey row.map k) :: hi, stk, st, be⟩⟩ := by
  have fin2 : ∀ k : Val,
      (if hasKey k (mapEntries row.map.target_rv) then xerr
       else cont ((UState.mk (lo ++ row :: hi) stk st be).upd lo.length fun r =>
          { r with map := { r.map with key_rv := k, phase := .acceptValue } }))
      = (if hasKey k (mapEntries row.map.target_rv) then .error (.f .err)
         else .ok ⟨none, ⟨lo ++ rowMp row (mpKey row.map k) :: hi, stk, st, be⟩⟩) := by
    intro k
    split
    · rfl
    · simp only [cont, UState.upd, updRow_at]; rfl
  cases hkd : row.map.keyDestringer with
  | none =>
    simp only [mapKeyOrClose, ht, mapKey, hkd]
    exact fin2 _
  | some fn =>
    simp only [mapKeyOrClose, ht, mapKey, hkd]
    cases trs.u fn (.str x) with
    | none => rfl
    | some k => exact fin2 k

theorem map_step_value {f : Nat} {lo hi : List URow} {row : URow} {stk st be} {t : Tok} {d : URef}
    (hph : row.map.phase = .acceptValue) (hd : row.map.valueMach = some d) :
    stepM ts a trs it (f+1) ⟨lo.length, .map⟩ ⟨lo ++ row :: hi, stk, st, be⟩ t
      = recurse ts a trs it f ⟨lo ++ rowMp row (mpVal row.map) :: hi, stk, st, be⟩ t row.map.valueZero_rv
          row.map.value_rt d := by
  simp only [stepM, stepBody, RowL.getRow, stepMap, hph, hd, UState.upd, updRow_at]
  simp [rowMp, mpVal, hd]

theorem map_absorb {f : Nat} {lo hi : List URow} {row : URow} {v : Val} :
    absorbM ts (f+1) ⟨lo.length, .map⟩ v (lo ++ row :: hi) = .ok (lo ++ rowMp row (mpAbs row.map v) :: hi) := by
  simp only [absorbM, absorbBody, RowL.getRow, updRow_at]
  rfl

variable (ts a trs it)

structure MapSt (row : URow) (es : List (Val × Val)) (kf : Option Nat) (vt j : Nat) (cck : MK) : Prop where
  phase : row.map.phase = .acceptKeyOrClose ∨ row.map.phase = .acceptAnotherKeyOrClose
  target : (effRow row).map.target_rv = .map (some es)
  keyDestringer : row.map.keyDestringer = kf
  value_rt : row.map.value_rt = vt
  valueZero : row.map.valueZero_rv = zeroVal ts 64 vt
  valueMach : row.map.valueMach = some ⟨j, cck⟩

structure MapVSt (row : URow) (es : List (Val × Val)) (k : Val) (kf : Option Nat) (vt j : Nat) (cck : MK) : Prop where
  phase : row.map.phase = .acceptValue
  target : row.map.target_rv = .map (some es)
  key : row.map.key_rv = k
  keyDestringer : row.map.keyDestringer = kf
  value_rt : row.map.value_rt = vt
  valueZero : row.map.valueZero_rv = zeroVal ts 64 vt
  valueMach : row.map.valueMach = some ⟨j, cck⟩

def MapInv (S : List Nat) (n : Nat) : LoopInv := fun i row tl g =>
  ∃ vt kf es mid crow hi cck, vt ∈ S ∧ tl = mid ++ crow :: hi ∧ CfgV ts a crow vt cck ∧
    ((MapSt ts row es kf vt (i + 1 + mid.length) cck ∧ g = unmMapEntries ts a trs it n kf vt es) ∨
     (∃ m k, n = m + 1 ∧ MapVSt ts row es k kf vt (i + 1 + mid.length) cck ∧
        g = fun toks => (unmV ts a trs it m vt (zeroVal ts 64 vt) toks).bind'
              (fun v r u => (unmMapEntries ts a trs it m kf vt (es ++ [(k, v)]) r).shift u) 0))

abbrev SimM (ub : Nat) (S : List Nat) (n : Nat) : Prop := SimLoop ts a trs it ub .map (MapInv ts a trs it S n)

variable {ts a trs it}

theorem simM_zero (S : List Nat) : SimM ts a trs it ub S 0 :=
  loop_zero fun _ _ _ _ ⟨_, _, _, _, _, _, _, _, _, _, h⟩ _ => by
    rcases h with ⟨_, hg⟩ | ⟨m, _, hm, _⟩
    · rw [hg, unmMapEntries_zero]
    · cases hm

theorem effRow_map_eq (row : URow) :
    (effRow row).map.keyDestringer = row.map.keyDestringer ∧ (effRow row).map.value_rt = row.map.value_rt ∧
    (effRow row).map.valueZero_rv = row.map.valueZero_rv ∧ (effRow row).map.valueMach = row.map.valueMach := by
  unfold effRow; split <;> exact ⟨rfl, rfl, rfl, rfl⟩

theorem map_act {S : List Nat} {n : Nat} (hV : SimV ts a trs it ub S n) :
    Steps ts a trs it ub .map (MapInv ts a trs it S n) (MapInv ts a trs it S (n+1)) := by
  intro lo row tl g h
  obtain ⟨vt, kf, es, mid, crow, hi, cck, he, rfl, hcc, ⟨⟨hph, htg, hkd, hvt, hvz, hvm⟩, rfl⟩ | ⟨m, k, hm, hst, rfl⟩⟩ := h
  · obtain ⟨ekd, evt, evz, evm⟩ := effRow_map_eq row
    refine ⟨.inl (unmMapEntries_succ_nil ..), fun t rest => ?_⟩
    have hl0 : ∀ f stk st be, stepM ts a trs it (f+1) ⟨lo.length, .map⟩ ⟨lo ++ row :: (mid ++ crow :: hi), stk, st, be⟩ t
        = mapKeyOrClose trs ⟨lo.length, .map⟩ (effRow row).map ⟨lo ++ effRow row :: (mid ++ crow :: hi), stk, st, be⟩ t :=
      fun _ _ _ _ => map_step_keyphase hph
    rw [unmMapEntries_cons]
    split
    · next h1 =>
      obtain ⟨hi', x, hx⟩ := RowL.snoc_of_ne_nil (mid ++ crow :: hi) (by simp)
      refine .plain (.close _ (effRow row) hi' (fun _ _ _ _ => ?_) (effRow_same row))
      rw [hl0, mapKey_close h1, hx, dropLast_at, htg]
    · next x hb =>
      have hl1 := fun f stk st be => (hl0 f stk st be).trans (mapKey_str (row := effRow row) hb)
      rw [ekd, hkd, htg] at hl1
      cases hk : mapKey trs kf x with
      | none => simp only [hk] at hl1; exact .plain (.fail hl1)
      | some k =>
        simp only [hk, mapEntries] at hl1 ⊢
        by_cases hh : hasKey k es = true
        · simp only [hh, if_true] at hl1 ⊢; exact .plain (.fail hl1)
        · simp only [hh] at hl1 ⊢
          rw [bind'_one (K := fun v r u => (unmMapEntries ts a trs it n kf vt (es ++ [(k, v)]) r).shift u)
            fun _ _ _ => (URes.shift_shift _ _ _).symm]
          exact .plain <| .cont _ _ (fun toks => (unmV ts a trs it n vt (zeroVal ts 64 vt) toks).bind'
              (fun v r u => (unmMapEntries ts a trs it n kf vt (es ++ [(k, v)]) r).shift u) 0) hl1
            ⟨(effRow_pw row), (effRow_same row).trans (rowMp_same _ _)⟩
            ⟨vt, kf, es, mid, crow, hi, cck, he, rfl, hcc, .inr ⟨n, k, rfl,
              ⟨rfl, htg, rfl, ekd.trans hkd, evt.trans hvt, evz.trans hvz, evm.trans hvm⟩, rfl⟩⟩
    · next h1 h2 =>
      exact .plain (.fail fun f stk st be => (hl0 f stk st be).trans (mapKey_other h1 h2))
  · obtain rfl : m = n := by omega
    obtain ⟨hph, htg, hkey, hkd, hvt, hvz, hvm⟩ := hst
    refine ⟨?_, fun t rest => ?_⟩
    · cases m with
      | zero => exact .inr (by simp [unmV_zero, URes.bind', URes.shift])
      | succ m => exact .inl (by simp [unmV_succ_nil, URes.bind', URes.shift])
    · refine .call _ _ _ vt (zeroVal ts 64 vt) (rowMp row (mpVal row.map)) mid crow hi cck
        (fun v => rowMp row (mpAbs (mpVal row.map) v)) (fun v => unmMapEntries ts a trs it m kf vt (es ++ [(k, v)]))
        (fun _ _ _ _ _ => ?_) (hV _ he _ _ _ hcc) ⟨rfl, rowMp_same _ _⟩ fun v => .inr
          ⟨fun _ _ => rfl, fun _ _ => map_absorb, ⟨rfl, rowMp_same _ _⟩, fun crow' hi' hk => ?_⟩
      · rw [map_step_value hph hvm, hvt, hvz]
      · refine ⟨vt, kf, es ++ [(k, v)], mid, crow', hi', cck, he, rfl, hk,
          .inl ⟨⟨Or.inr rfl, ?_, hkd, hvt, hvz, hvm⟩, rfl⟩⟩
        simp [effRow, mpAbs, mpVal, mpCommit, htg, hkey, mapEntries]

theorem mapEntries_eq (cur : Val) : (match cur with | .map (some es) => es | _ => []) = mapEntries cur := by
  unfold mapEntries; rfl

theorem simLeaf_map {S : List Nat} {wi : Option Nat} {n : Nat} (hS : Closed ts a S wi) (hE : SimM ts a trs it ub S n) {base kt vt : Nat}
    (hrt : ts.get base = .map kt vt) (he : vt ∈ S) (row : URow) : SimLeaf ts a trs it ub n base .map (.map kt vt) row := by
  refine SimLeaf.of_cons fun cur lo hi stk be c F w d t rest f sf1 sf un hw hd hfr hsf1 hsf => ?_
  obtain ⟨f, rfl⟩ : ∃ f', f = f' + 4 := ⟨f - 4, by omega⟩
  obtain ⟨crow, cck, hreq, hcc⟩ := requisition_cov (lo ++ row :: hi) hS he
  rw [unmBare_map]
  cases hkf : keyFnOfU ts a kt with
  | none =>
    simp only [rtpB, map_reset_err hrt hkf (hreq f)]
    rfl
  | some kf =>
    refine loop_start hE hw hd (map_reset_ok hrt hkf (hreq f)) ⟨rfl, rowMp_same _ _⟩ hsf1 hsf stk be ?_
    dsimp only
    split
    · next hb => exact .close _ _ _ (fun _ _ _ _ => map_step_init_null rfl hb) (SameCfg.refl _)
    · next len hb =>
      exact .cont _ _ _ (fun _ _ _ _ => map_step_init_open rfl hb) ⟨rfl, rowMp_same _ _⟩
        ⟨vt, kf, mapEntries cur, hi, crow, [], cck, he, rfl, hcc, .inl ⟨⟨Or.inl rfl, rfl, rfl, rfl, rfl, rfl⟩, rfl⟩⟩
    · next h1 h2 => exact .fail fun _ _ _ _ => map_step_init_other rfl h2 h1

end Refmt.UMachU
