-- `normV` and the values that come back from a round trip (`rtV` here, `rtV'`, `rtF`, `rtJ` later) recurse in the same
-- way and differ in what they do at a map and at the leaves.  One step of that recursion is named here, shape by shape
-- (`ptrStep`, `mapSlice`, `mapArr`, `mapEntries` / `mapSorted`, `transformStep`, `unionStep`, `wildStep`), so that the step
-- equations of each function read `= shape` (`Norm.*`, `rtV_succ`, `rtBare_*`) and two functions are compared shape by
-- shape under a relation (`ptr_rel`, `slice_map_rel`, .., `NormRel`).  Also what the round trip of C13 is stated with:
-- `distinctKeys`, `mapsSorted`, `ValEqv`, values along a chain of pointers (`peel_chain`), and what a wire format may do to a
-- token (`TokMap`).
-- `normV` takes a `Fmt`, and of `cbor | json | pretty` only `.json` changes what it does (RefmtModel/Spec/Equiv.lean):
-- the token-level and the CBOR statements are at `.pretty`, which stands for any format but JSON.
import RefmtProofs.Lemmas.ObjMarshal
namespace Refmt.Obj
open Refmt

def keyStr : Val → Bytes
  | .str s => s
  | _ => []

mutual
  /-- the value the token-level round trip returns on plain types: `normV` with map entries in marshalling order -/
  def rtV (ts : Types) (a : Atlas) (trs : Trs) (it : IfaceTys) : Nat → Nat → Val → Val
    | 0, _, v => v
    | fuel+1, id, v =>
      let (n, base) := peel ts 64 0 id
      if n == 0 then rtBare ts a trs it fuel base (pickBare ts a base) v
      else
        match derefN n v with
        | none => .ptr none
        | some inner =>
          if isNullSer ts a trs base inner then .ptr none
          else wrapPtr n (rtBare ts a trs it fuel base (pickBare ts a base) inner)
  def rtBare (ts : Types) (a : Atlas) (trs : Trs) (it : IfaceTys) : Nat → Nat → Mach → Val → Val
    | 0, _, _, v => v
    | fuel+1, id, m, v =>
      match m with
      | .slice e => (match v with | .slice (some vs) => .slice (some (vs.map (rtV ts a trs it fuel e))) | x => x)
      | .array e => (match v with | .arr vs => .arr (vs.map (rtV ts a trs it fuel e)) | x => x)
      | .map _ vt mode =>
        (match v with
         | .map (some es) =>
           .map (some ((sortKeys mode (es.map fun (k, x) => (keyStr k, x))).map fun (s, x) => (Val.str s, rtV ts a trs it fuel vt x)))
         | x => x)
      | m => normBare .pretty ts a trs it (fuel+1) id m v
end

/-- map keys are pairwise distinct strings, at every level (fuel-bounded like `hasTy`) -/
def distinctKeys : Nat → Val → Prop
  | 0, _ => False
  | fuel+1, v =>
    match v with
    | .slice (some vs) => ∀ x ∈ vs, distinctKeys fuel x
    | .arr vs => ∀ x ∈ vs, distinctKeys fuel x
    | .map (some es) =>
      (∀ p ∈ es, ∃ s, p.1 = Val.str s) ∧ (es.map fun p => keyStr p.1).Nodup ∧ ∀ p ∈ es, distinctKeys fuel p.2
    | .ptr (some x) => distinctKeys fuel x
    | _ => True

/-- map entries are listed in the marshaller's key order `mode`, at every level -/
def mapsSorted (mode : KeySort) : Nat → Val → Prop
  | 0, _ => False
  | fuel+1, v =>
    match v with
    | .slice (some vs) => ∀ x ∈ vs, mapsSorted mode fuel x
    | .arr vs => ∀ x ∈ vs, mapsSorted mode fuel x
    | .map (some es) =>
      (es.map fun p => (keyStr p.1, p.2)).Pairwise (fun x y => keyLe mode x.1 y.1 = true) ∧
      (∀ p ∈ es, ∃ s, p.1 = Val.str s) ∧ ∀ p ∈ es, mapsSorted mode fuel p.2
    | .ptr (some x) => mapsSorted mode fuel x
    | _ => True

/-- Both predicates are false at fuel 0, so where one holds the fuel is a successor and the defining clause applies:
    `distinctKeys_succ h : ∀ x ∈ es, distinctKeys (k - 1) x` for `h : distinctKeys k (.slice (some es))`. -/
theorem distinctKeys_succ {k : Nat} {v : Val} (h : distinctKeys k v) : distinctKeys (k - 1 + 1) v := by
  cases k with
  | zero => exact False.elim h
  | succ k => exact h

theorem mapsSorted_succ {mode k} {v : Val} (h : mapsSorted mode k v) : mapsSorted mode (k - 1 + 1) v := by
  cases k with
  | zero => exact False.elim h
  | succ k => exact h

/-- a fuel-indexed predicate on values that descends through one pointer descends through `derefN` -/
theorem derefN_desc {P : Nat → Val → Prop} (hptr : ∀ k x, P k (.ptr (some x)) → P (k - 1) x) :
    ∀ (n k : Nat) (v inner : Val), P k v → derefN n v = some inner → ∃ k', P k' inner := by
  intro n
  induction n with
  | zero => intro k v inner hk hd; cases hd; exact ⟨k, hk⟩
  | succ n ih =>
    intro k v inner hk hd
    cases v <;> try (simp [derefN] at hd; done)
    rename_i o
    cases o with
    | none => simp [derefN] at hd
    | some x => exact ih (k - 1) x inner (hptr k x hk) hd

/-- equality of values up to the order of map entries (at every level) -/
inductive ValEqv : Val → Val → Prop
  | refl (v : Val) : ValEqv v v
  | slice {xs ys : List Val} : xs.length = ys.length → (∀ p ∈ xs.zip ys, ValEqv p.1 p.2) →
      ValEqv (.slice (some xs)) (.slice (some ys))
  | arr {xs ys : List Val} : xs.length = ys.length → (∀ p ∈ xs.zip ys, ValEqv p.1 p.2) →
      ValEqv (.arr xs) (.arr ys)
  | ptr {x y : Val} : ValEqv x y → ValEqv (.ptr (some x)) (.ptr (some y))
  | map {es zs es' : List (Val × Val)} : es.Perm zs → zs.length = es'.length →
      (∀ p ∈ zs.zip es', p.1.1 = p.2.1) → (∀ p ∈ zs.zip es', ValEqv p.1.2 p.2.2) →
      ValEqv (.map (some es)) (.map (some es'))

/-! What the value functions (`normV`, `rtV`, ..) do at a slice, an array and a string-keyed map, from what they do
    (`F`) at the elements: the specification keeps the entries of a map as they stand (`mapEntries`), the round trip
    returns them in marshalling order with the keys as strings (`mapSorted`). -/

def mapSlice (F : Val → Val) : Val → Val
  | .slice (some vs) => .slice (some (vs.map F))
  | x => x

def mapArr (F : Val → Val) : Val → Val
  | .arr vs => .arr (vs.map F)
  | x => x

def mapEntries (F : Val → Val) : Val → Val
  | .map (some es) => .map (some (es.map fun (k, x) => (k, F x)))
  | x => x

def mapSorted (mode : KeySort) (F : Val → Val) : Val → Val
  | .map (some es) => .map (some ((sortKeys mode (es.map fun (k, x) => (keyStr k, x))).map fun (s, x) => (Val.str s, F x)))
  | x => x

theorem mapSlice_some (F : Val → Val) (vs : List Val) : mapSlice F (.slice (some vs)) = .slice (some (vs.map F)) := rfl
theorem mapEntries_some (F : Val → Val) (es : List (Val × Val)) :
    mapEntries F (.map (some es)) = .map (some (es.map fun (k, x) => (k, F x))) := rfl
theorem mapSorted_some (mode : KeySort) (F : Val → Val) (es : List (Val × Val)) : mapSorted mode F (.map (some es)) =
    .map (some ((sortKeys mode (es.map fun (k, x) => (keyStr k, x))).map fun (s, x) => (Val.str s, F x))) := rfl

theorem mapSlice_id {F : Val → Val} (h : ∀ x, F x = x) (v : Val) : mapSlice F v = v := by
  rw [funext h]
  cases v with
  | slice o => cases o with | none => rfl | some vs => simp [mapSlice]
  | _ => rfl

theorem mapArr_id {F : Val → Val} (h : ∀ x, F x = x) (v : Val) : mapArr F v = v := by
  rw [funext h]
  cases v with
  | arr vs => simp [mapArr]
  | _ => rfl

theorem mapEntries_id {F : Val → Val} (h : ∀ x, F x = x) (v : Val) : mapEntries F v = v := by
  rw [funext h]
  cases v with
  | map o => cases o with | none => rfl | some es => simp [mapEntries]
  | _ => rfl

def ptrStep (ts : Types) (a : Atlas) (trs : Trs) (n base : Nat) (B : Val → Val) (v : Val) : Val :=
  if n == 0 then B v
  else match derefN n v with
    | none => .ptr none
    | some inner => if isNullSer ts a trs base inner then .ptr none else wrapPtr n (B inner)

theorem ptrStep_zero (ts : Types) (a : Atlas) (trs : Trs) (base : Nat) (B : Val → Val) (v : Val) :
    ptrStep ts a trs 0 base B v = B v := rfl

theorem ptrStep_pos (ts : Types) (a : Atlas) (trs : Trs) {n : Nat} (h : (n == 0) = false) (base : Nat) (B : Val → Val) (v : Val) :
    ptrStep ts a trs n base B v = match derefN n v with
      | none => .ptr none
      | some inner => if isNullSer ts a trs base inner then .ptr none else wrapPtr n (B inner) := by
  unfold ptrStep
  rw [h]
  rfl

/-- what an untyped slot holds after reading the single token of a scalar `pv` of dynamic type `dt` -/
def wildScalar (fmt : Fmt) (it : IfaceTys) (dt : Nat) (pv : Val) : Val :=
  match pv with
  | .bool b => .iface (some (it.bool, .bool b))
  | .int i => .iface (some (it.int, .int i))
  | .uint u => if u < two63 then .iface (some (it.int, .int u)) else .iface (some (it.uint64, .uint u))
  | .float b => .iface (some (normFloatIface fmt it b))
  | .str s => .iface (some (it.str, .str s))
  | .bytes (some b) => .iface (some (it.bytes, .bytes (some b)))
  | .byteArr b => .iface (some (it.bytes, .bytes (some b)))
  | x => .iface (some (dt, x))

def transformStep (trs : Trs) (fn : Nat) (N : Val → Val) (v : Val) : Val :=
  match trs.m fn v with
  | some tv => (trs.u fn (N tv)).getD v
  | none => v

theorem transformStep_some {trs : Trs} {fn : Nat} {v tv : Val} (h : trs.m fn v = some tv) (N : Val → Val) :
    transformStep trs fn N v = (trs.u fn (N tv)).getD v := by
  simp only [transformStep, h]

theorem transformStep_none {trs : Trs} {fn : Nat} {v : Val} (h : trs.m fn v = none) (N : Val → Val) :
    transformStep trs fn N v = v := by
  simp only [transformStep, h]

def unionStep (ts : Types) (a : Atlas) (members : List (Bytes × Nat)) (NB : Nat → Mach → Val → Val) (v : Val) : Val :=
  match v with
  | .iface (some (dt, dv)) =>
    (match members.find? fun (_, idx) => (a.pool[idx]?.map (·.ty)) == some dt with
     | some (_, idx) =>
       (match a.pool[idx]? with
        | some me => .iface (some (dt, NB dt (machForEntry ts me) dv))
        | none => v)
     | none => v)
  | x => x

theorem unionStep_member {ts : Types} {a : Atlas} {members : List (Bytes × Nat)} {dt : Nat} {dv : Val} {nm : Bytes} {idx : Nat}
    {me : Entry} (hfind : (members.find? fun (x : Bytes × Nat) => (a.pool[x.2]?.map (·.ty)) == some dt) = some (nm, idx))
    (hme : a.pool[idx]? = some me) (NB : Nat → Mach → Val → Val) :
    unionStep ts a members NB (.iface (some (dt, dv))) = .iface (some (dt, NB dt (machForEntry ts me) dv)) := by
  simp only [unionStep, hfind, hme]

/-- `N`: the value function at `interface{}`; `NB`: at base types; `M`: what it does at a map (`mapEntries` for the
    specification, `mapSorted` for the round trip). -/
def wildStep (fmt : Fmt) (ts : Types) (a : Atlas) (trs : Trs) (it : IfaceTys) (N : Val → Val) (NB : Nat → Mach → Val → Val)
    (M : KeySort → (Val → Val) → Val → Val) (dt : Nat) (dv : Val) : Val :=
  if isBareNullSer fmt ts a trs dt dv then .iface none else
  match pickBare ts a (peel ts 64 0 dt).2, derefN (peel ts 64 0 dt).1 dv with
  | .prim, some pv => wildScalar fmt it dt pv
  | .slice e, some (.slice (some vs)) => .iface (some (it.sliceI, .slice (some (vs.map fun x => N (boxAs ts e x)))))
  | .array e, some (.arr vs) => .iface (some (it.sliceI, .slice (some (vs.map fun x => N (boxAs ts e x)))))
  | .map _ vt mode, some (.map (some es)) => .iface (some (it.mapSI, M mode (fun x => N (boxAs ts vt x)) (.map (some es))))
  | _, some pv => .iface (some ((peel ts 64 0 dt).2, NB (peel ts 64 0 dt).2 (pickBare ts a (peel ts 64 0 dt).2) pv))
  | _, none => .iface none

section
variable {fmt : Fmt} {ts : Types} {a : Atlas} {trs : Trs} {it : IfaceTys} {N : Val → Val} {NB : Nat → Mach → Val → Val}
  {M : KeySort → (Val → Val) → Val → Val} {dt : Nat} {dv : Val}

theorem wildStep_null (h : isBareNullSer fmt ts a trs dt dv = true) : wildStep fmt ts a trs it N NB M dt dv = .iface none := by
  unfold wildStep
  rw [if_pos h]

theorem wildStep_prim (hnp : ∀ e, ts.get dt ≠ .ptr e) (h : isBareNullSer fmt ts a trs dt dv = false)
    (hpk : pickBare ts a dt = .prim) : wildStep fmt ts a trs it N NB M dt dv = wildScalar fmt it dt dv := by
  unfold wildStep
  rw [h, ObjL.peel_nonptr ts 64 0 dt hnp]
  simp only [derefN, hpk, Bool.false_eq_true, if_false]

theorem wildStep_slice (hnp : ∀ e, ts.get dt ≠ .ptr e) {e : Nat} {vs : List Val}
    (h : isBareNullSer fmt ts a trs dt (.slice (some vs)) = false) (hpk : pickBare ts a dt = .slice e) :
    wildStep fmt ts a trs it N NB M dt (.slice (some vs)) =
      .iface (some (it.sliceI, .slice (some (vs.map fun x => N (boxAs ts e x))))) := by
  unfold wildStep
  rw [h, ObjL.peel_nonptr ts 64 0 dt hnp]
  simp only [derefN, hpk, Bool.false_eq_true, if_false]

theorem wildStep_map (hnp : ∀ e, ts.get dt ≠ .ptr e) {kt vt : Nat} {mode : KeySort} {es : List (Val × Val)}
    (h : isBareNullSer fmt ts a trs dt (.map (some es)) = false) (hpk : pickBare ts a dt = .map kt vt mode) :
    wildStep fmt ts a trs it N NB M dt (.map (some es)) =
      .iface (some (it.mapSI, M mode (fun x => N (boxAs ts vt x)) (.map (some es)))) := by
  unfold wildStep
  rw [h, ObjL.peel_nonptr ts 64 0 dt hnp]
  simp only [derefN, hpk, Bool.false_eq_true, if_false]

theorem wildStep_entry (hnp : ∀ e, ts.get dt ≠ .ptr e) (h : isBareNullSer fmt ts a trs dt dv = false) {e : Entry}
    (hpk : (∃ fs, pickBare ts a dt = .structMap e fs) ∨ ∃ fn mty, pickBare ts a dt = .transform e fn mty) :
    wildStep fmt ts a trs it N NB M dt dv = .iface (some (dt, NB dt (pickBare ts a dt) dv)) := by
  unfold wildStep
  rw [h, ObjL.peel_nonptr ts 64 0 dt hnp]
  rcases hpk with ⟨fs, hpk⟩ | ⟨fn, mty, hpk⟩ <;> simp only [derefN, hpk, Bool.false_eq_true, if_false]

end

variable (ts : Types) (a : Atlas) (trs : Trs) (it : IfaceTys)

theorem Norm.succ (fmt : Fmt) (fuel id v) : normV fmt ts a trs it (fuel+1) id v =
    ptrStep ts a trs (peel ts 64 0 id).1 (peel ts 64 0 id).2
      (normBare fmt ts a trs it fuel (peel ts 64 0 id).2 (pickBare ts a (peel ts 64 0 id).2)) v := by
  rw [normV.eq_def] <;> rfl
theorem Norm.prim (fmt : Fmt) (fuel id v) : normBare fmt ts a trs it (fuel+1) id .prim v =
    (match v with | .float b => .float (normFloat fmt b) | x => x) := by
  rw [normBare.eq_def] <;> rfl
theorem Norm.slice (fmt : Fmt) (fuel id e v) : normBare fmt ts a trs it (fuel+1) id (.slice e) v =
    mapSlice (normV fmt ts a trs it fuel e) v := by
  rw [normBare.eq_def] <;> rfl
theorem Norm.array (fmt : Fmt) (fuel id e v) : normBare fmt ts a trs it (fuel+1) id (.array e) v =
    mapArr (normV fmt ts a trs it fuel e) v := by
  rw [normBare.eq_def] <;> rfl
theorem Norm.map (fmt : Fmt) (fuel id kt vt mode v) : normBare fmt ts a trs it (fuel+1) id (.map kt vt mode) v =
    mapEntries (normV fmt ts a trs it fuel vt) v := by
  rw [normBare.eq_def] <;> rfl
theorem Norm.transform (fmt : Fmt) (fuel id e fn mty v) : normBare fmt ts a trs it (fuel+1) id (.transform e fn mty) v =
    transformStep trs fn (normV fmt ts a trs it fuel mty) v := by
  rw [normBare.eq_def] <;> rfl
theorem Norm.union (fmt : Fmt) (fuel id e members v) : normBare fmt ts a trs it (fuel+1) id (.union e members) v =
    unionStep ts a members (normBare fmt ts a trs it fuel) v := by
  rw [normBare.eq_def] <;> rfl
theorem Norm.wild_other (fmt : Fmt) (fuel id v) (hv : ∀ dt dv, v ≠ .iface (some (dt, dv))) :
    normBare fmt ts a trs it (fuel+1) id .wildcard v = v := by
  cases v with
  | iface o =>
    cases o with
    | none => rw [normBare.eq_def] <;> rfl
    | some q => exact absurd rfl (hv q.1 q.2)
  | _ => rw [normBare.eq_def] <;> rfl
theorem Norm.wild_some (fmt : Fmt) (fuel id dt dv) : normBare fmt ts a trs it (fuel+1) id .wildcard (.iface (some (dt, dv))) =
    wildStep fmt ts a trs it (normV fmt ts a trs it fuel it.iface) (normBare fmt ts a trs it fuel) (fun _ => mapEntries) dt dv := by
  rw [normBare.eq_def] <;> rfl

theorem _root_.Refmt.C13.normBare_prim (fuel id v) : normBare .pretty ts a trs it (fuel+1) id .prim v = v := by
  cases v <;> rfl

theorem rtV_succ (fuel id v) : rtV ts a trs it (fuel+1) id v =
    ptrStep ts a trs (peel ts 64 0 id).1 (peel ts 64 0 id).2
      (rtBare ts a trs it fuel (peel ts 64 0 id).2 (pickBare ts a (peel ts 64 0 id).2)) v := by
  rw [rtV.eq_def]
  rfl

theorem rtBare_prim (fuel id v) : rtBare ts a trs it (fuel+1) id .prim v = v := by
  rw [rtBare.eq_def]
  exact C13.normBare_prim ts a trs it fuel id v

theorem rtBare_slice (fuel id e v) : rtBare ts a trs it (fuel+1) id (.slice e) v =
    mapSlice (rtV ts a trs it fuel e) v := by
  rw [rtBare.eq_def]
  rfl
theorem rtBare_array (fuel id e v) : rtBare ts a trs it (fuel+1) id (.array e) v =
    mapArr (rtV ts a trs it fuel e) v := by
  rw [rtBare.eq_def]
  rfl
theorem rtBare_map (fuel id kt vt mode v) : rtBare ts a trs it (fuel+1) id (.map kt vt mode) v =
    mapSorted mode (rtV ts a trs it fuel vt) v := by
  rw [rtBare.eq_def]
  rfl

theorem _root_.Refmt.C13.stringify_strKeys {trs : Trs} (es : List (Val × Val)) (hk : ∀ q ∈ es, ∃ s, q.1 = Val.str s) :
    MM.stringify trs none es = some (es.map fun (k, x) => (keyStr k, x)) := by
  refine ObjL.mapM_eq_some_map _ _ es (fun q hq => ?_)
  obtain ⟨k, x⟩ := q
  obtain ⟨s, hs⟩ := hk (k, x) hq
  simp only at hs; subst hs
  rfl

theorem mem_sortKeys_keyStr {mode : KeySort} {es : List (Val × Val)} {q : Bytes × Val}
    (hq : q ∈ sortKeys mode (es.map fun (k, x) => (keyStr k, x))) : ∃ q' ∈ es, q.2 = q'.2 ∧ q.1 = keyStr q'.1 := by
  obtain ⟨q', hq', rfl⟩ := List.mem_map.mp ((ObjL.sortKeys_perm mode _).mem_iff.mp hq)
  exact ⟨q', hq', rfl, rfl⟩

theorem nodup_sortKeys_keyStr {mode : KeySort} {es : List (Val × Val)} (hnd : (es.map fun p => keyStr p.1).Nodup) :
    ((sortKeys mode (es.map fun (k, x) => (keyStr k, x))).map (·.1)).Nodup := by
  rw [((ObjL.sortKeys_perm mode _).map _).nodup_iff]
  simpa [List.map_map, Function.comp_def] using hnd

/-- `T` is a fuel-bounded class of types that descends through pointers (`plainTy ts a`, `structTy ts a`, `fullTy`):
    peeling a type of the class reaches a non-pointer base still in the class, `n` pointers down, with fuel to spare. -/
theorem peel_chain {T : Nat → Nat → Bool} (h0 : ∀ id, T 0 id = false)
    (hptr : ∀ p id e, ts.get id = .ptr e → T (p + 1) id = true → T p e = true) :
    ∀ (p k c id : Nat), T p id = true → p ≤ k →
      ∃ n base p', peel ts k c id = (c + n, base) ∧ T (p' + 1) base = true ∧ (∀ e, ts.get base ≠ .ptr e) ∧
        chain ts n id base ∧ p' + 1 + n ≤ p := by
  intro p
  induction p with
  | zero => intro k c id h; simp [h0] at h
  | succ p ih =>
    intro k c id h hk
    obtain ⟨k, rfl⟩ : ∃ k', k = k' + 1 := ⟨k - 1, by omega⟩
    cases hd : ts.get id with
    | ptr e =>
      obtain ⟨n, base, p', h1, h2, h3, h4, h5⟩ := ih k (c + 1) e (hptr p id e hd h) (by omega)
      refine ⟨n + 1, base, p', ?_, h2, h3, ⟨e, hd, h4⟩, by omega⟩
      rw [C13.peel_ptr ts hd, h1, Nat.add_assoc, Nat.add_comm 1 n]
    | _ =>
      have hnp : ∀ e, ts.get id ≠ .ptr e := by simp [hd]
      exact ⟨0, id, p, ObjL.peel_nonptr ts (k+1) c id hnp, h, hnp, rfl, by omega⟩

theorem zeroVal_one_level {ts : Types} (k id : Nat) : zeroVal ts (k+1) id = (match ts.get id with
    | .prim kd _ =>
      (match kd with
       | .bool => .bool false
       | .string => .str []
       | .f32 | .f64 => .float 0
       | .int | .int8 | .int16 | .int32 | .int64 => .int 0
       | _ => .uint 0)
    | .bytes _ => .bytes none
    | .byteArr n => .byteArr (List.replicate n 0)
    | .slice _ => .slice none
    | .arr n e => .arr (List.replicate n (zeroVal ts k e))
    | .map _ _ => .map none
    | .ptr _ => .ptr none
    | .iface _ => .iface none
    | .struct fs => .struct (fs.map fun f => zeroVal ts k f.ty)
    | .other => .ptr none) := by
  rw [zeroVal.eq_def]
  rfl

theorem zeroVal_ptr {id e : Nat} (hd : ts.get id = .ptr e) : zeroVal ts 64 id = .ptr none := by
  rw [zeroVal_one_level 63, hd]

theorem zeroVal_slice {ts : Types} {id e : Nat} (hd : ts.get id = .slice e) : zeroVal ts 64 id = .slice none := by
  rw [zeroVal_one_level 63, hd]

theorem zeroVal_map {ts : Types} {id k e : Nat} (hd : ts.get id = .map k e) : zeroVal ts 64 id = .map none := by
  rw [zeroVal_one_level 63, hd]

theorem innerCur_zeroVal : ∀ (n id base : Nat), chain ts n id base → innerCur ts n id (zeroVal ts 64 id) = zeroVal ts 64 base := by
  intro n
  induction n with
  | zero => intro id base h; cases h; rfl
  | succ n ih =>
    intro id base h
    obtain ⟨e, he, hc⟩ := h
    rw [zeroVal_ptr ts he]
    unfold innerCur
    simp only [he]
    exact ih e base hc

/-- What a wire format does to the marshaller's tokens on their way to the unmarshaller, token by token (the identity
    for CBOR, `Spec.Json.retypeTok` for JSON): it may change lengths, tags and the representation of scalars, not the
    structure of the stream, and leaves the strings `ok` alone. -/
structure TokMap (τ : Tok → Tok) (ok : Bytes → Prop) : Prop where
  null_iff : ∀ t, (τ t).body = .null ↔ t.body = .null
  arrClose_iff : ∀ t, (τ t).body = .arrClose ↔ t.body = .arrClose
  mapClose_iff : ∀ t, (τ t).body = .mapClose ↔ t.body = .mapClose
  arrOpen : ∀ l tg, ∃ l', (τ ⟨.arrOpen l, tg⟩).body = .arrOpen l'
  mapOpen : ∀ l tg, (τ ⟨.mapOpen l, tg⟩).body = .mapOpen l ∨ (τ ⟨.mapOpen l, tg⟩).body = .mapOpen (-1)
  str : ∀ s, ok s → (τ ⟨.str s, none⟩).body = .str s

theorem TokMap.id : TokMap id (fun _ => True) :=
  ⟨fun _ => Iff.rfl, fun _ => Iff.rfl, fun _ => Iff.rfl, fun l _ => ⟨l, rfl⟩, fun _ _ => Or.inl rfl, fun _ _ => rfl⟩

section
variable {τ : Tok → Tok} {ok : Bytes → Prop} (T : TokMap τ ok)
include T

theorem TokMap.null (tg : Option Int) : (τ ⟨.null, tg⟩).body = .null := (T.null_iff _).2 rfl
theorem TokMap.arrClose : (τ ⟨.arrClose, none⟩).body = .arrClose := (T.arrClose_iff _).2 rfl
theorem TokMap.mapClose : (τ ⟨.mapClose, none⟩).body = .mapClose := (T.mapClose_iff _).2 rfl
theorem TokMap.mapOpen_some (l : Int) (tg : Option Int) : ∃ l', (τ ⟨.mapOpen l, tg⟩).body = .mapOpen l' :=
  (T.mapOpen l tg).elim (fun h => ⟨_, h⟩) fun h => ⟨_, h⟩

end

end Refmt.Obj

namespace Refmt.C13
open Refmt Refmt.Obj

variable (ts : Types) (a : Atlas) (trs : Trs) (it : IfaceTys)

theorem map_sorted_congr {mode : KeySort} {F G : Val → Val} {v : Val}
    (h : ∀ es, v = .map (some es) → (es.map fun p => (keyStr p.1, p.2)).Pairwise (fun x y => keyLe mode x.1 y.1 = true) ∧
      (∀ p ∈ es, ∃ s, p.1 = Val.str s) ∧ ∀ p ∈ es, F p.2 = G p.2) :
    mapSorted mode F v = mapEntries G v := by
  cases v with
  | map o =>
    cases o with
    | none => rfl
    | some es =>
    obtain ⟨hsort, hstr, hsub⟩ := h es rfl
    have : sortKeys mode (es.map fun x => (keyStr x.1, x.2)) = es.map fun x => (keyStr x.1, x.2) :=
      List.mergeSort_of_pairwise hsort
    simp only [mapSorted_some, mapEntries_some, Val.map.injEq, Option.some.injEq]
    rw [this, List.map_map]
    refine List.map_congr_left (fun q hq => ?_)
    obtain ⟨s, hs1⟩ := hstr q hq
    obtain ⟨q1, q2⟩ := q
    simp only at hs1; subst hs1
    simp [keyStr, hsub _ hq]
  | _ => rfl

theorem zip_map_mem {α β γ : Type} (f : α → β) (g : α → γ) (l : List α) (p : β × γ) (hp : p ∈ (l.map f).zip (l.map g)) :
    ∃ x ∈ l, p = (f x, g x) := by
  rw [List.zip_map'] at hp
  simpa [eq_comm] using hp

section rel
variable {Rel : Val → Val → Prop} (hrefl : ∀ v, Rel v v)
include hrefl

theorem slice_map_rel
    (hslice : ∀ {xs ys : List Val}, xs.length = ys.length → (∀ p ∈ xs.zip ys, Rel p.1 p.2) →
      Rel (.slice (some xs)) (.slice (some ys)))
    {F G : Val → Val} {v : Val} (h : ∀ vs, v = .slice (some vs) → ∀ x ∈ vs, Rel (F x) (G x)) :
    Rel (mapSlice F v) (mapSlice G v) := by
  cases v with
  | slice o =>
    cases o with
    | none => exact hrefl _
    | some vs =>
      refine hslice (by simp) (fun q hq => ?_)
      obtain ⟨x, hx, rfl⟩ := zip_map_mem _ _ vs q hq
      exact h vs rfl x hx
  | _ => exact hrefl _

theorem arr_map_rel
    (harr : ∀ {xs ys : List Val}, xs.length = ys.length → (∀ p ∈ xs.zip ys, Rel p.1 p.2) → Rel (.arr xs) (.arr ys))
    {F G : Val → Val} {v : Val} (h : ∀ vs, v = .arr vs → ∀ x ∈ vs, Rel (F x) (G x)) :
    Rel (mapArr F v) (mapArr G v) := by
  cases v with
  | arr vs =>
    refine harr (by simp) (fun q hq => ?_)
    obtain ⟨x, hx, rfl⟩ := zip_map_mem _ _ vs q hq
    exact h vs rfl x hx
  | _ => exact hrefl _

theorem map_sort_rel
    (hmap : ∀ {es zs es' : List (Val × Val)}, es.Perm zs → zs.length = es'.length →
      (∀ p ∈ zs.zip es', p.1.1 = p.2.1) → (∀ p ∈ zs.zip es', Rel p.1.2 p.2.2) → Rel (.map (some es)) (.map (some es')))
    {mode : KeySort} {F G : Val → Val} {v : Val}
    (h : ∀ es, v = .map (some es) → (∀ p ∈ es, ∃ s, p.1 = Val.str s) ∧ ∀ p ∈ es, Rel (F p.2) (G p.2)) :
    Rel (mapSorted mode F v) (mapEntries G v) := by
  cases v with
  | map o =>
    cases o with
    | none => exact hrefl _
    | some es =>
      obtain ⟨hstr, hsub⟩ := h es rfl
      refine hmap (zs := es.map fun q => (q.1, F q.2)) ?_ (by simp) ?_ ?_
      · have hperm := (ObjL.sortKeys_perm mode (es.map fun x => (keyStr x.1, x.2))).map
          (fun (q : Bytes × Val) => (Val.str q.1, F q.2))
        refine hperm.trans (List.Perm.of_eq ?_)
        rw [List.map_map]
        refine List.map_congr_left (fun q hq => ?_)
        obtain ⟨s, hs1⟩ := hstr q hq
        obtain ⟨q1, q2⟩ := q
        simp only at hs1; subst hs1
        simp [keyStr]
      · intro q hq
        obtain ⟨x, hx, rfl⟩ := zip_map_mem _ _ es q hq
        rfl
      · intro q hq
        obtain ⟨x, hx, rfl⟩ := zip_map_mem _ _ es q hq
        exact hsub x hx
  | _ => exact hrefl _
end rel

theorem eq_of_zip {xs ys : List Val} (hl : xs.length = ys.length) (h : ∀ p ∈ xs.zip ys, p.1 = p.2) : xs = ys :=
  List.ext_getElem hl fun j h1 h2 => h (xs[j], ys[j]) (List.mem_iff_getElem.mpr ⟨j, by rw [List.length_zip]; omega, by simp⟩)

theorem slice_map_congr {F G : Val → Val} {v : Val} (h : ∀ vs, v = .slice (some vs) → ∀ x ∈ vs, F x = G x) :
    mapSlice F v = mapSlice G v :=
  slice_map_rel (fun _ => rfl) (fun hl hp => by rw [eq_of_zip hl hp]) h

theorem arr_map_congr {F G : Val → Val} {v : Val} (h : ∀ vs, v = .arr vs → ∀ x ∈ vs, F x = G x) :
    mapArr F v = mapArr G v :=
  arr_map_rel (fun _ => rfl) (fun hl hp => by rw [eq_of_zip hl hp]) h

theorem unionStep_rel {Rel : Val → Val → Prop} (hrefl : ∀ v, Rel v v)
    (hiface : ∀ {dt : Nat} {x y : Val}, Rel x y → Rel (.iface (some (dt, x))) (.iface (some (dt, y))))
    {members : List (Bytes × Nat)} {NB NB' : Nat → Mach → Val → Val} {v : Val}
    (h : ∀ dt dv nm idx me, v = .iface (some (dt, dv)) →
      (members.find? fun (x : Bytes × Nat) => (a.pool[x.2]?.map (·.ty)) == some dt) = some (nm, idx) → a.pool[idx]? = some me →
      Rel (NB dt (machForEntry ts me) dv) (NB' dt (machForEntry ts me) dv)) :
    Rel (unionStep ts a members NB v) (unionStep ts a members NB' v) := by
  unfold unionStep
  cases v <;> try exact hrefl _
  rename_i o
  cases o with
  | none => exact hrefl _
  | some q =>
    obtain ⟨dt, dv⟩ := q
    simp only
    cases hfind : (members.find? fun (x : Bytes × Nat) => (a.pool[x.2]?.map (·.ty)) == some dt) with
    | none => exact hrefl _
    | some q =>
      obtain ⟨nm, idx⟩ := q
      simp only
      cases hme : a.pool[idx]? with
      | none => exact hrefl _
      | some me => exact hiface (h dt dv nm idx me rfl hfind hme)

theorem wrapPtr_rel {Rel : Val → Val → Prop} (hptr : ∀ {x y}, Rel x y → Rel (.ptr (some x)) (.ptr (some y))) {x y : Val}
    (h : Rel x y) : ∀ n, Rel (wrapPtr n x) (wrapPtr n y)
  | 0 => h
  | n+1 => hptr (wrapPtr_rel hptr h n)

theorem ptr_rel {Rel : Val → Val → Prop} (hrefl : ∀ v, Rel v v)
    (hwrap : ∀ {x y}, Rel x y → ∀ n, Rel (wrapPtr n x) (wrapPtr n y)) {n base : Nat} {v : Val} {F G : Val → Val}
    (h : ∀ inner, derefN n v = some inner → Rel (F inner) (G inner)) :
    Rel (ptrStep ts a trs n base F v) (ptrStep ts a trs n base G v) := by
  unfold ptrStep
  split
  · rename_i hn
    exact h v (by rw [beq_iff_eq.mp hn]; rfl)
  · cases hdn : derefN n v with
    | none => exact hrefl _
    | some inner =>
      simp only
      split
      · exact hrefl _
      · exact hwrap (h inner hdn) n

/-- What a comparison of a round-trip value with `normV` rests on; `S` is the side condition on the value under which
    `map` holds.  Equality under `mapsSorted` and `ValEqv` under `distinctKeys` are the two instances. -/
structure NormRel (mode : KeySort) (Rel : Val → Val → Prop) (S : Nat → Val → Prop) : Prop where
  refl : ∀ v, Rel v v
  ptr : ∀ {x y}, Rel x y → Rel (.ptr (some x)) (.ptr (some y))
  slice : ∀ {F G : Val → Val} {v : Val}, (∀ vs, v = .slice (some vs) → ∀ x ∈ vs, Rel (F x) (G x)) →
    Rel (mapSlice F v) (mapSlice G v)
  arr : ∀ {F G : Val → Val} {v : Val}, (∀ vs, v = .arr vs → ∀ x ∈ vs, Rel (F x) (G x)) → Rel (mapArr F v) (mapArr G v)
  map : ∀ {k : Nat} {F G : Val → Val} {v : Val}, S k v →
    (∀ es, v = .map (some es) → ∀ q ∈ es, S (k - 1) q.2 → Rel (F q.2) (G q.2)) → Rel (mapSorted mode F v) (mapEntries G v)
  S_ptr : ∀ k x, S k (.ptr (some x)) → S (k - 1) x
  S_slice : ∀ {k : Nat} {es : List Val}, S k (.slice (some es)) → ∀ x ∈ es, S (k - 1) x
  S_arr : ∀ {k : Nat} {es : List Val}, S k (.arr es) → ∀ x ∈ es, S (k - 1) x

theorem NormRel.wrap {mode : KeySort} {Rel : Val → Val → Prop} {S : Nat → Val → Prop} (N : NormRel mode Rel S) {x y : Val}
    (h : Rel x y) (n : Nat) : Rel (wrapPtr n x) (wrapPtr n y) :=
  wrapPtr_rel N.ptr h n

theorem normRel_eq (mode : KeySort) : NormRel mode Eq (mapsSorted mode) where
  refl := fun _ => rfl
  ptr := fun h => h ▸ rfl
  slice := slice_map_congr
  arr := arr_map_congr
  map := fun hs h => map_sorted_congr fun es hv => by
    obtain ⟨hsort, hstr, hsub⟩ := mapsSorted_succ (hv ▸ hs)
    exact ⟨hsort, hstr, fun q hq => h es hv q hq (hsub q hq)⟩
  S_ptr := fun _ _ h => mapsSorted_succ h
  S_slice := fun h => mapsSorted_succ h
  S_arr := fun h => mapsSorted_succ h

theorem normRel_eqv (mode : KeySort) : NormRel mode ValEqv distinctKeys where
  refl := ValEqv.refl
  ptr := ValEqv.ptr
  slice := slice_map_rel ValEqv.refl ValEqv.slice
  arr := arr_map_rel ValEqv.refl ValEqv.arr
  map := fun hs h => map_sort_rel ValEqv.refl ValEqv.map fun es hv => by
    obtain ⟨hstr, -, hsub⟩ := distinctKeys_succ (hv ▸ hs)
    exact ⟨hstr, fun q hq => h es hv q hq (hsub q hq)⟩
  S_ptr := fun _ _ h => distinctKeys_succ h
  S_slice := fun h => distinctKeys_succ h
  S_arr := fun h => distinctKeys_succ h

end Refmt.C13
