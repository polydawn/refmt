/-
  `candidates` unfolded level by level: the frontier of the embedding tree at a given depth, each node with the
  types of its ancestors (`XNode`), the next frontier (`nextX`) and the candidates below a frontier (`candsX`).
-/
import RefmtProofs.Lemmas.AutogenBfs
namespace Refmt.Autogen
open Refmt Refmt.Obj
open List (Perm)

theorem candidates_succ (ts : Types) (u : UTab) (fuel : Nat) (path route : List Nat) (sty : Nat) :
    (candidates ts u (fuel + 1) path route sty).Perm
      (if path.contains sty then [] else
        fieldsOf ts u (route, sty) ++
          (childrenOf ts u (route, sty)).flatMap (fun c => candidates ts u fuel (sty :: path) c.1 c.2)) := by
  rw [candidates]
  by_cases hp : path.contains sty = true
  · simp only [hp, if_true]; exact Perm.refl _
  · simp only [hp, if_false, Bool.false_eq_true, fieldsOf, childrenOf]
    cases hty : ts.get sty with
    | struct fds =>
      simp only []
      -- field by field: the entry it emits, then the candidates below the struct it embeds
      refine (Perm.of_eq (flatMap_congr _ _ (fun p => fieldOut ts u route p ++
        (childOut ts u route p).flatMap (fun c => candidates ts u fuel (sty :: path) c.1 c.2)) ?_)).trans ?_
      · rintro ⟨sf, i⟩ _
        show fieldCase ts u sf [] [entryOf u sf (route ++ [i])]
          (candidates ts u fuel (sty :: path) (route ++ [i]) (derefOnce ts sf.ty)) = _
        rw [fieldOut, childOut_eq]
        rcases fieldCase_cases ts u sf with h | ⟨_, _, h⟩ | ⟨_, h⟩ <;> rw [h, h, h] <;> simp
      · rw [List.flatMap_assoc]
        exact flatMap_append_perm _ _ _
    | _ => simp

theorem candidates_mem (ts : Types) (u : UTab) (N : Nat) (PN : Nat → Node → Prop) (PF : AField → Prop)
    (hchild : ∀ k c, PN k c → ∀ n ∈ childrenOf ts u c, PN (k + 1) n)
    (hfield : ∀ k c, PN k c → k < N → ∀ x ∈ fieldsOf ts u c, PF x) :
    ∀ (fuel k : Nat) (path route : List Nat) (sty : Nat), k + fuel = N → PN k (route, sty) →
      ∀ x ∈ candidates ts u fuel path route sty, PF x := by
  intro fuel
  induction fuel with
  | zero => intro k path route sty _ _ x hx; simp [candidates] at hx
  | succ fuel ih =>
    intro k path route sty hk hn x hx
    have hx := (candidates_succ ts u fuel path route sty).mem_iff.mp hx
    split at hx
    · cases hx
    · rcases List.mem_append.mp hx with h | h
      · exact hfield k _ hn (by omega) x h
      · obtain ⟨c, hc, hxc⟩ := List.mem_flatMap.mp h
        exact ih (k + 1) _ c.1 c.2 (by omega) (hchild k _ hn c hc) x hxc

/-- (types of the strict ancestors, (route, type)) -/
abbrev XNode := List Nat × Node

def xlive (x : XNode) : Bool := !x.1.contains x.2.2

def xchildren (ts : Types) (u : UTab) (x : XNode) : List XNode :=
  (childrenOf ts u x.2).map fun c => (x.2.2 :: x.1, c)

def nextX (ts : Types) (u : UTab) (ns : List XNode) : List XNode := (ns.filter xlive).flatMap (xchildren ts u)

def candsX (ts : Types) (u : UTab) (fuel : Nat) (ns : List XNode) : List AField :=
  ns.flatMap fun x => candidates ts u fuel x.1 x.2.1 x.2.2

def childTypes (ts : Types) (u : UTab) (sty : Nat) : List Nat := (childrenOf ts u ([], sty)).map (·.2)

theorem childrenOf_types (ts : Types) (u : UTab) (r : List Nat) (sty : Nat) :
    (childrenOf ts u (r, sty)).map (·.2) = childTypes ts u sty := by
  rw [childTypes, childrenOf_pre ts u (r, sty), List.map_map]
  rfl

theorem candsX_zero (ts : Types) (u : UTab) (ns : List XNode) : candsX ts u 0 ns = [] :=
  List.flatMap_eq_nil_iff.mpr fun x _ => by rw [candidates]

theorem candsX_succ (ts : Types) (u : UTab) (fuel : Nat) (ns : List XNode) :
    (candsX ts u (fuel + 1) ns).Perm
      ((ns.filter xlive).flatMap (fun x => fieldsOf ts u x.2) ++ candsX ts u fuel (nextX ts u ns)) := by
  have h1 : (candsX ts u (fuel + 1) ns).Perm
      (ns.flatMap (fun x => if xlive x then
        fieldsOf ts u x.2 ++ (xchildren ts u x).flatMap (fun y => candidates ts u fuel y.1 y.2.1 y.2.2) else [])) := by
    apply perm_flatMap_left
    intro x _
    refine (candidates_succ ts u fuel x.1 x.2.1 x.2.2).trans (Perm.of_eq ?_)
    simp only [xlive, xchildren, List.flatMap_map]
    cases x.1.contains x.2.2 <;> simp
  refine h1.trans ?_
  rw [flatMap_ite_filter]
  refine (flatMap_append_perm _ _ _).trans (Perm.of_eq ?_)
  simp only [candsX, nextX, List.flatMap_assoc]

theorem candsX_singleton (ts : Types) (u : UTab) (fuel : Nat) (x : XNode) :
    candsX ts u fuel [x] = candidates ts u fuel x.1 x.2.1 x.2.2 := by
  rw [candsX, List.flatMap_singleton]

theorem mem_xchildren (ts : Types) (u : UTab) (x y : XNode) (h : y ∈ xchildren ts u x) :
    y.1 = x.2.2 :: x.1 ∧ y.2 ∈ childrenOf ts u x.2 ∧ y.2.2 ∈ childTypes ts u x.2.2 := by
  unfold xchildren at h
  rw [List.mem_map] at h
  obtain ⟨c, hc, rfl⟩ := h
  refine ⟨rfl, hc, ?_⟩
  rw [← childrenOf_types ts u x.2.1 x.2.2, List.mem_map]
  exact ⟨c, hc, rfl⟩

theorem mem_nextX (ts : Types) (u : UTab) (ns : List XNode) (y : XNode) :
    y ∈ nextX ts u ns ↔ ∃ x ∈ ns, xlive x = true ∧ y ∈ xchildren ts u x := by
  simp only [nextX, List.mem_flatMap, List.mem_filter, and_assoc]

theorem childTypes_mem (ts : Types) (u : UTab) (x : XNode) (W : Nat) (h : W ∈ childTypes ts u x.2.2) :
    ∃ y ∈ xchildren ts u x, y.2.2 = W := by
  rw [← childrenOf_types ts u x.2.1 x.2.2, List.mem_map] at h
  obtain ⟨c, hc, rfl⟩ := h
  exact ⟨(x.2.2 :: x.1, c), by unfold xchildren; rw [List.mem_map]; exact ⟨c, hc, rfl⟩, rfl⟩

theorem xchildren_pre (ts : Types) (u : UTab) (x : XNode) :
    xchildren ts u x = (childrenOf ts u ([], x.2.2)).map (fun k => (x.2.2 :: x.1, pre x.2.1 k)) := by
  rw [xchildren, childrenOf_pre, List.map_map]
  rfl

end Refmt.Autogen
