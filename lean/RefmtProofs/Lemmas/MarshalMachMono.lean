/-
  Fuel monotonicity of the stateful marshaller model (RefmtModel/Model/Obj/MarshalMach.lean): a result other
  than `stuck` does not change when more fuel is given.  Everything goes through `Ext`.  Where the model matches on a
  fuelled call, `Ext` of the call gives two cases: the call with less fuel is stuck, and so is the whole; or the two
  calls agree, and `split` treats both sides at once.
-/
import RefmtModel.Model.Obj.MarshalMach
open Refmt Refmt.Obj Refmt.Obj.MM

namespace Refmt.MachL

variable {ts : Types} {a : Atlas} {trs : Trs}

def NS {α : Type} (r : X α) : Prop := r ≠ .error .stuck

theorem NS.of_eq {α : Type} {r r' : X α} (h : r = r') (hn : NS r') : NS r := h ▸ hn
theorem NS.stuck_elim {α : Type} {P : Prop} (h : NS (.error .stuck : X α)) : P := absurd rfl h
theorem NS.ok {α : Type} {x : α} : NS (.ok x : X α) := by intro h; cases h
theorem NS.f {α : Type} {e : Fail} : NS (.error (.f e) : X α) := by intro h; cases h

def Ext {α : Type} (r r' : X α) : Prop := r = .error .stuck ∨ r' = r

theorem Ext.rfl {α : Type} {r : X α} : Ext r r := .inr (Eq.refl r)
theorem Ext.stuck {α : Type} {r' : X α} : Ext (.error .stuck) r' := .inl (Eq.refl _)
theorem Ext.eq {α : Type} {r r' : X α} (h : Ext r r') (hn : NS r) : r' = r := h.resolve_left hn

theorem Ext.ite {α : Type} {c : Prop} [Decidable c] {r r' q q' : X α} (hr : Ext r r') (hq : Ext q q') :
    Ext (if c then r else q) (if c then r' else q') := by
  split <;> assumption

theorem Ext.of_succ {α : Type} (f : Nat → X α) (h1 : ∀ n, Ext (f n) (f (n+1))) {n n' : Nat} {r : X α} (h : f n = r)
    (hr : NS r) (hn : n ≤ n') : f n' = r := by
  induction hn with
  | refl => exact h
  | step _ ih => exact ((h1 _).eq (ih ▸ hr)).trans ih

theorem cfgYield_ext : ∀ n : Nat,
    (∀ row id m, Ext (cfgMach ts a n row id m) (cfgMach ts a (n+1) row id m)) ∧
    (∀ row id, Ext (yieldM ts a n row id) (yieldM ts a (n+1) row id))
  | 0 => ⟨fun _ _ _ => .inl (by rw [cfgMach]), fun _ _ => .inl (by rw [yieldM])⟩
  | n+1 => by
    obtain ⟨ihc, ihy⟩ := cfgYield_ext n
    constructor
    · intro row id m
      -- only the transform machine configures a delegate
      cases m with
      | transform e fn mty =>
        simp only [cfgMach]
        rcases ihy { row with transform := { row.transform with trFunc := fn, mty := mty } } mty with hs | he
        · rw [hs]; exact .stuck
        · rw [he]; exact .rfl
      | _ => exact .inr (by simp only [cfgMach])
    · intro row id
      simp only [yieldM]
      rcases ihc row (peel ts 64 0 id).2 (pickBare ts a (peel ts 64 0 id).2) with hs | he
      · rw [hs]; exact .stuck
      · rw [he]; exact .rfl

theorem yieldM_le {n n' row id r} (h : yieldM ts a n row id = r) (hr : NS r) (hn : n ≤ n') : yieldM ts a n' row id = r :=
  Ext.of_succ (fun n => yieldM ts a n row id) (fun n => (cfgYield_ext n).2 _ _) h hr hn
theorem cfgMach_le {n n' row id m r} (h : cfgMach ts a n row id m = r) (hr : NS r) (hn : n ≤ n') :
    cfgMach ts a n' row id m = r :=
  Ext.of_succ (fun n => cfgMach ts a n row id m) (fun n => (cfgYield_ext n).1 _ _ _) h hr hn

theorem requisition_ext (n R id) : Ext (requisition ts a n R id) (requisition ts a (n+1) R id) := by
  unfold requisition
  rcases (cfgYield_ext (ts := ts) (a := a) n).2 Row.zero id with hs | he
  · rw [hs]; exact .stuck
  · rw [he]; exact .rfl

theorem requisition_mono {n n'} (hn : n ≤ n') {R id} (h : NS (requisition ts a n R id)) :
    requisition ts a n' R id = requisition ts a n R id :=
  Ext.of_succ (fun n => requisition ts a n R id) (fun n => requisition_ext n R id) rfl h hn

theorem yieldTip_ext (n R id) : Ext (yieldTip ts a n R id) (yieldTip ts a (n+1) R id) := by
  unfold yieldTip
  split
  · exact .rfl
  · next row _ =>
    rcases (cfgYield_ext (ts := ts) (a := a) n).2 row id with hs | he
    · rw [hs]; exact .stuck
    · rw [he]; exact .rfl

theorem yieldTip_mono {n n'} (hn : n ≤ n') {R id} (h : NS (yieldTip ts a n R id)) :
    yieldTip ts a n' R id = yieldTip ts a n R id :=
  Ext.of_succ (fun n => yieldTip ts a n R id) (fun n => yieldTip_ext n R id) rfl h hn

def ResetExt (r r' : ResetF) : Prop := ∀ m rt v R, Ext (r m rt v R) (r' m rt v R)

theorem resetPtr_ext {rec rec' : ResetF} (hle : ResetExt rec rec') (m row rt v R) :
    Ext (resetPtr ts rec m row rt v R) (resetPtr ts rec' m row rt v R) := by
  unfold resetPtr
  split
  · exact .rfl
  · split
    · exact .rfl
    · exact hle ..

theorem resetTransform_ext {rec rec' : ResetF} (hle : ResetExt rec rec') (m row v R) :
    Ext (resetTransform trs rec m row v R) (resetTransform trs rec' m row v R) := by
  unfold resetTransform
  split
  · exact .rfl
  · split
    · exact .rfl
    · exact hle ..

theorem resetWild_ext {n} {rec rec' : ResetF} (hle : ResetExt rec rec') (m v R) :
    Ext (resetWild ts a n rec m v R) (resetWild ts a (n+1) rec' m v R) := by
  unfold resetWild
  split
  · exact .rfl
  · next dt dv =>
    rcases requisition_ext (ts := ts) (a := a) n R dt with hs | he
    · rw [hs]; exact .stuck
    · rw [he]; split
      · exact .rfl
      · exact hle ..
  · exact .rfl

theorem resetMap_ext {n} (m rt v R) : Ext (resetMap ts a trs n m rt v R) (resetMap ts a trs (n+1) m rt v R) := by
  unfold resetMap
  split
  · next kt vt _ =>
    rcases requisition_ext (ts := ts) (a := a) n R vt with hs | he
    · rw [hs]; exact .stuck
    · rw [he]; exact .rfl
  · exact .rfl

theorem resetSlice_ext {n} (m rt v R) : Ext (resetSlice ts a n m rt v R) (resetSlice ts a (n+1) m rt v R) := by
  unfold resetSlice
  split
  · exact .rfl
  · next e _ =>
    rcases requisition_ext (ts := ts) (a := a) n R e with hs | he
    · rw [hs]; exact .stuck
    · rw [he]; exact .rfl

theorem resetUnion_ext {n} {rec rec' : ResetF} (hle : ResetExt rec rec') (m row v R) :
    Ext (resetUnion ts a n rec m row v R) (resetUnion ts a (n+1) rec' m row v R) := by
  unfold resetUnion
  split
  · exact .rfl
  · split
    · exact .rfl
    · split
      · exact .rfl
      · next me _ =>
        simp only []
        split
        · exact .rfl
        · next trow _ =>
          rcases (cfgYield_ext (ts := ts) (a := a) n).1 trow me.ty (machForEntry ts me) with hs | he
          · rw [hs]; exact .stuck
          · rw [he]; split
            · exact .rfl
            · next trow' k _ =>
              rcases hle ⟨_, k⟩ me.ty _ _ with hs | he
              · rw [hs]; exact .stuck
              · rw [he]; exact .rfl
  · exact .rfl

theorem resetBody_ext {n} {rec rec' : ResetF} (hle : ResetExt rec rec') :
    ResetExt (resetBody ts a trs n rec) (resetBody ts a trs (n+1) rec') := by
  intro m rt v R
  unfold resetBody
  split
  · exact .rfl
  · split
    · exact resetPtr_ext hle ..
    · exact .rfl
    · exact resetWild_ext hle ..
    · exact resetMap_ext ..
    · exact resetSlice_ext ..
    · exact resetSlice_ext ..
    · exact .rfl
    · exact resetTransform_ext hle ..
    · exact resetUnion_ext hle ..
    · exact .rfl

theorem resetM_ext : ∀ n : Nat, ResetExt (resetM ts a trs n) (resetM ts a trs (n+1))
  | 0 => fun _ _ _ _ => .stuck
  | n+1 => resetBody_ext (resetM_ext n)

theorem resetM_le {n n' m rt v R r} (h : resetM ts a trs n m rt v R = r) (hr : NS r) (hn : n ≤ n') :
    resetM ts a trs n' m rt v R = r :=
  Ext.of_succ (fun n => resetM ts a trs n m rt v R) (fun n => resetM_ext n m rt v R) h hr hn

def StepExt (r r' : StepF) : Prop := ∀ m s, Ext (r m s) (r' m s)
def RecurseExt (r r' : RecurseF) : Prop := ∀ s rv rt next, Ext (r s rv rt next) (r' s rv rt next)
def MstepExt (r r' : MState → X SRes) : Prop := ∀ s, Ext (r s) (r' s)

theorem stepPtr_ext {rec rec' : StepF} (hle : StepExt rec rec') (m row s) :
    Ext (stepPtr rec m row s) (stepPtr rec' m row s) := by
  unfold stepPtr
  refine .ite .rfl ?_
  split
  · exact .rfl
  · exact hle ..

theorem stepWild_ext {rec rec' : StepF} (hle : StepExt rec rec') (row s) :
    Ext (stepWild rec row s) (stepWild rec' row s) := by
  unfold stepWild
  split
  · exact .rfl
  · exact hle ..

theorem stepTransform_ext {rec rec' : StepF} (hle : StepExt rec rec') (m row s) :
    Ext (stepTransform rec m row s) (stepTransform rec' m row s) := by
  unfold stepTransform
  split
  · exact .rfl
  · next k _ =>
    rcases hle ⟨m.row, k⟩ s with hs | he
    · rw [hs]; exact .stuck
    · rw [he]; exact .rfl

theorem stepUnion_ext {rec rec' : StepF} (hle : StepExt rec rec') (m row s) :
    Ext (stepUnion rec m row s) (stepUnion rec' m row s) := by
  unfold stepUnion
  split
  · exact .rfl
  · exact .rfl
  · exact .rfl
  · split
    · exact .rfl
    · next d _ =>
      rcases hle d s with hs | he
      · rw [hs]; exact .stuck
      · rw [he]; exact .rfl
  · exact .rfl

theorem stepMap_ext {rc rc' : RecurseF} (hle : RecurseExt rc rc') (m row s) :
    Ext (stepMap rc m row s) (stepMap rc' m row s) := by
  unfold stepMap
  refine .ite .rfl (.ite .rfl (.ite .rfl (.ite ?_ .rfl)))
  split
  · exact hle ..
  · exact .rfl

theorem stepSlice_ext {rc rc' : RecurseF} (hle : RecurseExt rc rc') (m row s) :
    Ext (stepSlice rc m row s) (stepSlice rc' m row s) := by
  unfold stepSlice
  refine .ite .rfl (.ite .rfl (.ite .rfl (.ite .rfl ?_)))
  split
  · exact hle ..
  · exact .rfl

theorem stepStruct_ext {n} {rc rc' : RecurseF} (hle : RecurseExt rc rc') (m row s) :
    Ext (stepStruct ts a n rc m row s) (stepStruct ts a (n+1) rc' m row s) := by
  unfold stepStruct
  refine .ite .rfl (.ite .rfl (.ite .rfl ?_))
  split
  · split
    · exact .rfl
    · next fe _ =>
      simp only []
      rcases yieldTip_ext (ts := ts) (a := a) n (s.upd m.row StructM.take).rows fe.ty with hs | he
      · rw [hs]; exact .stuck
      · rw [he]; split
        · exact .rfl
        · exact hle ..
  · exact .rfl

theorem stepBody_ext {n} {rec rec' : StepF} {rc rc' : RecurseF} (hs : StepExt rec rec') (hc : RecurseExt rc rc') :
    StepExt (stepBody ts a n rec rc) (stepBody ts a (n+1) rec' rc') := by
  intro m s
  unfold stepBody
  split
  · exact .rfl
  · split
    · exact stepPtr_ext hs ..
    · exact .rfl
    · exact stepWild_ext hs ..
    · exact stepMap_ext hc ..
    · exact stepSlice_ext hc ..
    · exact stepSlice_ext hc ..
    · exact stepStruct_ext hc ..
    · exact stepTransform_ext hs ..
    · exact stepUnion_ext hs ..
    · exact .rfl

theorem recurseBody_ext {n} {ms ms' : MState → X SRes} (hm : MstepExt ms ms') :
    RecurseExt (recurseBody ts a trs n ms) (recurseBody ts a trs (n+1) ms') := by
  intro s rv rt next
  unfold recurseBody
  split
  · exact .rfl
  · next cur _ =>
    rcases resetM_ext (ts := ts) (a := a) (trs := trs) n next rt rv s.rows with hs | he
    · rw [hs]; exact .stuck
    · rw [he]; split
      · exact .rfl
      · next R1 _ =>
        rcases hm { s with rows := R1, stack := cur :: s.stack, step := some next } with hs | he
        · rw [hs]; exact .stuck
        · rw [he]; exact .rfl

theorem mstepBody_ext {st st' : StepF} (hs : StepExt st st') : MstepExt (mstepBody st) (mstepBody st') := by
  intro s
  unfold mstepBody
  split
  · exact .rfl
  · next cur _ =>
    rcases hs cur s with hs | he
    · rw [hs]; exact .stuck
    · rw [he]; exact .rfl

theorem step_ext : ∀ n : Nat,
    StepExt (stepM ts a trs n) (stepM ts a trs (n+1)) ∧ RecurseExt (recurse ts a trs n) (recurse ts a trs (n+1)) ∧
    MstepExt (mstep ts a trs n) (mstep ts a trs (n+1))
  | 0 => ⟨fun _ _ => .inl (by rw [stepM]), fun _ _ _ _ => .inl (by rw [recurse]), fun _ => .inl (by rw [mstep])⟩
  | n+1 => by
    obtain ⟨ihs, ihc, ihm⟩ := step_ext n
    refine ⟨?_, ?_, ?_⟩
    · rw [stepM, stepM]; exact stepBody_ext ihs ihc
    · rw [recurse, recurse]; exact recurseBody_ext ihm
    · rw [mstep, mstep]; exact mstepBody_ext ihs

theorem stepM_mono {n n'} (hn : n ≤ n') {m s} (h : NS (stepM ts a trs n m s)) :
    stepM ts a trs n' m s = stepM ts a trs n m s :=
  Ext.of_succ (fun n => stepM ts a trs n m s) (fun n => (step_ext n).1 m s) rfl h hn
theorem recurse_le {n n' s rv rt next r} (h : recurse ts a trs n s rv rt next = r) (hr : NS r) (hn : n ≤ n') :
    recurse ts a trs n' s rv rt next = r :=
  Ext.of_succ (fun n => recurse ts a trs n s rv rt next) (fun n => (step_ext n).2.1 s rv rt next) h hr hn
theorem mstep_le {n n' s r} (h : mstep ts a trs n s = r) (hr : NS r) (hn : n ≤ n') : mstep ts a trs n' s = r :=
  Ext.of_succ (fun n => mstep ts a trs n s) (fun n => (step_ext n).2.2 s) h hr hn

theorem runX_succ (sf k : Nat) (s : MState) :
    runX ts a trs sf (k+1) s =
      match mstep ts a trs sf s with
      | .error x => ([], some x)
      | .ok res =>
        if res.done then ([res.tok], none)
        else (res.tok :: (runX ts a trs sf k res.st).1, (runX ts a trs sf k res.st).2) := by
  rw [runX]
  cases mstep ts a trs sf s <;> rfl

theorem finalState_succ (sf k : Nat) (s : MState) :
    finalState ts a trs sf (k+1) s =
      match mstep ts a trs sf s with
      | .error _ => none
      | .ok res => if res.done then some res.st else finalState ts a trs sf k res.st := by
  rw [finalState]
  cases mstep ts a trs sf s <;> rfl

theorem runX_mono {sf sf'} (hn : sf ≤ sf') : ∀ (k k' : Nat) (s : MState), k ≤ k' →
    (runX ts a trs sf k s).2 ≠ some .stuck → runX ts a trs sf' k' s = runX ts a trs sf k s
  | 0, _, _, _, h => absurd rfl h
  | k+1, 0, _, hk, _ => absurd hk (Nat.not_succ_le_zero k)
  | k+1, k'+1, s, hk, h => by
    rw [runX_succ] at h
    rw [runX_succ, runX_succ]
    have hs : NS (mstep ts a trs sf s) := fun hs => by rw [hs] at h; exact h rfl
    rw [mstep_le rfl hs hn]
    cases hq : mstep ts a trs sf s with
    | error x => rfl
    | ok res =>
      simp only [hq] at h ⊢
      cases hd : res.done with
      | true => rfl
      | false =>
        simp only [hd, Bool.false_eq_true, if_false] at h ⊢
        rw [runX_mono hn k k' res.st (Nat.le_of_succ_le_succ hk) h]

theorem runX_mono_sf {sf sf'} (hn : sf ≤ sf') : ∀ (k : Nat) (s : MState),
    (runX ts a trs sf k s).2 ≠ some .stuck → runX ts a trs sf' k s = runX ts a trs sf k s :=
  fun k s h => runX_mono hn k k s (Nat.le_refl k) h

theorem runX_mono_k {sf} : ∀ (k : Nat) (s : MState),
    (runX ts a trs sf k s).2 ≠ some .stuck → runX ts a trs sf (k+1) s = runX ts a trs sf k s :=
  fun k s h => runX_mono (Nat.le_refl sf) k (k+1) s (Nat.le_succ k) h

end Refmt.MachL
