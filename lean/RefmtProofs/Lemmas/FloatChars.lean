/-
  Every byte of `FloatText.jsonFloat` is a digit, a sign, a point or `e`: `shortest` returns digits (it strips
  zeros off what `natDigits` wrote), and `fmtE` / `fmtF` add nothing else.  No arithmetic fact about the digits is used,
  so that the JSON text lemmas do not rest on the float development.
-/
import RefmtProofs.Lemmas.JsonNum
namespace Refmt.FloatL
open Refmt Refmt.FloatText Refmt.C03L

theorem strip_spec : ∀ (l : List Nat), ∃ j, l = shortest.strip l ++ List.replicate j 48
  | [] => ⟨0, by simp [shortest.strip]⟩
  | x :: xs => by
    obtain ⟨j, hj⟩ := strip_spec xs
    simp only [shortest.strip]
    split
    · rename_i hnil
      rw [hnil] at hj
      split
      · rename_i hx
        simp only [beq_iff_eq] at hx
        exact ⟨j + 1, by rw [hj, hx]; simp [List.replicate_succ]⟩
      · exact ⟨j, by rw [hj]; simp⟩
    · exact ⟨j, by rw [List.cons_append, ← hj]⟩

theorem strip_head (b : Nat) (r : List Nat) (hb : b ≠ 48) : ∃ r', shortest.strip (b :: r) = b :: r' := by
  simp only [shortest.strip]
  split
  · have : (b == 48) = false := by simp [hb]
    simp [this]
  · exact ⟨_, rfl⟩

theorem strip_sub {l : List Nat} {x : Nat} (h : x ∈ shortest.strip l) : x ∈ l := by
  obtain ⟨j, hj⟩ := strip_spec l
  rw [hj]
  exact List.mem_append_left _ h

theorem shortest_digits (bits : Nat) : Digs (shortest bits).1 := by
  have h0 : Digs [48] := Digs.cons (by decide) Digs.nil
  unfold shortest
  simp only
  split
  · exact h0
  · split
    · exact h0
    · exact fun x hx => Digs.nat _ x (strip_sub hx)

end Refmt.FloatL

namespace Refmt.C03L
open Refmt Refmt.FloatText

theorem fmtE_chars (neg : Bool) (ds : Bytes) (dp : Int) (h : FloatL.Digs ds) :
    ∀ x ∈ fmtE neg ds dp, numChar x = true := by
  intro x hx
  unfold fmtE at hx
  simp only [List.mem_append, List.mem_cons, List.not_mem_nil, or_false] at hx
  rcases hx with ((((hx | hx) | hx) | hx) | hx) | hx
  · split at hx <;> simp at hx; subst hx; decide
  · subst hx
    cases ds with
    | nil => decide
    | cons d _ => exact isDigit_numChar (h d (by simp))
  · split at hx
    · simp at hx
    · simp only [List.mem_cons] at hx
      rcases hx with rfl | hx
      · decide
      · exact isDigit_numChar (h x (List.mem_of_mem_drop hx))
  · subst hx; decide
  · subst hx; split <;> decide
  · split at hx
    · simp only [List.mem_cons] at hx
      rcases hx with rfl | hx
      · decide
      · exact isDigit_numChar (FloatL.Digs.nat _ x hx)
    · exact isDigit_numChar (FloatL.Digs.nat _ x hx)

theorem fmtF_chars (neg : Bool) (ds : Bytes) (dp : Int) (h : FloatL.Digs ds) :
    ∀ x ∈ fmtF neg ds dp, numChar x = true := by
  intro x hx
  unfold fmtF at hx
  have hsign : ∀ y ∈ (if neg = true then [45] else ([] : Bytes)), numChar y = true := by
    intro y hy; split at hy <;> simp at hy; subst hy; decide
  simp only at hx
  split at hx
  · simp only [List.mem_append, List.mem_cons, List.not_mem_nil, or_false, List.mem_replicate] at hx
    rcases hx with ((hx | hx) | hx) | hx
    · exact hsign x hx
    · rcases hx with rfl | rfl <;> decide
    · rw [hx.2]; decide
    · exact isDigit_numChar (h x hx)
  · split at hx
    · simp only [List.mem_append, List.mem_replicate] at hx
      rcases hx with (hx | hx) | hx
      · exact hsign x hx
      · exact isDigit_numChar (h x hx)
      · rw [hx.2]; decide
    · simp only [List.mem_append, List.mem_cons, List.not_mem_nil, or_false] at hx
      rcases hx with ((hx | hx) | hx) | hx
      · exact hsign x hx
      · exact isDigit_numChar (h x (List.mem_of_mem_take hx))
      · subst hx; decide
      · exact isDigit_numChar (h x (List.mem_of_mem_drop hx))

theorem jsonFloat_chars (bits : Nat) : ∀ x ∈ jsonFloat bits, numChar x = true := by
  unfold jsonFloat
  simp only
  have hd := FloatL.shortest_digits bits
  generalize (shortest bits).1 = ds at hd ⊢
  generalize (shortest bits).2 = dp
  split
  · split
    · rename_i hc
      intro x hx
      simp only [List.mem_append, List.mem_cons, List.not_mem_nil, or_false] at hx
      rcases hx with hx | hx
      · exact fmtE_chars _ ds dp hd x (List.mem_of_mem_take hx)
      · subst hx
        simp only [Bool.and_eq_true, decide_eq_true_eq] at hc
        rw [List.getD_eq_getElem?_getD, List.getElem?_eq_getElem (by omega)]
        exact fmtE_chars _ ds dp hd _ (List.getElem_mem _)
    · exact fmtE_chars _ ds dp hd
  · exact fmtF_chars _ ds dp hd

end Refmt.C03L
