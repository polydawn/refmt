/-
  The successful runs of the object unmarshaller as a relation: the six mutual functions `unmV .. unmStruct` are read as
  one function `run` over a `Job`, and `Reads f j c v` says that job `j` with fuel `f` consumes exactly the tokens `c`
  and yields `v`; one rule per successful leaf of the step equations (Lemmas/ObjUnmEq).  One family over `Job`, not six
  mutual predicates, so that a property of successful runs is one rule induction.  Indexed by the tokens consumed, not
  by (input, rest, used): sequencing rules concatenate, and rest and count are the shape of the bridge `reads_iff`.  Fuel
  as in the model, premises at `f` and conclusion at `f+1`: the bridge is exact at every fuel (the round trips of
  C13 / C11 read at the marshaller's own fuel, those of the full domain at one unit more: `δ` of `VRt`, Lemmas/ObjMachRT).
  Failing runs are not in the relation: facts about all outcomes are inductions on fuel.
-/
import RefmtProofs.Lemmas.ObjUnmEq
import RefmtProofs.Lemmas.ObjMarshal
import RefmtProofs.Lemmas.StorePrim
namespace Refmt.Obj
open Refmt

inductive Job
  | v (id : Nat) (cur : Val)
  | bare (id : Nat) (m : UMach) (cur : Val)
  | wild (meth : Bool)
  | elems (e : Nat) (cap : Option Nat) (acc : List Val)
  | entries (kf : Option Nat) (vt : Nat) (es : List (Val × Val))
  | struct (id : Nat) (fields : List SMField) (len : Int) (idx : Nat) (cur : Val)

/-- what an untagged scalar token becomes in an untyped slot -/
def slotScalar (it : IfaceTys) : Body → Option Val
  | .null => some (.iface none)
  | .str s => some (.iface (some (it.str, .str s)))
  | .bytes b => some (.iface (some (it.bytes, .bytes (some b))))
  | .bool b => some (.iface (some (it.bool, .bool b)))
  | .int i => some (.iface (some (it.int, .int i)))
  | .uint n => some (if n < two63 then .iface (some (it.int, .int n)) else .iface (some (it.uint64, .uint n)))
  | .float f => some (.iface (some (it.f64, .float f)))
  | _ => none

variable (ts : Types) (a : Atlas) (trs : Trs) (it : IfaceTys)

/-- the six functions as one; the untyped slot takes its first token as an argument of its own, hence the `[]` case -/
def run (fuel : Nat) : Job → List Tok → URes
  | .v id cur, toks => unmV ts a trs it fuel id cur toks
  | .bare id m cur, toks => unmBare ts a trs it fuel id m cur toks
  | .wild meth, t :: rest => unmWild ts a trs it fuel meth t rest
  | .wild _, [] => .more 0
  | .elems e cap acc, toks => unmElems ts a trs it fuel e cap acc toks
  | .entries kf vt es, toks => unmMapEntries ts a trs it fuel kf vt es toks
  | .struct id fields len idx cur, toks => unmStruct ts a trs it fuel id fields len idx cur toks

@[simp] theorem run_v (f id cur toks) : run ts a trs it f (.v id cur) toks = unmV ts a trs it f id cur toks := rfl
@[simp] theorem run_bare (f id m cur toks) :
    run ts a trs it f (.bare id m cur) toks = unmBare ts a trs it f id m cur toks := rfl
@[simp] theorem run_wild (f meth t rest) :
    run ts a trs it f (.wild meth) (t :: rest) = unmWild ts a trs it f meth t rest := rfl
@[simp] theorem run_wild_nil (f meth) : run ts a trs it f (.wild meth) [] = .more 0 := rfl
@[simp] theorem run_elems (f e cap acc toks) :
    run ts a trs it f (.elems e cap acc) toks = unmElems ts a trs it f e cap acc toks := rfl
@[simp] theorem run_entries (f kf vt es toks) :
    run ts a trs it f (.entries kf vt es) toks = unmMapEntries ts a trs it f kf vt es toks := rfl
@[simp] theorem run_struct (f id fields len idx cur toks) :
    run ts a trs it f (.struct id fields len idx cur) toks = unmStruct ts a trs it f id fields len idx cur toks := rfl

theorem run_succ_nil (f : Nat) (j : Job) : run ts a trs it (f+1) j [] = .more 0 := by
  cases j with
  | v => exact unmV_succ_nil ts a trs it ..
  | bare => exact unmBare_succ_nil ts a trs it ..
  | wild => rfl
  | elems => exact unmElems_succ_nil ts a trs it ..
  | entries => exact unmMapEntries_succ_nil ts a trs it ..
  | struct => exact unmStruct_succ_nil ts a trs it ..

inductive Reads : Nat → Job → List Tok → Val → Prop
  | v_bare {f id cur t c v} : (peel ts 64 0 id).1 = 0 →
      Reads f (.bare (peel ts 64 0 id).2 (upickBare ts a (peel ts 64 0 id).2) cur) (t :: c) v →
      Reads (f+1) (.v id cur) (t :: c) v
  | v_null {f id cur t} : (peel ts 64 0 id).1 ≠ 0 → t.body = .null → Reads (f+1) (.v id cur) [t] (.ptr none)
  | v_ptr {f id cur t c v} : (peel ts 64 0 id).1 ≠ 0 → t.body ≠ .null →
      Reads f (.bare (peel ts 64 0 id).2 (upickBare ts a (peel ts 64 0 id).2) (innerCur ts (peel ts 64 0 id).1 id cur))
        (t :: c) v →
      Reads (f+1) (.v id cur) (t :: c) (wrapPtr (peel ts 64 0 id).1 v)
  | prim {f id cur t v} : storePrim (ts.get id) t = some v → Reads (f+1) (.bare id .prim cur) [t] v
  | wildcard {f id cur t c v} : Reads f (.wild (UM.hasMethods ts id)) (t :: c) v → Reads (f+1) (.bare id .wildcard cur) (t :: c) v
  | slice_null {f id e cur t} : t.body = .null → Reads (f+1) (.bare id (.slice e) cur) [t] (.slice none)
  | slice {f id e cur t l c v} : t.body = .arrOpen l → Reads f (.elems e none []) c v →
      Reads (f+1) (.bare id (.slice e) cur) (t :: c) v
  | array_null {f id n e cur t} : t.body = .null → Reads (f+1) (.bare id (.array n e) cur) [t] (zeroVal ts 64 id)
  | array {f id n e cur t l c v} : t.body = .arrOpen l → Reads f (.elems e (some n) []) c v →
      Reads (f+1) (.bare id (.array n e) cur) (t :: c) (arrFix ts n e v)
  | map_null {f id kt vt cur t kf} : UM.keyFnOfU ts a kt = some kf → t.body = .null →
      Reads (f+1) (.bare id (.map kt vt) cur) [t] (.map none)
  | map {f id kt vt cur t l c v kf} : UM.keyFnOfU ts a kt = some kf → t.body = .mapOpen l →
      Reads f (.entries kf vt (UM.mapEntries cur)) c v → Reads (f+1) (.bare id (.map kt vt) cur) (t :: c) v
  | struct_null {f id fs cur t} : t.body = .null → Reads (f+1) (.bare id (.structMap fs) cur) [t] (zeroVal ts 64 id)
  | struct {f id fs cur t l c v} : t.body = .mapOpen l → Reads f (.struct id fs l 0 cur) c v →
      Reads (f+1) (.bare id (.structMap fs) cur) (t :: c) v
  | transform {f id fn uty cur t c rv v} :
      Reads f (.bare uty (upickBare ts a uty) (zeroVal ts 64 uty)) (t :: c) rv → trs.u fn rv = some v →
      Reads (f+1) (.bare id (.transform fn uty) cur) (t :: c) v
  | union {f id members cur t l k name p me c v cl} : t.body = .mapOpen l → (l != -1 && l != 1) = false →
      k.body = .str name → members.find? (fun (nm, _) => nm == name) = some p → a.pool[p.2]? = some me →
      umachForEntry ts me ≠ .errThunk → umachForEntry ts me ≠ .panic →
      Reads f (.bare me.ty (umachForEntry ts me) (zeroVal ts 64 me.ty)) c v → cl.body = .mapClose →
      Reads (f+1) (.bare id (.union members) cur) (t :: k :: (c ++ [cl])) (.iface (some (me.ty, v)))
  | wild_tag {f t g e c v} : t.tag = some g → a.getByTag g = some e →
      Reads f (.bare e.ty (upickBare ts a e.ty) (zeroVal ts 64 e.ty)) (t :: c) v →
      Reads (f+1) (.wild false) (t :: c) (.iface (some (e.ty, v)))
  | wild_map {f meth t l c v} : t.tag = none → wildRej meth t.body = false → t.body = .mapOpen l →
      Reads f (.bare it.mapSI (.map it.str it.iface) (.map (some []))) (t :: c) v →
      Reads (f+1) (.wild meth) (t :: c) (.iface (some (it.mapSI, v)))
  | wild_arr {f meth t l c v} : t.tag = none → wildRej meth t.body = false → t.body = .arrOpen l →
      Reads f (.bare it.sliceI (.slice it.iface) (.slice none)) (t :: c) v →
      Reads (f+1) (.wild meth) (t :: c) (.iface (some (it.sliceI, v)))
  | wild_scalar {f meth t v} : t.tag = none → wildRej meth t.body = false → slotScalar it t.body = some v →
      Reads (f+1) (.wild meth) [t] v
  | elems_close {f e cap acc t} : t.body = .arrClose → Reads (f+1) (.elems e cap acc) [t] (.slice (some acc.reverse))
  | elems_cons {f e cap acc t c1 c2 v w} : t.body ≠ .mapClose → t.body ≠ .arrClose → capFull cap acc = false →
      Reads f (.v e (zeroVal ts 64 e)) (t :: c1) v → Reads f (.elems e cap (v :: acc)) c2 w →
      Reads (f+1) (.elems e cap acc) (t :: c1 ++ c2) w
  | entries_close {f kf vt es t} : t.body = .mapClose → Reads (f+1) (.entries kf vt es) [t] (.map (some es))
  | entries_cons {f kf vt es t s k c1 c2 v w} : t.body = .str s → mapKey trs kf s = some k → hasKey k es = false →
      Reads f (.v vt (zeroVal ts 64 vt)) c1 v → Reads f (.entries kf vt (es ++ [(k, v)])) c2 w →
      Reads (f+1) (.entries kf vt es) (t :: (c1 ++ c2)) w
  | struct_close {f id fs} {len : Int} {idx : Nat} {cur t} : t.body = .mapClose → (len ≥ 0 && len != idx) = false →
      Reads (f+1) (.struct id fs len idx cur) [t] cur
  | struct_skip {f id fs len idx cur t name fd c1 c2 x w} : t.body = .str name →
      fs.find? (fun f => f.name == name) = some fd → fd.ignore = true →
      Reads f (.wild false) c1 x → Reads f (.struct id fs len (idx+1) cur) c2 w →
      Reads (f+1) (.struct id fs len idx cur) (t :: (c1 ++ c2)) w
  | struct_field {f id fs len idx cur t name fd fcur c1 c2 v cur' w} : t.body = .str name →
      fs.find? (fun f => f.name == name) = some fd → fd.ignore = false →
      getRoute ts 64 id fd.route cur = some fcur → Reads f (.v fd.ty fcur) c1 v →
      setRoute ts 64 id fd.route cur (fun _ => v) = some cur' → Reads f (.struct id fs len (idx+1) cur') c2 w →
      Reads (f+1) (.struct id fs len idx cur) (t :: (c1 ++ c2)) w

variable {ts a trs it}

/-! The step equations on the branch that the side conditions of a rule select, for the rules where `simp only` with
    those conditions does not find it (`v_bare`, `v_ptr`, `elems_cons`, `struct_skip`, `struct_field`, `union`). -/

theorem unmV_bare {id : Nat} (h0 : (peel ts 64 0 id).1 = 0) (f cur t rest) : unmV ts a trs it (f+1) id cur (t :: rest) =
    unmBare ts a trs it f (peel ts 64 0 id).2 (upickBare ts a (peel ts 64 0 id).2) cur (t :: rest) := by
  rw [unmV_cons, h0]
  rfl

theorem unmV_ptr {id : Nat} {t : Tok} (h0 : (peel ts 64 0 id).1 ≠ 0) (hb : t.body ≠ .null) (f cur rest) :
    unmV ts a trs it (f+1) id cur (t :: rest) =
      (unmBare ts a trs it f (peel ts 64 0 id).2 (upickBare ts a (peel ts 64 0 id).2)
        (innerCur ts (peel ts 64 0 id).1 id cur) (t :: rest)).bind' (fun v r u => .ok (wrapPtr (peel ts 64 0 id).1 v) r u) 0 := by
  rw [unmV_cons, if_neg (by simpa using h0)]
  split
  · exact absurd ‹_› hb
  · rfl

theorem unmElems_item {t : Tok} {cap : Option Nat} {acc : List Val} (hb1 : t.body ≠ .mapClose) (hb2 : t.body ≠ .arrClose)
    (hcap : capFull cap acc = false) (f e rest) : unmElems ts a trs it (f+1) e cap acc (t :: rest) =
      (unmV ts a trs it f e (zeroVal ts 64 e) (t :: rest)).bind'
        (fun v r u => (unmElems ts a trs it f e cap (v :: acc) r).shift u) 0 := by
  rw [unmElems_cons]
  split
  · exact absurd ‹_› hb1
  · exact absurd ‹_› hb2
  · rw [hcap]
    rfl

theorem unmStruct_skip {fs : List SMField} {t : Tok} {name : Bytes} {fd : SMField} (hb : t.body = .str name)
    (hf : fs.find? (fun f => f.name == name) = some fd) (hi : fd.ignore = true) (f id len idx cur rest) :
    unmStruct ts a trs it (f+1) id fs len idx cur (t :: rest) = (run ts a trs it f (.wild false) rest).bind'
      (fun _ r u => (unmStruct ts a trs it f id fs len (idx+1) cur r).shift (u+1)) 1 := by
  rw [unmStruct_cons]
  simp only [hb, hf, hi, if_true]
  cases rest <;> rfl

/-- at fuel `f+2`: with fuel `0` the value run panics on the empty rest, where `unmStruct` asks for more -/
theorem unmStruct_field {fs : List SMField} {t : Tok} {name : Bytes} {fd : SMField} {id : Nat} {cur fcur : Val}
    (hb : t.body = .str name) (hf : fs.find? (fun f => f.name == name) = some fd) (hi : fd.ignore = false)
    (hg : getRoute ts 64 id fd.route cur = some fcur) (f len idx rest) :
    unmStruct ts a trs it (f+1+1) id fs len idx cur (t :: rest) = (unmV ts a trs it (f+1) fd.ty fcur rest).bind'
      (structCont ts a trs it (f+1) id fs len idx cur fd.route) 1 := by
  rw [unmStruct_cons]
  simp only [hb, hf, hi, hg, Bool.false_eq_true, if_false]
  cases rest with
  | nil => rw [unmV_succ_nil]; rfl
  | cons => rfl

theorem unmBare_member {members : List (Bytes × Nat)} {t k : Tok} {l : Int} {name : Bytes} {p : Bytes × Nat} {me : Entry}
    (hb : t.body = .mapOpen l) (hl : (l != -1 && l != 1) = false) (hk : k.body = .str name)
    (hf : members.find? (fun (nm, _) => nm == name) = some p) (hp : a.pool[p.2]? = some me)
    (h1 : umachForEntry ts me ≠ .errThunk) (h2 : umachForEntry ts me ≠ .panic) (f id cur rest) :
    unmBare ts a trs it (f+1) id (.union members) cur (t :: k :: rest) =
      (unmBare ts a trs it f me.ty (umachForEntry ts me) (zeroVal ts 64 me.ty) rest).bind' (unionClose me.ty) 2 := by
  obtain ⟨nm, idx⟩ := p
  rw [unmBare_union]
  simp only [hb, hl, hk, hf, Bool.false_eq_true, if_false]
  rw [show a.pool[idx]? = some me from hp]
  -- the match on `umachForEntry ts me` takes its last branch by `h1`, `h2`
  simp only

theorem unmWild_scalar {meth : Bool} {t : Tok} (htag : t.tag = none) (hrej : wildRej meth t.body = false)
    (ho : ∀ l, t.body ≠ .mapOpen l ∧ t.body ≠ .arrOpen l) (f rest) : unmWild ts a trs it (f+1) meth t rest =
      match slotScalar it t.body with | some v => .ok v rest 1 | none => .err 0 := by
  rw [unmWild_eq]
  simp only [htag, hrej, Bool.false_eq_true, if_false]
  obtain ⟨b, tag⟩ := t
  cases b with
  | mapOpen l => exact absurd rfl (ho l).1
  | arrOpen l => exact absurd rfl (ho l).2
  | uint n => simp only [slotScalar]; split <;> rfl
  | _ => rfl

theorem body_open_cases (b : Body) :
    (∃ l, b = .mapOpen l) ∨ (∃ l, b = .arrOpen l) ∨ ∀ l, b ≠ .mapOpen l ∧ b ≠ .arrOpen l := by
  cases b with
  | mapOpen l => exact .inl ⟨l, rfl⟩
  | arrOpen l => exact .inr (.inl ⟨l, rfl⟩)
  | _ => exact .inr (.inr fun _ => ⟨Body.noConfusion, Body.noConfusion⟩)

theorem slotScalar_isSome (it : IfaceTys) (b : Body) : (slotScalar it b).isSome = b.isScalar := by
  cases b <;> rfl

theorem slotScalar_scalar {it : IfaceTys} {b : Body} {w : Val} (h : slotScalar it b = some w) :
    b ≠ .arrClose ∧ b ≠ .mapClose ∧ (∀ l, b ≠ .arrOpen l) ∧ ∀ l, b ≠ .mapOpen l := by
  have hs : b.isScalar = true := by rw [← slotScalar_isSome it, h]; rfl
  refine ⟨?_, ?_, fun l => ?_, fun l => ?_⟩ <;> rintro rfl <;> cases hs

theorem Reads.fuel_pos {f j c v} (h : Reads ts a trs it f j c v) : ∃ f', f = f' + 1 := by
  cases h <;> exact ⟨_, rfl⟩

theorem Reads.sound {f j c v} (h : Reads ts a trs it f j c v) :
    ∀ rest, run ts a trs it f j (c ++ rest) = .ok v rest c.length := by
  induction h with
  | v_bare h0 _ ih =>
    intro rest
    rw [List.cons_append, run_v, unmV_bare h0]
    exact ih rest
  | v_null h0 hb =>
    intro rest
    simp only [run_v, List.cons_append, List.nil_append]
    rw [unmV_cons]
    simp [h0, hb]
  | v_ptr h0 hb _ ih =>
    intro rest
    have := ih rest
    rw [run_bare, List.cons_append] at this
    rw [List.cons_append, run_v, unmV_ptr h0 hb, this]
    rfl
  | prim hs =>
    intro rest
    simp [unmBare_prim, hs]
  | wildcard _ ih =>
    intro rest
    have := ih rest
    simp only [run_bare, run_wild, List.cons_append] at this ⊢
    rw [unmBare_wild]
    exact this
  | slice_null hb => intro rest; simp [unmBare_slice, hb]
  | slice hb _ ih => intro rest; have := ih rest; simp only [run_elems] at this; simp [unmBare_slice, hb, this]
  | array_null hb => intro rest; simp [unmBare_array, hb]
  | array hb _ ih => intro rest; have := ih rest; simp only [run_elems] at this; simp [unmBare_array, hb, this]
  | map_null hk hb => intro rest; simp [unmBare_map, hk, hb]
  | map hk hb _ ih => intro rest; have := ih rest; simp only [run_entries] at this; simp [unmBare_map, hk, hb, this]
  | struct_null hb => intro rest; simp [unmBare_structMap, hb]
  | struct hb _ ih => intro rest; have := ih rest; simp only [run_struct] at this; simp [unmBare_structMap, hb, this]
  | transform _ hu ih =>
    intro rest
    have := ih rest
    simp only [run_bare, List.cons_append] at this ⊢
    rw [unmBare_transform, this, URes.bind'_ok, trPost_some hu]
  | @union f id members cur t l k name p me c v cl hb hl hk hf hp h1 h2 _ hc ih =>
    intro rest
    have := ih (cl :: rest)
    rw [run_bare] at this
    simp only [run_bare, List.cons_append, List.append_assoc, List.nil_append]
    rw [unmBare_member hb hl hk hf hp h1 h2, this, URes.bind'_ok, unionClose_close _ _ _ _ hc]
    simp
  | wild_tag hg he _ ih =>
    intro rest
    have := ih rest
    simp only [run_wild, run_bare, List.cons_append] at this ⊢
    rw [unmWild_eq]
    simp [hg, he, this]
  | wild_map hg hr hb _ ih =>
    intro rest
    have := ih rest
    simp only [run_wild, run_bare, List.cons_append] at this ⊢
    rw [unmWild_eq]
    rw [hb] at hr
    simp [hg, hr, hb, this]
  | wild_arr hg hr hb _ ih =>
    intro rest
    have := ih rest
    simp only [run_wild, run_bare, List.cons_append] at this ⊢
    rw [unmWild_eq]
    rw [hb] at hr
    simp [hg, hr, hb, this]
  | wild_scalar hg hr hs =>
    intro rest
    simp only [run_wild, List.cons_append, List.nil_append]
    rw [unmWild_scalar hg hr (fun l => ⟨(slotScalar_scalar hs).2.2.2 l, (slotScalar_scalar hs).2.2.1 l⟩), hs]
    rfl
  | elems_close hb => intro rest; simp [unmElems_cons, hb]
  | @elems_cons f e cap acc t c1 c2 v w hb1 hb2 hcap _ _ ih1 ih2 =>
    intro rest
    have h1 := ih1 (c2 ++ rest)
    have h2 := ih2 rest
    simp only [run_v, run_elems, List.cons_append, List.append_assoc] at h1 h2 ⊢
    rw [unmElems_item hb1 hb2 hcap, h1, URes.bind'_ok, h2]
    simp
    omega
  | entries_close hb => intro rest; simp [unmMapEntries_cons, hb]
  | @entries_cons f kf vt es t s k c1 c2 v w hb hk hh _ _ ih1 ih2 =>
    intro rest
    have h2 := ih2 rest
    have h1 := ih1 (c2 ++ rest)
    simp only [run_v, run_entries, List.cons_append, List.append_assoc] at h1 h2 ⊢
    rw [unmMapEntries_cons]
    simp [hb, hk, hh, h1, h2]
    omega
  | struct_close hb hl => intro rest; simp only [run_struct, List.cons_append, List.nil_append, unmStruct_cons, hb, hl]; rfl
  | @struct_skip f id fs len idx cur t name fd c1 c2 x w hb hf hi hr1 _ ih1 ih2 =>
    intro rest
    have h1 := ih1 (c2 ++ rest)
    have h2 := ih2 rest
    simp only [run_struct, List.cons_append, List.append_assoc] at h2 ⊢
    rw [unmStruct_skip hb hf hi, h1, URes.bind'_ok, h2]
    simp
    omega
  | @struct_field f id fs len idx cur t name fd fcur c1 c2 v cur' w hb hf hi hg hr1 hs _ ih1 ih2 =>
    intro rest
    obtain ⟨f, rfl⟩ := hr1.fuel_pos
    have h1 := ih1 (c2 ++ rest)
    have h2 := ih2 rest
    simp only [run_v, run_struct, List.cons_append, List.append_assoc] at h1 h2 ⊢
    rw [unmStruct_field hb hf hi hg, h1, URes.bind'_ok, structCont_some hs, h2]
    simp
    omega

theorem Reads.ne_nil {f j c v} (h : Reads ts a trs it f j c v) : c ≠ [] := by
  rintro rfl
  obtain ⟨f, rfl⟩ := h.fuel_pos
  have := h.sound []
  rw [List.nil_append, run_succ_nil] at this
  cases this

/-- the induction hypothesis of `reads_of_run` -/
def RunsRead (ts : Types) (a : Atlas) (trs : Trs) (it : IfaceTys) (f : Nat) : Prop :=
  ∀ j toks v rest used, run ts a trs it f j toks = .ok v rest used →
    ∃ c, toks = c ++ rest ∧ used = c.length ∧ Reads ts a trs it f j c v

theorem RunsRead.cons {f} (ih : RunsRead ts a trs it f) (j : Job) {t rest v r u}
    (h : run ts a trs it f j (t :: rest) = .ok v r u) :
    ∃ c, rest = c ++ r ∧ u = c.length + 1 ∧ Reads ts a trs it f j (t :: c) v := by
  obtain ⟨c, h1, h2, R⟩ := ih j _ _ _ _ h
  cases c with
  | nil => exact absurd rfl R.ne_nil
  | cons x c =>
    obtain ⟨rfl, rfl⟩ := h1
    exact ⟨c, rfl, h2, R⟩

theorem reads_of_run_elems {f} (ih : RunsRead ts a trs it f) (e cap acc toks v r u)
    (h : unmElems ts a trs it (f+1) e cap acc toks = .ok v r u) :
    ∃ c, toks = c ++ r ∧ u = c.length ∧ Reads ts a trs it (f+1) (.elems e cap acc) c v := by
  cases toks with
  | nil => simp [unmElems_succ_nil] at h
  | cons t rest =>
    rw [unmElems_cons] at h
    split at h
    · cases h
    · next hbd => cases h; exact ⟨[t], rfl, rfl, .elems_close hbd⟩
    · next hb1 hb2 =>
      obtain ⟨hcap, h⟩ := ite_err_ok h
      obtain ⟨v1, r1, u1, hx, hK⟩ := bind'_ok_inv h
      obtain ⟨u', h', rfl⟩ := shift_ok_inv hK
      obtain ⟨c1, rfl, rfl, R1⟩ := ih.cons (.v e (zeroVal ts 64 e)) hx
      obtain ⟨c2, rfl, rfl, R2⟩ := ih (.elems e cap (v1 :: acc)) _ _ _ _ h'
      exact ⟨t :: c1 ++ c2, by simp, by simp; omega,
        .elems_cons (fun e => hb1 e) (fun e => hb2 e) (Bool.eq_false_iff.2 hcap) R1 R2⟩

theorem reads_of_run_entries {f} (ih : RunsRead ts a trs it f) (kf vt es toks v r u)
    (h : unmMapEntries ts a trs it (f+1) kf vt es toks = .ok v r u) :
    ∃ c, toks = c ++ r ∧ u = c.length ∧ Reads ts a trs it (f+1) (.entries kf vt es) c v := by
  cases toks with
  | nil => simp [unmMapEntries_succ_nil] at h
  | cons t rest =>
    rw [unmMapEntries_cons] at h
    split at h
    · next hbd => cases h; exact ⟨[t], rfl, rfl, .entries_close hbd⟩
    · next s hbd =>
      split at h
      · cases h
      · next k hk =>
        obtain ⟨hkey, h⟩ := ite_err_ok h
        obtain ⟨v1, r1, u1, hx, hK⟩ := bind'_ok_inv h
        obtain ⟨u', h', rfl⟩ := shift_ok_inv hK
        obtain ⟨c1, rfl, rfl, R1⟩ := ih (.v vt (zeroVal ts 64 vt)) _ _ _ _ hx
        obtain ⟨c2, rfl, rfl, R2⟩ := ih (.entries kf vt (es ++ [(k, v1)])) _ _ _ _ h'
        exact ⟨t :: (c1 ++ c2), by simp, by simp; omega,
          .entries_cons hbd hk (Bool.eq_false_iff.2 hkey) R1 R2⟩
    · cases h

theorem reads_of_run_v {f} (ih : RunsRead ts a trs it f) (id cur toks v r u)
    (h : unmV ts a trs it (f+1) id cur toks = .ok v r u) :
    ∃ c, toks = c ++ r ∧ u = c.length ∧ Reads ts a trs it (f+1) (.v id cur) c v := by
  cases toks with
  | nil => simp [unmV_succ_nil] at h
  | cons t rest =>
    rw [unmV_cons] at h
    split at h
    · next hn =>
      obtain ⟨c, rfl, rfl, R⟩ := ih.cons (.bare _ _ _) h
      exact ⟨t :: c, rfl, rfl, .v_bare (by simpa using hn) R⟩
    · next hn =>
      split at h
      · next hbd => cases h; exact ⟨[t], rfl, rfl, .v_null (by simpa using hn) hbd⟩
      · next hbd =>
        obtain ⟨v1, r1, u1, hx, hK⟩ := bind'_ok_inv h
        cases hK
        obtain ⟨c, rfl, rfl, R⟩ := ih.cons (.bare _ _ _) hx
        exact ⟨t :: c, rfl, rfl, .v_ptr (by simpa using hn) (fun e => hbd e) R⟩

theorem reads_of_run_struct {f} (ih : RunsRead ts a trs it f) (id fs len idx cur toks v r u)
    (h : unmStruct ts a trs it (f+1) id fs len idx cur toks = .ok v r u) :
    ∃ c, toks = c ++ r ∧ u = c.length ∧ Reads ts a trs it (f+1) (.struct id fs len idx cur) c v := by
  cases toks with
  | nil => simp [unmStruct_succ_nil] at h
  | cons t rest =>
    rw [unmStruct_cons] at h
    split at h
    · next hbd =>
      obtain ⟨hl, h⟩ := ite_err_ok h
      cases h
      exact ⟨[t], rfl, rfl, .struct_close hbd (Bool.eq_false_iff.2 hl)⟩
    · next name hbd =>
      split at h
      · cases h
      · next fd hfind =>
        split at h
        · next hig =>
          cases rest with
          | nil => cases h
          | cons t2 rest2 =>
            obtain ⟨v1, r1, u1, hx, hK⟩ := bind'_ok_inv h
            obtain ⟨u', h', rfl⟩ := shift_ok_inv hK
            obtain ⟨c1, hc1, rfl, R1⟩ := ih (.wild false) (t2 :: rest2) _ _ _ hx
            obtain ⟨c2, rfl, rfl, R2⟩ := ih (.struct id fs len (idx+1) cur) _ _ _ _ h'
            rw [hc1]
            exact ⟨t :: (c1 ++ c2), by simp, by simp; omega, .struct_skip hbd hfind hig R1 R2⟩
        · next hig =>
          split at h
          · cases h
          · split at h
            · cases h
            · next fcur hroute =>
              obtain ⟨v1, r1, u1, hx, hK⟩ := bind'_ok_inv h
              obtain ⟨cur', u', hset, h', rfl⟩ := structCont_ok_inv hK
              obtain ⟨c1, rfl, rfl, R1⟩ := ih (.v fd.ty fcur) _ _ _ _ hx
              obtain ⟨c2, rfl, rfl, R2⟩ := ih (.struct id fs len (idx+1) cur') _ _ _ _ h'
              exact ⟨t :: (c1 ++ c2), by simp, by simp; omega,
                .struct_field hbd hfind (Bool.eq_false_iff.2 hig) hroute R1 hset R2⟩
    · cases h

theorem reads_of_run_wild {f} (ih : RunsRead ts a trs it f) (meth t rest v r u)
    (h : unmWild ts a trs it (f+1) meth t rest = .ok v r u) :
    ∃ c, t :: rest = c ++ r ∧ u = c.length ∧ Reads ts a trs it (f+1) (.wild meth) c v := by
  have h0 := h
  rw [unmWild_eq] at h
  split at h
  · next g hg =>
    split at h
    · cases h
    · next e he =>
      obtain ⟨hm, h⟩ := ite_err_ok h
      cases meth with
      | true => exact absurd rfl hm
      | false =>
        obtain ⟨v1, r1, u1, hx, hK⟩ := bind'_ok_inv h
        cases hK
        obtain ⟨c, rfl, rfl, R⟩ := ih.cons (.bare _ _ _) hx
        exact ⟨t :: c, rfl, rfl, .wild_tag hg he R⟩
  · next htag =>
    obtain ⟨hrej, h⟩ := ite_err_ok h
    have hrej := Bool.eq_false_iff.2 hrej
    -- an opening bracket goes to the machine of the native container, any other token to the slot's own table
    rcases body_open_cases t.body with ⟨l, hbd⟩ | ⟨l, hbd⟩ | ho
    · simp only [hbd] at h
      obtain ⟨v1, r1, u1, hx, hK⟩ := bind'_ok_inv h
      cases hK
      obtain ⟨c, rfl, rfl, R⟩ := ih.cons (.bare _ _ _) hx
      exact ⟨t :: c, rfl, rfl, .wild_map htag hrej hbd R⟩
    · simp only [hbd] at h
      obtain ⟨v1, r1, u1, hx, hK⟩ := bind'_ok_inv h
      cases hK
      obtain ⟨c, rfl, rfl, R⟩ := ih.cons (.bare _ _ _) hx
      exact ⟨t :: c, rfl, rfl, .wild_arr htag hrej hbd R⟩
    · rw [unmWild_scalar htag hrej ho] at h0
      split at h0
      · next v1 hs => cases h0; exact ⟨[t], rfl, rfl, .wild_scalar htag hrej hs⟩
      · cases h0

theorem reads_of_run_bare {f} (ih : RunsRead ts a trs it f) (id m cur toks v r u)
    (h : unmBare ts a trs it (f+1) id m cur toks = .ok v r u) :
    ∃ c, toks = c ++ r ∧ u = c.length ∧ Reads ts a trs it (f+1) (.bare id m cur) c v := by
  cases toks with
  | nil => simp [unmBare_succ_nil] at h
  | cons t rest =>
    cases m with
    | prim =>
      rw [unmBare_prim] at h
      split at h
      · next v1 hsp => cases h; exact ⟨[t], rfl, rfl, .prim hsp⟩
      · cases h
    | slice e =>
      rw [unmBare_slice] at h
      split at h
      · next hbd => cases h; exact ⟨[t], rfl, rfl, .slice_null hbd⟩
      · next l hbd =>
        obtain ⟨u', h', rfl⟩ := shift_ok_inv h
        obtain ⟨c, rfl, rfl, R⟩ := ih (.elems e none []) _ _ _ _ h'
        exact ⟨t :: c, rfl, rfl, .slice hbd R⟩
      · cases h
    | array n e =>
      rw [unmBare_array] at h
      split at h
      · next hbd => cases h; exact ⟨[t], rfl, rfl, .array_null hbd⟩
      · next l hbd =>
        obtain ⟨v1, r1, u1, hx, hK⟩ := bind'_ok_inv h
        cases hK
        obtain ⟨c, rfl, rfl, R⟩ := ih (.elems e (some n) []) _ _ _ _ hx
        exact ⟨t :: c, rfl, rfl, .array hbd R⟩
      · cases h
    | map kt vt =>
      rw [unmBare_map] at h
      split at h
      · cases h
      · next kf hkf =>
        split at h
        · next hbd => cases h; exact ⟨[t], rfl, rfl, .map_null hkf hbd⟩
        · next l hbd =>
          obtain ⟨u', h', rfl⟩ := shift_ok_inv h
          obtain ⟨c, rfl, rfl, R⟩ := ih (.entries kf vt (UM.mapEntries cur)) _ _ _ _ h'
          exact ⟨t :: c, rfl, rfl, .map hkf hbd R⟩
        · cases h
    | wildcard =>
      rw [unmBare_wild] at h
      obtain ⟨c, rfl, rfl, R⟩ := ih.cons (.wild (UM.hasMethods ts id)) h
      exact ⟨t :: c, rfl, rfl, .wildcard R⟩
    | structMap fs =>
      rw [unmBare_structMap] at h
      split at h
      · next hbd => cases h; exact ⟨[t], rfl, rfl, .struct_null hbd⟩
      · next l hbd =>
        obtain ⟨u', h', rfl⟩ := shift_ok_inv h
        obtain ⟨c, rfl, rfl, R⟩ := ih (.struct id fs l 0 cur) _ _ _ _ h'
        exact ⟨t :: c, rfl, rfl, .struct hbd R⟩
      · cases h
    | transform fn uty =>
      rw [unmBare_transform] at h
      obtain ⟨v1, r1, u1, hx, hK⟩ := bind'_ok_inv h
      obtain ⟨htr, rfl, rfl⟩ := trPost_ok_inv hK
      obtain ⟨c, rfl, rfl, R⟩ := ih.cons (.bare _ _ _) hx
      exact ⟨t :: c, rfl, rfl, .transform R htr⟩
    | errThunk => rw [unmBare_errThunk] at h; cases h
    | panic => rw [unmBare_panic] at h; cases h
    | union members =>
      rw [unmBare_union] at h
      split at h
      · next l hbd =>
        obtain ⟨hl, h⟩ := ite_err_ok h
        cases rest with
        | nil => cases h
        | cons k rest2 =>
          dsimp only at h
          split at h
          · next name hk =>
            split at h
            · cases h
            · next nm idx hfind =>
              split at h
              · cases h
              · next me hme =>
                split at h
                · cases h
                · cases h
                · next hne1 hne2 =>
                  obtain ⟨v1, r1, u1, hx, hK⟩ := bind'_ok_inv h
                  obtain ⟨cl, rfl, hcl, rfl, rfl⟩ := unionClose_ok_inv hK
                  obtain ⟨c, rfl, rfl, R⟩ := ih (.bare me.ty _ _) _ _ _ _ hx
                  exact ⟨t :: k :: (c ++ [cl]), by simp, by simp,
                    .union (p := (nm, idx)) hbd (Bool.eq_false_iff.2 hl) hk hfind hme
                      (fun e => hne1 e) (fun e => hne2 e) R hcl⟩
          · cases h
      · cases h

theorem reads_of_run : ∀ (f : Nat) (j : Job) (toks : List Tok) (v : Val) (rest : List Tok) (used : Nat),
    run ts a trs it f j toks = .ok v rest used →
      ∃ c, toks = c ++ rest ∧ used = c.length ∧ Reads ts a trs it f j c v := by
  intro f
  induction f with
  | zero =>
    intro j toks v rest used h
    cases j with
    | v id cur => simp [unmV_zero] at h
    | bare id m cur => simp [unmBare_zero] at h
    | wild meth => cases toks <;> simp [unmWild_zero] at h
    | elems e cap acc => simp [unmElems_zero] at h
    | entries kf vt es => simp [unmMapEntries_zero] at h
    | struct id fs len idx cur => simp [unmStruct_zero] at h
  | succ f ih =>
    intro j toks v rest used h
    cases j with
    | v id cur => exact reads_of_run_v ih _ _ _ _ _ _ h
    | bare id m cur => exact reads_of_run_bare ih _ _ _ _ _ _ _ h
    | wild meth =>
      cases toks with
      | nil => simp at h
      | cons t r => exact reads_of_run_wild ih _ _ _ _ _ _ h
    | elems e cap acc => exact reads_of_run_elems ih _ _ _ _ _ _ _ h
    | entries kf vt es => exact reads_of_run_entries ih _ _ _ _ _ _ _ h
    | struct id fs len idx cur => exact reads_of_run_struct ih _ _ _ _ _ _ _ _ _ h

theorem reads_iff {f j toks v rest used} :
    run ts a trs it f j toks = .ok v rest used ↔ ∃ c, toks = c ++ rest ∧ used = c.length ∧ Reads ts a trs it f j c v :=
  ⟨reads_of_run f j toks v rest used, fun ⟨_, h1, h2, h3⟩ => h1 ▸ h2 ▸ h3.sound rest⟩

theorem unmV_ok_len {fuel id cur toks v r u} (h : unmV ts a trs it fuel id cur toks = .ok v r u) :
    r.length < toks.length := by
  obtain ⟨c, rfl, -, hr⟩ := (reads_iff (j := .v id cur)).1 h
  have := List.length_pos_iff.2 hr.ne_nil
  simp only [List.length_append]
  omega

theorem unmWild_ok_len {fuel meth t rest v r u} (h : unmWild ts a trs it fuel meth t rest = .ok v r u) :
    r.length ≤ rest.length := by
  obtain ⟨c, hc, -, hr⟩ := (reads_iff (j := .wild meth) (toks := t :: rest)).1 h
  have := List.length_pos_iff.2 hr.ne_nil
  have := congrArg List.length hc
  simp only [List.length_append, List.length_cons] at this
  omega

theorem Reads.succ {f j c v} (h : Reads ts a trs it f j c v) : Reads ts a trs it (f+1) j c v := by
  induction h with
  | v_bare h0 _ ih => exact .v_bare h0 ih
  | v_null h0 hb => exact .v_null h0 hb
  | v_ptr h0 hb _ ih => exact .v_ptr h0 hb ih
  | prim hs => exact .prim hs
  | wildcard _ ih => exact .wildcard ih
  | slice_null hb => exact .slice_null hb
  | slice hb _ ih => exact .slice hb ih
  | array_null hb => exact .array_null hb
  | array hb _ ih => exact .array hb ih
  | map_null hk hb => exact .map_null hk hb
  | map hk hb _ ih => exact .map hk hb ih
  | struct_null hb => exact .struct_null hb
  | struct hb _ ih => exact .struct hb ih
  | transform _ hu ih => exact .transform ih hu
  | union hb hl hk hf hp h1 h2 _ hc ih => exact .union hb hl hk hf hp h1 h2 ih hc
  | wild_tag hg' he _ ih => exact .wild_tag hg' he ih
  | wild_map hg' hr hb _ ih => exact .wild_map hg' hr hb ih
  | wild_arr hg' hr hb _ ih => exact .wild_arr hg' hr hb ih
  | wild_scalar hg' hr hs => exact .wild_scalar hg' hr hs
  | elems_close hb => exact .elems_close hb
  | elems_cons h1 h2 hc _ _ ih1 ih2 => exact .elems_cons h1 h2 hc ih1 ih2
  | entries_close hb => exact .entries_close hb
  | entries_cons hb hk hh _ _ ih1 ih2 => exact .entries_cons hb hk hh ih1 ih2
  | struct_close hb hl => exact .struct_close hb hl
  | struct_skip hb hf hi _ _ ih1 ih2 => exact .struct_skip hb hf hi ih1 ih2
  | struct_field hb hf hi hgr _ hs _ ih1 ih2 => exact .struct_field hb hf hi hgr ih1 hs ih2

theorem Reads.mono {f g j c v} (h : Reads ts a trs it f j c v) (hfg : f ≤ g) : Reads ts a trs it g j c v := by
  induction hfg with
  | refl => exact h
  | step _ ih => exact ih.succ

theorem unmV_fuel_mono {f g id cur toks v rest used} (hfg : f ≤ g)
    (h : unmV ts a trs it f id cur toks = .ok v rest used) : unmV ts a trs it g id cur toks = .ok v rest used := by
  obtain ⟨c, rfl, rfl, hr⟩ := (reads_iff (j := .v id cur)).1 h
  exact (hr.mono hfg).sound rest

theorem reads_iff_sound {f j c v} :
    Reads ts a trs it f j c v ↔ ∀ rest, run ts a trs it f j (c ++ rest) = .ok v rest c.length :=
  ⟨Reads.sound, fun h => by
    obtain ⟨c', hc, -, hr⟩ := reads_iff.1 (h [])
    rwa [List.append_cancel_right hc]⟩

theorem Reads.det {f g j c v w} (h1 : Reads ts a trs it f j c v) (h2 : Reads ts a trs it g j c w) : v = w := by
  have e1 := (h1.mono (Nat.le_max_left f g)).sound []
  rw [(h2.mono (Nat.le_max_right f g)).sound []] at e1
  cases e1
  rfl

/-- a job that reads one value never starts at a close token; a list walk does, at the end of the list -/
def Job.HeadOk : Job → List Tok → Prop
  | .elems .., _ | .entries .., _ | .struct .., _ => True
  | _, c => ∃ t c', c = t :: c' ∧ t.body ≠ .arrClose ∧ t.body ≠ .mapClose

theorem Reads.head {f j c v} (h : Reads ts a trs it f j c v) : j.HeadOk c := by
  induction h with
  | v_bare _ _ ih | v_ptr _ _ _ ih | wildcard _ ih | transform _ _ ih | wild_tag _ _ _ ih | wild_map _ _ _ _ ih
  | wild_arr _ _ _ _ ih => exact ih
  | v_null _ hb | slice_null hb | array_null hb | map_null _ hb | struct_null hb | slice hb | array hb | map _ hb
  | struct hb | union hb => exact ⟨_, _, rfl, by simp [hb], by simp [hb]⟩
  | prim hs => exact ⟨_, _, rfl, storePrim_not_close hs⟩
  | wild_scalar _ _ hs => exact ⟨_, _, rfl, (slotScalar_scalar hs).1, (slotScalar_scalar hs).2.1⟩
  | _ => trivial

/-! `v_bare` / `v_null` / `v_ptr` for a caller who holds `peel ts 64 0 id = (n, base)`: the form and the names of the three
    rules of `MRun.Writes` (Lemmas/MarshalRun) for `.v`. -/

theorem Reads.v_direct {f id base cur c v} (hp : peel ts 64 0 id = (0, base))
    (h : Reads ts a trs it f (.bare base (upickBare ts a base) cur) c v) : Reads ts a trs it (f+1) (.v id cur) c v := by
  obtain ⟨t, c, rfl, -⟩ := h.head
  exact .v_bare (by rw [hp]) (by rw [hp]; exact h)

theorem Reads.v_nil {f id n base cur t} (hp : peel ts 64 0 id = (n+1, base)) (hb : t.body = .null) :
    Reads ts a trs it (f+1) (.v id cur) [t] (.ptr none) :=
  .v_null (by rw [hp]; exact Nat.succ_ne_zero n) hb

theorem Reads.v_deref {f id n base cur t c v} (hp : peel ts 64 0 id = (n+1, base)) (hb : t.body ≠ .null)
    (h : Reads ts a trs it f (.bare base (upickBare ts a base) (innerCur ts (n+1) id cur)) (t :: c) v) :
    Reads ts a trs it (f+1) (.v id cur) (t :: c) (wrapPtr (n+1) v) := by
  have := Reads.v_ptr (cur := cur) (by rw [hp]; exact Nat.succ_ne_zero n) hb (by rw [hp]; exact h)
  rwa [hp] at this

theorem reads_v_nonptr {id : Nat} (hnp : ∀ e, ts.get id ≠ .ptr e) {f cur c v} :
    Reads ts a trs it (f+1) (.v id cur) c v ↔ Reads ts a trs it f (.bare id (upickBare ts a id) cur) c v := by
  have hpeel := ObjL.peel_nonptr ts 64 0 id hnp
  constructor
  · intro h
    cases h with
    | v_bare _ hb => rwa [hpeel] at hb
    | v_null h0 | v_ptr h0 => rw [hpeel] at h0; exact absurd rfl h0
  · exact Reads.v_direct hpeel

theorem reads_wildcard {id : Nat} (hmeth : UM.hasMethods ts id = false) {f : Nat} {cur : Val} {c : List Tok} {v : Val} :
    Reads ts a trs it (f+1) (.bare id .wildcard cur) c v ↔ Reads ts a trs it f (.wild false) c v := by
  constructor
  · intro h
    cases h with
    | wildcard h => rwa [hmeth] at h
  · intro h
    obtain ⟨t, c, rfl, -⟩ := h.head
    exact .wildcard (by rwa [hmeth])

theorem reads_slice_cur {f id id' e : Nat} {cur cur' : Val} {c : List Tok} {v : Val}
    (h : Reads ts a trs it f (.bare id (.slice e) cur) c v) : Reads ts a trs it f (.bare id' (.slice e) cur') c v := by
  cases h with
  | slice_null hb => exact .slice_null hb
  | slice hb h => exact .slice hb h

theorem reads_map_cur {f id id' kt vt : Nat} {cur cur' : Val} {c : List Tok} {v : Val} (hc : UM.mapEntries cur = UM.mapEntries cur')
    (h : Reads ts a trs it f (.bare id (.map kt vt) cur) c v) : Reads ts a trs it f (.bare id' (.map kt vt) cur') c v := by
  cases h with
  | map_null hk hb => exact .map_null hk hb
  | map hk hb h => exact .map hk hb (hc ▸ h)

theorem Reads.bare_body {m : UMach} (hm1 : m ≠ .wildcard) (hm2 : ∀ fn uty, m ≠ .transform fn uty) {f id : Nat} {cur v : Val}
    {t t' : Tok} {c : List Tok} (hb : t.body = t'.body) (h : Reads ts a trs it f (.bare id m cur) (t :: c) v) :
    Reads ts a trs it f (.bare id m cur) (t' :: c) v := by
  cases h with
  | prim hs => exact .prim (storePrim_body _ hb ▸ hs)
  | wildcard => exact absurd rfl hm1
  | transform => exact absurd rfl (hm2 _ _)
  | slice_null h0 => exact .slice_null (hb ▸ h0)
  | slice h0 h => exact .slice (hb ▸ h0) h
  | array_null h0 => exact .array_null (hb ▸ h0)
  | array h0 h => exact .array (hb ▸ h0) h
  | map_null hk h0 => exact .map_null hk (hb ▸ h0)
  | map hk h0 h => exact .map hk (hb ▸ h0) h
  | struct_null h0 => exact .struct_null (hb ▸ h0)
  | struct h0 h => exact .struct (hb ▸ h0) h
  | union h0 hl hk hf hp h1 h2 h hc => exact .union (hb ▸ h0) hl hk hf hp h1 h2 h hc

end Refmt.Obj
