-- `rtF` / `fullVal` one level at a time, and `fullTy` at a type that is not a pointer read as one of ten kinds
-- (`FullView`); for the full-domain completeness theorem (RefmtProofs/Props/C13Full.lean)
import RefmtProofs.Lemmas.FullDefs
namespace Refmt.Obj
open Refmt Refmt.C13 Refmt.C11

variable (ts : Types) (a : Atlas) (trs : Trs) (it : IfaceTys)

theorem rtF_succ (fuel id v) : rtF ts a trs it (fuel+1) id v =
    if (peel ts 64 0 id).1 == 0 then rtFB ts a trs it fuel (peel ts 64 0 id).2 (pickBare ts a (peel ts 64 0 id).2) v
    else match derefN (peel ts 64 0 id).1 v with
      | none => .ptr none
      | some inner =>
        if isNullSer ts a trs (peel ts 64 0 id).2 inner then .ptr none
        else wrapPtr (peel ts 64 0 id).1 (rtFB ts a trs it fuel (peel ts 64 0 id).2 (pickBare ts a (peel ts 64 0 id).2) inner) := by
  rw [rtF.eq_def] <;> rfl

theorem rtFB_prim (fuel id v) : rtFB ts a trs it (fuel+1) id .prim v = v := by
  rw [rtFB.eq_def]
  exact C13.normBare_prim ts a trs it fuel id v

theorem rtFB_slice (fuel id e v) : rtFB ts a trs it (fuel+1) id (.slice e) v =
    (match v with | .slice (some vs) => .slice (some (vs.map (rtF ts a trs it fuel e))) | x => x) := by
  rw [rtFB.eq_def] <;> rfl
theorem rtFB_array (fuel id e v) : rtFB ts a trs it (fuel+1) id (.array e) v =
    (match v with | .arr vs => .arr (vs.map (rtF ts a trs it fuel e)) | x => x) := by
  rw [rtFB.eq_def] <;> rfl
theorem rtFB_map (fuel id kt vt mode v) : rtFB ts a trs it (fuel+1) id (.map kt vt mode) v =
    (match v with
     | .map (some es) =>
       .map (some ((sortKeys mode (es.map fun (k, x) => (keyStr k, x))).map fun (s, x) => (Val.str s, rtF ts a trs it fuel vt x)))
     | x => x) := by
  rw [rtFB.eq_def] <;> rfl
theorem rtFB_structMap (fuel id e fields v) : rtFB ts a trs it (fuel+1) id (.structMap e fields) v =
    structFold ts id fields v (rtF ts a trs it fuel) := by
  rw [rtFB.eq_def] <;> rfl
theorem rtFB_transform (fuel id e fn mty v) : rtFB ts a trs it (fuel+1) id (.transform e fn mty) v =
    (match trs.m fn v with
     | some tv => (trs.u fn (rtF ts a trs it fuel mty tv)).getD v
     | none => v) := by
  rw [rtFB.eq_def] <;> rfl
theorem rtFB_union (fuel id e members v) : rtFB ts a trs it (fuel+1) id (.union e members) v =
    (match v with
     | .iface (some (dt, dv)) =>
       (match members.find? fun (_, idx) => (a.pool[idx]?.map (·.ty)) == some dt with
        | some (_, idx) =>
          (match a.pool[idx]? with
           | some me => .iface (some (dt, rtFB ts a trs it fuel dt (machForEntry ts me) dv))
           | none => v)
        | none => v)
     | x => x) := by
  rw [rtFB.eq_def] <;> rfl
theorem rtFB_wild_none (fuel id) : rtFB ts a trs it (fuel+1) id .wildcard (.iface none) = .iface none := by
  rw [rtFB.eq_def] <;> rfl
theorem rtFB_wild_some (fuel id dt dv) : rtFB ts a trs it (fuel+1) id .wildcard (.iface (some (dt, dv))) =
    wildStep .pretty ts a trs it (rtF ts a trs it fuel it.iface) (rtFB ts a trs it fuel) mapSorted dt dv := by
  rw [rtFB.eq_def] <;> rfl

theorem fullVal_zero (id v) : fullVal ts a trs it 0 id v = true := by rw [fullVal.eq_def]
theorem fullValB_zero (id m v) : fullValB ts a trs it 0 id m v = true := by rw [fullValB.eq_def]

theorem fullVal_succ (g id v) : fullVal ts a trs it (g+1) id v =
    if (peel ts 64 0 id).1 == 0 then fullValB ts a trs it g (peel ts 64 0 id).2 (pickBare ts a (peel ts 64 0 id).2) v
    else match derefN (peel ts 64 0 id).1 v with
      | none => true
      | some inner => fullValB ts a trs it g (peel ts 64 0 id).2 (pickBare ts a (peel ts 64 0 id).2) inner := by
  rw [fullVal.eq_def] <;> rfl

theorem fullValB_slice (g id e v) : fullValB ts a trs it (g+1) id (.slice e) v =
    (match v with | .slice (some vs) => vs.all (fullVal ts a trs it g e) | _ => true) := by
  rw [fullValB.eq_def] <;> rfl
theorem fullValB_array (g id e v) : fullValB ts a trs it (g+1) id (.array e) v =
    (match v with | .arr vs => vs.all (fullVal ts a trs it g e) | _ => true) := by
  rw [fullValB.eq_def] <;> rfl
theorem fullValB_map (g id kt vt mode v) : fullValB ts a trs it (g+1) id (.map kt vt mode) v =
    (match v with
     | .map (some es) => strKeysB es && es.all (fun p => fullVal ts a trs it g vt p.2)
     | _ => true) := by
  rw [fullValB.eq_def] <;> rfl
theorem fullValB_structMap (g id e fields v) : fullValB ts a trs it (g+1) id (.structMap e fields) v =
    fields.all fun f =>
      !emitP v f || (match traverse f.route v with | some fv => fullVal ts a trs it g f.ty fv | none => true) := by
  rw [fullValB.eq_def] <;> rfl
theorem fullValB_transform (g id e fn mty v) : fullValB ts a trs it (g+1) id (.transform e fn mty) v =
    (match trs.m fn v with
     | some tv =>
       hasTy ts 1000 mty tv && fullVal ts a trs it g mty tv &&
       (trs.u fn (normV .pretty ts a trs it g mty tv)).isSome
     | none => true) := by
  rw [fullValB.eq_def] <;> rfl
theorem fullValB_union (g id e members v) : fullValB ts a trs it (g+1) id (.union e members) v =
    (match v with
     | .iface (some (dt, dv)) =>
       (match members.find? fun (_, idx) => (a.pool[idx]?.map (·.ty)) == some dt with
        | some (_, idx) =>
          (match a.pool[idx]? with
           | some me => fullValB ts a trs it g dt (machForEntry ts me) dv
           | none => true)
        | none => true)
     | _ => true) := by
  rw [fullValB.eq_def] <;> rfl
theorem fullValB_wild (g id dt dv) : fullValB ts a trs it (g+1) id .wildcard (.iface (some (dt, dv))) =
    (notPtrB (ts.get dt) &&
     (match pickBare ts a dt with
      | .prim => true
      | .slice _ =>
        dt == it.sliceI &&
        (match dv with | .slice (some vs) => vs.all (fullVal ts a trs it g it.iface) | _ => false)
      | .map _ _ _ =>
        dt == it.mapSI &&
        (match dv with
         | .map (some es) => strKeysB es && es.all (fun p => fullVal ts a trs it g it.iface p.2)
         | _ => false)
      | .structMap e _ =>
        taggedB a e && fullTy ts a 64 dt && fullValB ts a trs it g dt (pickBare ts a dt) dv
      | .transform e _ _ =>
        taggedB a e && fullTy ts a 64 dt && fullValB ts a trs it g dt (pickBare ts a dt) dv
      | _ => false)) := by
  rw [fullValB.eq_def] <;> rfl

/-- The model strips pointers with `peel ts 64`; a class fuel `p ≤ 64` therefore reaches the base type with `p' + 1` left.
    Every `p ≤ 64` / `p + 1 ≤ 64` hypothesis of the round trip over `fullTy` is there to call this with `k = 64`. -/
theorem full_peel : ∀ (p k c id : Nat), fullTy ts a p id = true → p ≤ k →
    ∃ n base p', peel ts k c id = (c + n, base) ∧ fullTy ts a (p' + 1) base = true ∧ (∀ e, ts.get base ≠ .ptr e) ∧ chain ts n id base ∧ p' + 1 + n ≤ p :=
  peel_chain ts (fun _ => rfl) (fun p id e hd h => by simpa [fullTy, hd] using h)

theorem fullTy_mono : ∀ (p q id : Nat), fullTy ts a p id = true → p ≤ q → fullTy ts a q id = true := by
  intro p
  induction p with
  | zero => intro q id h; simp [fullTy] at h
  | succ p ih =>
    intro q id h hq
    obtain ⟨q, rfl⟩ : ∃ q', q = q' + 1 := ⟨q - 1, by omega⟩
    have hpq : p ≤ q := by omega
    rw [fullTy] at h ⊢
    split at h
    · exact ih q _ h hpq
    · rename_i d hnp
      split at h
      · split at h
        · exact h
        · exact h
        · exact h
        · exact ih q _ h hpq
        · exact ih q _ h hpq
        · simp only [Bool.and_eq_true] at h ⊢
          exact ⟨h.1, ih q _ h.2 hpq⟩
        · exact h
        · exact h
      · rename_i reg ty tag k hg
        split at h
        · split at h
          · simp only [Bool.and_eq_true, List.all_eq_true] at h ⊢
            exact ⟨h.1, fun f hf => ⟨(h.2 f hf).1, ih q _ (h.2 f hf).2 hpq⟩⟩
          · exact h
        · simp only [Bool.and_eq_true] at h ⊢
          exact ⟨h.1, ih q _ h.2 hpq⟩
        · split at h
          · simp only [Bool.and_eq_true, List.all_eq_true] at h ⊢
            refine ⟨h.1, fun m hm => ?_⟩
            have := h.2 m hm
            split at this
            · simp only [Bool.and_eq_true] at this ⊢
              exact ⟨this.1, ih q _ this.2 hpq⟩
            · exact this
          · exact h
        · exact h

variable {ts a}

theorem atlas_get_some {a : Atlas} {id : Nat} {e : Entry} (hg : a.get id = some e) :
    e ∈ a.pool ∧ e.registered = true ∧ e.ty = id := by
  have := List.find?_some hg
  simp only [Bool.and_eq_true, beq_iff_eq] at this
  exact ⟨List.mem_of_find?_eq_some hg, this.1, this.2⟩

theorem fullTy_pos {p id : Nat} (h : fullTy ts a p id = true) : ∃ p', p = p' + 1 := by
  cases p with
  | zero => simp [fullTy] at h
  | succ p' => exact ⟨p', rfl⟩

/-- field ok, full domain: what `fullTy` says about one field of a struct-map entry -/
structure FOKF (ts : Types) (a : Atlas) (p : Nat) (fds : List FieldDesc) (fld : SMField) : Prop where
  ignore : fld.ignore = false
  slot : ∃ i fd, fld.route = [i] ∧ fds[i]? = some fd ∧ fd.ty = fld.ty
  full : fullTy ts a p fld.ty = true

/-- member ok, full domain: what `fullTy` says about one member of a keyed union -/
def MOKF (ts : Types) (a : Atlas) (p : Nat) (m : Bytes × Nat) : Prop :=
  ∃ me fs fds, a.pool[m.2]? = some me ∧ a.get me.ty = some me ∧ me.k = .structMap fs ∧ ts.get me.ty = .struct fds ∧
    fullTy ts a p me.ty = true

inductive FullView (ts : Types) (a : Atlas) (p id : Nat) : Prop
  | prim (k : Kind) (b : Bool) (hd : ts.get id = .prim k b) (hn : a.get id = none)
  | bytes (b : Bool) (hd : ts.get id = .bytes b) (hn : a.get id = none)
  | byteArr (n : Nat) (hd : ts.get id = .byteArr n) (hn : a.get id = none)
  | slice (e : Nat) (hd : ts.get id = .slice e) (hn : a.get id = none) (he : fullTy ts a p e = true)
  | arr (n e : Nat) (hd : ts.get id = .arr n e) (hn : a.get id = none) (he : fullTy ts a p e = true)
  | map (kt vt : Nat) (bk : Bool) (hd : ts.get id = .map kt vt) (hn : a.get id = none) (hkt : ts.get kt = .prim .string bk)
      (he : fullTy ts a p vt = true)
  | wild (hd : ts.get id = .iface false) (hn : a.get id = none)
  | struct (fds : List FieldDesc) (reg : Bool) (ty : Nat) (tag : Option Int) (fields : List SMField)
      (hd : ts.get id = .struct fds) (he : a.get id = some ⟨reg, ty, tag, .structMap fields⟩)
      (hnames : (fields.map (·.name)).Nodup) (hroutes : (fields.map (·.route)).Nodup)
      (hf : ∀ fld ∈ fields, FOKF ts a p fds fld)
  | transform (reg : Bool) (ty : Nat) (tag : Option Int) (fn mty : Nat)
      (hb : isBuiltin (ts.get id) = false) (he : a.get id = some ⟨reg, ty, tag, .transform fn mty mty⟩)
      (hmp : ∀ e, ts.get mty ≠ .ptr e) (htb : tag = none ∨ tagBlind ts a mty = true) (hm : fullTy ts a p mty = true)
  | union (m : Bool) (reg : Bool) (ty : Nat) (tag : Option Int) (members : List (Bytes × Nat))
      (hd : ts.get id = .iface m) (he : a.get id = some ⟨reg, ty, tag, .union members⟩)
      (hnames : (members.map (·.1)).Nodup) (hm : ∀ mem ∈ members, MOKF ts a p mem)

theorem fullTy_view_none {p id : Nat} (hp : fullTy ts a (p+1) id = true) (hnp : ∀ e, ts.get id ≠ .ptr e)
    (hg : a.get id = none) : FullView ts a p id := by
  cases hd : ts.get id with
  | ptr e => exact absurd hd (hnp e)
  | prim k b => exact .prim k b hd hg
  | bytes b => exact .bytes b hd hg
  | byteArr n => exact .byteArr n hd hg
  | slice e => exact .slice e hd hg (by simpa [fullTy, hd, hg] using hp)
  | arr n e => exact .arr n e hd hg (by simpa [fullTy, hd, hg] using hp)
  | map kt vt =>
    simp only [fullTy, hd, hg, Bool.and_eq_true] at hp
    obtain ⟨hkt, hv⟩ := hp
    split at hkt
    · rename_i bk hh; exact .map kt vt bk hd hg hh hv
    · cases hkt
  | iface m =>
    simp only [fullTy, hd, hg] at hp
    cases m with
    | false => exact .wild hd hg
    | true => simp at hp
  | struct fds => simp [fullTy, hd, hg] at hp
  | other => simp [fullTy, hd, hg] at hp

theorem fullTy_view_struct {p id : Nat} {reg : Bool} {ty : Nat} {tag : Option Int} {fields : List SMField}
    (hp : fullTy ts a (p+1) id = true) (hnp : ∀ e, ts.get id ≠ .ptr e)
    (hg : a.get id = some ⟨reg, ty, tag, .structMap fields⟩) :
    ∃ fds, ts.get id = .struct fds ∧ (fields.map (·.name)).Nodup ∧ (fields.map (·.route)).Nodup ∧
      ∀ fld ∈ fields, FOKF ts a p fds fld := by
  rw [fullTy] at hp
  split at hp
  · rename_i e he; exact absurd he (hnp e)
  · simp only [hg] at hp
    split at hp
    · rename_i fds hd
      simp only [Bool.and_eq_true, decide_eq_true_eq, List.all_eq_true] at hp
      obtain ⟨⟨h1, h2⟩, h3⟩ := hp
      refine ⟨fds, hd, h1, h2, fun fld hf => ?_⟩
      have hsl := fieldOkB_inv (h3 fld hf).1
      exact ⟨hsl.1, hsl.2, (h3 fld hf).2⟩
    · cases hp

theorem fullTy_view_transform {p id : Nat} {reg : Bool} {ty : Nat} {tag : Option Int} {fn mty uty : Nat}
    (hp : fullTy ts a (p+1) id = true) (hnp : ∀ e, ts.get id ≠ .ptr e)
    (hg : a.get id = some ⟨reg, ty, tag, .transform fn mty uty⟩) : uty = mty ∧ FullView ts a p id := by
  have key : (!isBuiltin (ts.get id) && mty == uty && notPtrB (ts.get mty) && (tag.isNone || tagBlind ts a mty) &&
      fullTy ts a p mty) = true := by
    rw [fullTy] at hp
    split at hp
    · rename_i e he; exact absurd he (hnp e)
    · simpa only [hg] using hp
  simp only [Bool.and_eq_true, Bool.not_eq_true', beq_iff_eq, Bool.or_eq_true, Option.isNone_iff_eq_none] at key
  obtain ⟨⟨⟨⟨h1, h2⟩, h3⟩, h4⟩, h5⟩ := key
  subst h2
  exact ⟨rfl, .transform reg ty tag fn mty h1 hg ((notPtrB_iff _).mp h3) h4 h5⟩

theorem fullTy_view_union {p id : Nat} {reg : Bool} {ty : Nat} {tag : Option Int} {members : List (Bytes × Nat)}
    (hp : fullTy ts a (p+1) id = true) (hnp : ∀ e, ts.get id ≠ .ptr e)
    (hg : a.get id = some ⟨reg, ty, tag, .union members⟩) : FullView ts a p id := by
  rw [fullTy] at hp
  split at hp
  · rename_i e he; exact absurd he (hnp e)
  · simp only [hg] at hp
    split at hp
    · rename_i m hd
      simp only [Bool.and_eq_true, decide_eq_true_eq, List.all_eq_true] at hp
      obtain ⟨h1, h2⟩ := hp
      refine .union m reg ty tag members hd hg h1 (fun mem hmem => ?_)
      have := h2 mem hmem
      split at this
      · rename_i me hme
        simp only [Bool.and_eq_true, beq_iff_eq] at this
        obtain ⟨⟨⟨ha, hk⟩, hs⟩, hf⟩ := this
        split at hk
        · rename_i fs hfs
          split at hs
          · rename_i fds hfds
            exact ⟨me, fs, fds, hme, ha, hfs, hfds, hf⟩
          · cases hs
        · cases hk
      · cases this
    · cases hp

theorem fullTy_view {p id : Nat} (hp : fullTy ts a (p+1) id = true) (hnp : ∀ e, ts.get id ≠ .ptr e) :
    FullView ts a p id := by
  cases hg : a.get id with
  | none => exact fullTy_view_none hp hnp hg
  | some e =>
    obtain ⟨reg, ty, tag, k⟩ := e
    cases k with
    | structMap fields =>
      obtain ⟨fds, hd, h1, h2, h3⟩ := fullTy_view_struct hp hnp hg
      exact .struct fds reg ty tag fields hd hg h1 h2 h3
    | transform fn mty uty =>
      obtain ⟨rfl, h⟩ := fullTy_view_transform hp hnp hg
      exact h
    | union members => exact fullTy_view_union hp hnp hg
    | mapMorph | invalid =>
      rw [fullTy] at hp
      split at hp
      · rename_i e he; exact absurd he (hnp e)
      · simp [hg] at hp

end Refmt.Obj
