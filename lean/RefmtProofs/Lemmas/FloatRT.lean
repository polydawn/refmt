/-
  A decimal in the rounding interval of a finite non-zero binary64 magnitude parses back
  (`FloatText.parseDecimal`) to that magnitude: `roundRat` rounds everything in the interval to it (`roundRat_spec`).
-/
import RefmtProofs.Lemmas.FloatRound
import RefmtProofs.Lemmas.FloatShortest
namespace Refmt.FloatL
open Refmt Refmt.FloatText Refmt.JsonDec Refmt.C03L

theorem roundRat_bits (v : Nat) (hv0 : v ≠ 0) (hfin : v / p52 < 2047) (num den : Nat) (hden : den ≠ 0)
    (hlo : (sdOf v).loN * den ≤ num * (sdOf v).den)
    (hlo' : (sdOf v).incl = false → (sdOf v).loN * den < num * (sdOf v).den)
    (hhi : num * (sdOf v).den ≤ (sdOf v).hiN * den)
    (hhi' : (sdOf v).incl = false → num * (sdOf v).den < (sdOf v).hiN * den) :
    roundRat num den = (v, false) := by
  obtain ⟨hm1, hm2, he1, he2, hsub, hbl, hbits⟩ := decompose_canon v hv0 hfin
  unfold sdOf at hlo hlo' hhi hhi'
  rw [mkSD_loN, mkSD_den] at hlo hlo'
  rw [mkSD_hiN, mkSD_den] at hhi hhi'
  have hodd : (decompose v).1 % 2 = 1 → ((decompose v).1 % 2 == 0) = false := fun ho => by simp [ho]
  rw [← hbits]
  apply roundRat_spec num den _ _ ((decompose v).2 - 2).toNat (-((decompose v).2 - 2)).toNat (by omega) hden
    hm1 hm2 he1 he2 hsub _ hbl
  · rw [Nat.mul_right_comm]; exact hlo
  · intro ho; rw [Nat.mul_right_comm]; exact hlo' (hodd ho)
  · rw [Nat.mul_right_comm]; exact hhi
  · intro ho; rw [Nat.mul_right_comm]; exact hhi' (hodd ho)

/-- its size keeps the decimal between the two guards of `parseDecimal`, and `roundRat` does the rest -/
theorem insideV_parse (abs : Nat) (h0 : abs ≠ 0) (hfin : abs / p52 < 2047) (d : Nat) (e10 : Int)
    (h : InsideV (sdOf abs) d e10) : parseDecimal d e10 = (abs, false) := by
  obtain ⟨hm1, hm2, he1, he2, _⟩ := decompose_canon abs h0 hfin
  have hlo : 0 < (sdOf abs).loN := mkSD_lo_pos _ _ _ hm1
  have hd : d ≠ 0 := Nat.pos_iff_ne_zero.1 (insideV_pos _ _ _ h hlo)
  obtain ⟨⟨g1, g1'⟩, ⟨g2, g2'⟩⟩ := h e10.toNat (-e10).toNat (by omega)
  -- at most `hi < 2^1024`
  have h400 : e10 ≤ 400 := by
    refine exp10_le_400 d e10 hd (sdOf abs).hiN (Nat.lt_trans (mkSD_hi_lt _ _ _ hm2 he2) two1024_lt) ?_
    exact Nat.le_trans (Nat.le_mul_of_pos_right _ (mkSD_den_pos _ _ _)) g2
  -- at least `lo ≥ 2^-1076`
  have hlow : -e10 ≤ 800 + ((natDigits d).length : Int) := by
    refine exp10_ge d e10 (sdOf abs).den (Nat.lt_of_le_of_lt (mkSD_den_le _ _ _ he1) pow1076_lt) _
      (lt_pow_natDigits d) ?_
    exact Nat.le_trans (Nat.le_mul_of_pos_left _ hlo) g1
  rw [parseDecimal_eq d e10 hd h400 hlow]
  exact roundRat_bits abs h0 hfin _ _ (Nat.pos_iff_ne_zero.1 (Nat.pow_pos (by decide))) g1 g1' g2 g2'

end Refmt.FloatL
