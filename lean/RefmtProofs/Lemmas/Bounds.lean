/-
  C06 support, CBOR decoder.  What a terminal decoder may consume and allocate (`ReadOK`), the invariant of the
  chunk loop's growing buffer (`Buf`, `ChunksOK`), one call of `acceptValue` and one step of the machine (`OutOK`,
  `StepOK`); from these, for every reader state: `run` does not depend on its fuel beyond
  `2·|undelivered bytes| + |left|` (`run_fuel`), how many steps it takes and how much it allocates (`run_steps`,
  `run_alloc`).  The last section, in namespace `PumpL`, describes readers without fault and push-back (`CL`, `AVok`);
  no theorem uses it.
-/
import RefmtModel
import RefmtProofs.Lemmas.CborReads
import RefmtProofs.Lemmas.ProgExec
namespace Refmt.C06
open Refmt

namespace Cbor
open Refmt.CborDec
open Refmt.CborEnc (majUint majNeg majBytes majStr majArr majMap majTag sigFalse sigTrue sigNil sigUndef sigF16 sigF32 sigF64 sigIndefBytes sigIndefStr sigIndefArr sigIndefMap sigBreak)

/-- Relative to the reader `rd` it was given, a terminal decoder's allocation is paid for by the bytes it consumed
    (`8` per byte, plus `8`) unless it fails, in which case twice the cap is added. -/
structure ReadOK {α : Type} (rd : Rd) (r : R α) : Prop where
  len : r.rd.data.length ≤ rd.data.length
  okAlloc : ∀ v, r.res = .ok v → r.alloc + 8 * r.rd.data.length ≤ 8 * rd.data.length + 8
  alloc : r.alloc + 8 * r.rd.data.length ≤ 8 * rd.data.length + 2 * cap32M + 72

theorem ReadOK.fixed {α : Type} {rd : Rd} {r : R α} (h : r.rd.data.length ≤ rd.data.length ∧ r.alloc = 0) :
    ReadOK rd r :=
  ⟨h.1, by intro v _; omega, by omega⟩

theorem ReadOK.err {α : Type} {rd rd' : Rd} {alloc : Nat} (e : Err) (hl : rd'.data.length ≤ rd.data.length)
    (ha : alloc ≤ 2 * cap32M + 72) : ReadOK rd (⟨.error e, rd', alloc⟩ : R α) :=
  ⟨hl, by intro v h; simp at h, by dsimp only; omega⟩

theorem ReadOK.ok {α : Type} {rd rd' : Rd} {alloc : Nat} (v : α) (n : Nat) (hl : rd'.data.length + n ≤ rd.data.length)
    (ha : alloc ≤ 8 * n + 8) : ReadOK rd ⟨.ok v, rd', alloc⟩ :=
  ⟨by dsimp only; omega, by intro _ _; dsimp only; omega, by dsimp only; omega⟩

theorem lenRead_ok (rd : Rd) (m : Nat) (aOk aErr : Nat → Nat) (hok : ∀ n, aOk n ≤ 8 * n + 8)
    (herr : ∀ n, n ≤ cap32M → aErr n ≤ 2 * cap32M + 72) : ReadOK rd (lenRead rd m aOk aErr) := by
  have hl := (decLen_len rd m).1
  unfold lenRead
  generalize decLen rd m = l at hl
  rcases l with ⟨e | n, rd1, al⟩ <;> dsimp only at hl ⊢
  · exact .err e hl (Nat.zero_le _)
  by_cases hn : n > cap32M
  · rw [if_pos hn]; exact .err _ hl (Nat.zero_le _)
  rw [if_neg hn]
  rcases h : rd1.readN n with ⟨e | bs, rd'⟩
  · exact .err e (Nat.le_trans (readN_err_len h) hl) (herr n (Nat.le_of_not_lt hn))
  · exact .ok bs n (by have := (readN_ok_len h).1; omega) (hok n)

theorem decBytes_ok (rd : Rd) (m : Nat) : ReadOK rd (decBytes rd m) :=
  decBytes_eq rd m ▸ lenRead_ok rd m _ _ (fun n => by omega) (fun n hn => by omega)

theorem decString_ok (rd : Rd) (m : Nat) : ReadOK rd (decString rd m) :=
  decString_eq rd m ▸ lenRead_ok rd m _ _ (fun n => by split <;> omega)
    (fun n hn => by split <;> omega)

/-- The same for the chunk loop started with at most `k` bytes collected so far; the collected bytes are paid for
    as well. -/
structure ChunksOK (rd : Rd) (k : Nat) (r : R Bytes) : Prop where
  len : r.rd.data.length ≤ rd.data.length
  okAlloc : ∀ bs, r.res = .ok bs → r.alloc + bs.length + 8 * r.rd.data.length ≤ 8 * (rd.data.length + k) + 8
  alloc : r.alloc + 8 * r.rd.data.length ≤ 8 * (rd.data.length + k) + 2 * cap32M + 64

theorem ChunksOK.err {rd rd' : Rd} {k alloc : Nat} (e : Err) (hl : rd'.data.length ≤ rd.data.length)
    (ha : alloc ≤ 8 * k + 2 * cap32M + 64) : ChunksOK rd k ⟨.error e, rd', alloc⟩ :=
  ⟨hl, by intro bs h; simp at h, by dsimp only; omega⟩

theorem ChunksOK.mono {rd rd' : Rd} {k k' : Nat} {r : R Bytes} (h : ChunksOK rd' k' r)
    (hl : rd'.data.length ≤ rd.data.length) (hk : rd'.data.length + k' ≤ rd.data.length + k) :
    ChunksOK rd k r :=
  ⟨Nat.le_trans h.len hl, by intro bs hb; have := h.okAlloc bs hb; omega, by have := h.alloc; omega⟩

/-- The buffer of the chunk loop: capacity `cap`, total allocation `alloc`, holding `l` bytes.  It had capacity
    `c1` and total allocation `a1` when, holding `l1` bytes, a chunk of `n1` bytes made it grow; `c1 ≤ l1 + n1 + 8`
    because it only grows when the chunk does not fit, the `8` making room for the initial buffer (`Buf.init`: as if
    a buffer of capacity 8 had grown by an empty chunk).  The constants leave little room: with chunks that each
    just overflow the buffer, allocation approaches `4.24` times the length. -/
def Buf (cap alloc l : Nat) : Prop :=
  ∃ c1 n1 l1 a1, a1 + 16 ≤ 2 * c1 ∧ a1 ≤ c1 + 2 * l1 ∧ cap = 2 * c1 + n1 ∧ alloc = a1 + cap ∧ l1 + n1 ≤ l ∧
    c1 ≤ l1 + n1 + 8 ∧ n1 ≤ cap32M

theorem Buf.init : Buf 16 16 0 := ⟨8, 0, 0, 0, by decide⟩

theorem Buf.keep {cap alloc l : Nat} (h : Buf cap alloc l) (n : Nat) : Buf cap alloc (l + n) := by
  obtain ⟨c1, n1, l1, a1, h1, h2, h3, h4, h5, h6⟩ := h
  exact ⟨c1, n1, l1, a1, h1, h2, h3, h4, Nat.le_trans h5 (Nat.le_add_right _ _), h6⟩

theorem Buf.grow {cap alloc l n : Nat} (h : Buf cap alloc l) (hg : l + n > cap) (hn : n ≤ cap32M) :
    Buf (2 * cap + n) (alloc + 2 * cap + n) (l + n) := by
  obtain ⟨c1, n1, l1, a1, h⟩ := h
  exact ⟨cap, n, l, alloc, by omega, by omega, rfl, Nat.add_assoc _ _ _, Nat.le_refl _, by omega, hn⟩

theorem Buf.ok {cap alloc l k : Nat} (h : Buf cap alloc l) (hk : l ≤ k) : alloc + l ≤ 8 * k + 16 := by
  obtain ⟨c1, n1, l1, a1, h⟩ := h
  omega

theorem Buf.fail {cap alloc l k : Nat} (h : Buf cap alloc l) (hk : l ≤ k) : alloc ≤ 8 * k + 2 * cap32M + 64 := by
  obtain ⟨c1, n1, l1, a1, h⟩ := h
  omega

theorem Buf.grow_fail {cap alloc l k n : Nat} (h : Buf cap alloc l) (hk : l ≤ k) (hg : l + n > cap) (hn : n ≤ cap32M) :
    alloc + 2 * cap + n ≤ 8 * k + 2 * cap32M + 64 := by
  obtain ⟨c1, n1, l1, a1, h⟩ := h
  omega

theorem chunks (major : Nat) : ∀ (fuel : Nat) (rd : Rd) (acc : Bytes) (cap alloc k : Nat),
    Buf cap alloc acc.length → acc.length ≤ k → ChunksOK rd k (decChunks fuel rd major acc cap alloc)
  | 0, rd, acc, cap, alloc, k, hb, hk => ChunksOK.err _ (Nat.le_refl _) (hb.fail hk)
  | fuel+1, rd, acc, cap, alloc, k, hb, hk => by
    have ha := hb.fail hk
    rw [decChunks]
    rcases hrd : rd.read1 with ⟨e | ⟨mb, rd1⟩, rd'⟩
    · exact ChunksOK.err _ (read1_err_len hrd) ha
    have hrd1 := read1_ok_len hrd
    have hle1 : rd1.data.length ≤ rd.data.length := Nat.le.intro hrd1
    refine ite_ind ⟨hle1, by intro bs h; cases h; have := hb.ok hk; dsimp only; omega, by dsimp only; omega⟩ <|
      ite_ind (ChunksOK.err _ hle1 ha) ?_
    have hl := (decLen_len rd1 mb).1
    generalize decLen rd1 mb = u at hl
    have hle2 := Nat.le_trans hl hle1
    rcases u with ⟨e | n, rd2, al⟩
    · exact ChunksOK.err _ hle2 ha
    dsimp only at hl hle2 ⊢
    by_cases hn : n > cap32M
    · rw [if_pos hn]; exact ChunksOK.err _ hle2 ha
    rw [if_neg hn]
    by_cases hg : acc.length + n > cap
    · rw [if_pos hg]
      rcases hrd' : rd2.readN n with ⟨e | bs, rd'⟩
      · exact ChunksOK.err _ (Nat.le_trans (readN_err_len hrd') hle2) (hb.grow_fail hk hg (Nat.le_of_not_lt hn))
      · have hrd2 := readN_ok_len hrd'
        exact (chunks major fuel rd' (acc ++ bs) _ _ (k + n)
          (by rw [List.length_append, hrd2.2]; exact hb.grow hg (Nat.le_of_not_lt hn))
          (by rw [List.length_append, hrd2.2]; omega)).mono (by omega) (by omega)
    · rw [if_neg hg]
      rcases hrd' : rd2.readN n with ⟨e | bs, rd'⟩
      · exact ChunksOK.err _ (Nat.le_trans (readN_err_len hrd') hle2) ha
      · have hrd2 := readN_ok_len hrd'
        exact (chunks major fuel rd' (acc ++ bs) cap alloc (k + n)
          (by rw [List.length_append, hrd2.2]; exact hb.keep n)
          (by rw [List.length_append, hrd2.2]; omega)).mono (by omega) (by omega)

theorem chunks_init (major fuel : Nat) (rd : Rd) : ChunksOK rd 0 (decChunks fuel rd major [] 16 16) :=
  chunks major fuel rd [] 16 16 0 Buf.init (Nat.le_refl _)

theorem ChunksOK.read {rd : Rd} {r : R Bytes} (h : ChunksOK rd 0 r) : ReadOK rd r :=
  ⟨h.len, by intro v hv; have := h.okAlloc v hv; omega, by have := h.alloc; omega⟩

theorem ChunksOK.readStr {rd : Rd} {r : R Bytes} (h : ChunksOK rd 0 r) :
    ReadOK rd { r with alloc := r.alloc + (match r.res with | .ok bs => bs.length | _ => 0) } := by
  refine ⟨h.len, ?_, ?_⟩
  · intro v hv
    rw [hv]
    have := h.okAlloc v hv
    omega
  · dsimp only
    split
    · rename_i bs hv
      have := h.okAlloc bs hv
      omega
    · have := h.alloc; omega

structure OutOK (s : St) (rd : Rd) (o : Out) : Prop where
  len : o.rd.data.length ≤ rd.data.length
  left : o.st.left.length ≤ s.left.length + 1
  okAlloc : ∀ t d, o.ret = .tok t d → o.alloc + 8 * o.rd.data.length ≤ 8 * rd.data.length + 8
  alloc : o.alloc + 8 * o.rd.data.length ≤ 8 * rd.data.length + 2 * cap32M + 72

theorem scalarOut_ok {α : Type} (s : St) {rd : Rd} {r : R α} (mk : α → Body) (tag : Option Int) (h : ReadOK rd r) :
    OutOK s rd (scalarOut s r mk tag) := by
  unfold scalarOut
  split
  · rename_i v hv
    exact ⟨h.len, by dsimp only; omega, fun t d _ => h.okAlloc v hv, h.alloc⟩
  · exact ⟨h.len, by dsimp only; omega, by intro t d h; simp at h, h.alloc⟩

theorem plain_ok {s s' : St} {rd rd' : Rd} {ret : CborDec.Ret}
    (h : s'.left.length ≤ s.left.length + 1) (hl : rd'.data.length ≤ rd.data.length) :
    OutOK s rd ⟨s', rd', ret, 0⟩ :=
  ⟨hl, h, by intro t d _; dsimp only; omega, by dsimp only; omega⟩

theorem OutOK.weaken {s : St} {rd rd1 : Rd} {o : Out} (h : OutOK s rd1 o)
    (hl : rd1.data.length + 1 ≤ rd.data.length) : OutOK s rd o :=
  ⟨by have := h.len; omega, h.left, by intro t d ht; have := h.okAlloc t d ht; omega, by have := h.alloc; omega⟩

theorem open_ok (s : St) (rd : Rd) (major : Nat) (ph : Phase) (f : Nat → CborDec.Ret) :
    OutOK s rd
      (match (decLen rd major).res with
       | .ok n => ⟨push { s with left := n :: s.left } ph, (decLen rd major).rd, f n, 0⟩
       | .error e => ⟨s, (decLen rd major).rd, .err e, 0⟩) := by
  have h := (decLen_len rd major).1
  split
  · exact plain_ok (by simp [push]) h
  · exact plain_ok (Nat.le_succ _) h

theorem acceptValue_ok (coerce : Bool) : ∀ (fuel : Nat) (s : St) (rd : Rd) (major : Nat) (tag : Option Int),
    OutOK s rd (acceptValue coerce s rd major tag fuel) := by
  intro fuel s rd major tag
  have plain : ∀ ret, OutOK s rd ⟨s, rd, ret, 0⟩ := fun _ => plain_ok (Nat.le_succ _) (Nat.le_refl _)
  have pushed : ∀ ph ret, OutOK s rd ⟨push s ph, rd, ret, 0⟩ := fun _ _ => plain_ok (by simp [push]) (Nat.le_refl _)
  have scalar : ∀ {α : Type} {r : R α} (mk : α → Body), ReadOK rd r → OutOK s rd (scalarOut s r mk tag) :=
    fun mk h => scalarOut_ok s mk tag h
  have hc := fun mw => chunks_init mw (rd.data.length + 1) rd
  unfold acceptValue
  -- one step per branch of `acceptValue`, in its order: null, undefined (coerced or not), false, true, float,
  -- indefinite bytes, indefinite string, indefinite array, indefinite map, uint, negative int, bytes, string,
  -- array, map, tag, anything else
  refine ite_ind (plain _) <| ite_ind (ite_ind (plain _) (plain _)) <| ite_ind (plain _) <| ite_ind (plain _) <|
    ite_ind (scalar _ (.fixed (decFloat_len rd major))) <| ite_ind (scalar _ (hc _).read) <|
    ite_ind (scalar _ (hc _).readStr) <| ite_ind (pushed _ _) <| ite_ind (pushed _ _) <|
    ite_ind (scalar _ (.fixed (decUint_len rd major))) <| ite_ind (scalar _ (.fixed (decNegInt_len rd major))) <|
    ite_ind (scalar _ (decBytes_ok rd major)) <| ite_ind (scalar _ (decString_ok rd major)) <|
    ite_ind (open_ok s rd major _ _) <| ite_ind (open_ok s rd major _ _) <| ite_ind ?tagged (plain _)
  case tagged =>
    split
    · exact plain _
    · have h := (decLen_len rd major).1
      generalize decLen rd major = l at h
      rcases l with ⟨e | t, rd1, al⟩ <;> dsimp only at h ⊢
      · exact plain_ok (Nat.le_succ _) h
      rcases h1 : rd1.read1 with ⟨e | ⟨mb, rd2⟩, rd'⟩
      · exact plain_ok (Nat.le_succ _) (Nat.le_trans (read1_err_len h1) h)
      · have := read1_ok_len h1
        cases fuel with
        | zero => exact plain_ok (Nat.le_succ _) (by omega)
        | succ f => exact OutOK.weaken (acceptValue_ok coerce f _ _ _ _) (by omega)
termination_by fuel => fuel

/-- One step of the machine.  `dec`: the weight is 2 because opening a definite container consumes at least one
    byte and pushes one entry onto `left`, while closing one pops an entry and consumes nothing.  The allocation
    bounds are those of `OutOK` less `8`: the major byte the step has consumed before `acceptValue` runs. -/
structure StepOK (s : St) (rd : Rd) (o : Out) : Prop where
  dec : ∀ t d, o.ret = .tok t d → 2 * o.rd.data.length + o.st.left.length + 1 ≤ 2 * rd.data.length + s.left.length
  okAlloc : ∀ t d, o.ret = .tok t d → o.alloc + 8 * o.rd.data.length ≤ 8 * rd.data.length
  alloc : o.alloc + 8 * o.rd.data.length ≤ 8 * rd.data.length + 2 * cap32M + 64

theorem inContainer_tok (o : Out) (t : Tok) (d : Bool) (h : (inContainer o).ret = .tok t d) :
    ∃ d', o.ret = .tok t d' := by
  unfold inContainer at h
  split at h
  · rename_i t' d' ht
    simp only [Ret.tok.injEq] at h
    exact ⟨d', by rw [ht, h.1]⟩
  · rename_i e he
    rw [he] at h; simp at h

theorem av_step (coerce : Bool) (s s' : St) (rd rd1 : Rd) (mb : Nat) (hs : s'.left.length ≤ s.left.length)
    (h1 : rd1.data.length + 1 = rd.data.length) :
    StepOK s rd (acceptValue coerce s' rd1 mb none 1) ∧ StepOK s rd (inContainer (acceptValue coerce s' rd1 mb none 1)) := by
  have h := acceptValue_ok coerce 1 s' rd1 mb none
  have h0 : StepOK s rd (acceptValue coerce s' rd1 mb none 1) :=
    ⟨by intro t d _; have := h.len; have := h.left; omega,
     by intro t d ht; have := h.okAlloc t d ht; omega, by have := h.alloc; omega⟩
  refine ⟨h0, ?_⟩
  obtain ⟨e1, e2, e3⟩ := inContainer_st (acceptValue coerce s' rd1 mb none 1)
  refine ⟨?_, ?_, by rw [e2, e3]; exact h0.alloc⟩
  · intro t d ht
    obtain ⟨d', hd'⟩ := inContainer_tok _ _ _ ht
    rw [e1, e2]; exact h0.dec t d' hd'
  · intro t d ht
    obtain ⟨d', hd'⟩ := inContainer_tok _ _ _ ht
    rw [e2, e3]; exact h0.okAlloc t d' hd'

theorem err_step (s s' : St) (rd rd' : Rd) (e : Err) (h : rd'.data.length ≤ rd.data.length) :
    StepOK s rd ⟨s', rd', .err e, 0⟩ :=
  ⟨by intro t d ht; simp at ht, by intro t d ht; simp at ht, by dsimp only; omega⟩

theorem tok_step (s s' : St) (rd rd' : Rd) (t : Tok) (d : Bool)
    (h : 2 * rd'.data.length + s'.left.length + 1 ≤ 2 * rd.data.length + s.left.length)
    (h' : rd'.data.length ≤ rd.data.length) :
    StepOK s rd ⟨s', rd', .tok t d, 0⟩ :=
  ⟨by intro _ _ _; exact h, by intro _ _ _; dsimp only; omega, by dsimp only; omega⟩

theorem withMajor_ok (s s1 : St) (rd : Rd) (k : Nat → Rd → Out)
    (hk : ∀ mb rd1, rd1.data.length + 1 = rd.data.length → StepOK s rd (k mb rd1)) :
    StepOK s rd (withMajor s1 rd k) := by
  unfold withMajor
  rcases h : rd.read1 with ⟨e | ⟨mb, rd1⟩, rd'⟩
  · exact err_step _ _ _ _ _ (read1_err_len h)
  · exact hk mb rd1 (read1_ok_len h)

theorem subStep_ok (coerce : Bool) (s : St) (rd : Rd) : StepOK s rd (subStep coerce s rd) := by
  have av := fun (s' : St) (hs : s'.left.length ≤ s.left.length) (mb : Nat) (rd1 : Rd)
    (h : rd1.data.length + 1 = rd.data.length) => av_step coerce s s' rd rd1 mb hs h
  obtain ⟨stk, ph, lf⟩ := s
  cases ph <;> simp only [subStep]
  case acceptValue => exact withMajor_ok _ _ _ _ fun mb rd1 h => (av _ (Nat.le_refl _) mb rd1 h).1
  case mapDefVal => exact withMajor_ok _ _ _ _ fun mb rd1 h => (av _ (by exact Nat.le_refl _) mb rd1 h).2
  case arrIndef | mapIndefKey =>
    refine withMajor_ok _ _ _ _ fun mb rd1 h => ?_
    split
    · exact tok_step _ _ _ _ _ _ (by omega) (by omega)
    · exact (av _ (by exact Nat.le_refl _) mb rd1 h).2
  case mapIndefVal =>
    refine withMajor_ok _ _ _ _ fun mb rd1 h => ?_
    split
    · exact err_step _ _ _ _ _ (by omega)
    · exact (av _ (by exact Nat.le_refl _) mb rd1 h).2
  case arrDef | mapDefKey =>
    rcases lf with _ | ⟨_ | n, l⟩ <;> dsimp only
    · exact err_step _ _ _ _ _ (Nat.le_refl _)
    · exact tok_step _ _ _ _ _ _ (by simp only [List.length_cons]; omega) (Nat.le_refl _)
    · exact withMajor_ok _ _ _ _ fun mb rd1 h => (av _ (by simp) mb rd1 h).2

theorem step_ok (coerce : Bool) (s : St) (rd : Rd) : StepOK s rd (step coerce s rd) := by
  have h := subStep_ok coerce s rd
  unfold step
  dsimp only
  split
  · exact h
  · exact h
  · rename_i t ht
    split
    · exact h
    · exact h
    · refine ⟨?_, ?_, h.alloc⟩
      · intro t' d' _; exact h.dec t true ht
      · intro t' d' _; exact h.okAlloc t true ht

theorem run_steps (coerce : Bool) : ∀ (fuel : Nat) (s : St) (rd : Rd) (acc : List Tok) (steps alloc : Nat),
    (run coerce fuel s rd acc steps alloc).steps ≤ steps + fuel
  | 0, s, rd, acc, steps, alloc => by simp [run]
  | fuel+1, s, rd, acc, steps, alloc => by
    rw [run]
    split
    · dsimp only; omega
    · dsimp only; omega
    · rename_i t ht
      have := run_steps coerce fuel (step coerce s rd).st (step coerce s rd).rd (t :: acc) (steps + 1)
        (alloc + (step coerce s rd).alloc)
      omega

theorem run_alloc (coerce : Bool) : ∀ (fuel : Nat) (s : St) (rd : Rd) (acc : List Tok) (steps alloc : Nat),
    (run coerce fuel s rd acc steps alloc).alloc + 8 * (run coerce fuel s rd acc steps alloc).rd.data.length
      ≤ alloc + 8 * rd.data.length + 2 * cap32M + 64
  | 0, s, rd, acc, steps, alloc => by simp [run]; omega
  | fuel+1, s, rd, acc, steps, alloc => by
    have h := step_ok coerce s rd
    rw [run]
    split
    · have := h.alloc; dsimp only; omega
    · have := h.alloc; dsimp only; omega
    · rename_i t ht
      have h1 := h.okAlloc t false ht
      have := run_alloc coerce fuel (step coerce s rd).st (step coerce s rd).rd (t :: acc) (steps + 1)
        (alloc + (step coerce s rd).alloc)
      omega

theorem run_fuel (coerce : Bool) (f g : Nat) (s : St) (rd : Rd) (acc : List Tok) (steps alloc : Nat)
    (hf : 2 * rd.data.length + s.left.length < f) (hg : 2 * rd.data.length + s.left.length < g) :
    run coerce f s rd acc steps alloc = run coerce g s rd acc steps alloc := by
  refine C15Prog.fuel_irrelevant (fun (x : St × List Tok × Nat × Nat) rd => 2 * rd.data.length + x.1.left.length)
    (fun f x rd => run coerce f x.1 rd x.2.1 x.2.2.1 x.2.2.2) ?_ f g (s, acc, steps, alloc) rd hf hg
  intro f g x rd hrec
  rw [run, run]
  split
  · rfl
  · rfl
  · rename_i t ht
    exact hrec (_, _, _, _) _ (Nat.lt_of_succ_le ((step_ok coerce x.1 rd).dec t false ht))

end Cbor

end Refmt.C06

namespace Refmt.PumpL
open Refmt

section
open Refmt.CborDec

def CL (n : Nat) (rd' : Rd) : Prop := rd'.fault = none ∧ rd'.pb = 0 ∧ rd'.data.length ≤ n

theorem CL.mk' (bs : Bytes) (n : Nat) (h : bs.length ≤ n) : CL n ⟨bs, none, 0⟩ := ⟨rfl, rfl, h⟩

theorem readN_CL_pos (bs : Bytes) (n : Nat) (hn : 0 < n) : CL (bs.length - 1) (Rd.readN ⟨bs, none, 0⟩ n).2 := by
  by_cases h : n ≤ bs.length
  · rw [Rd.readN_ok bs n h]; exact CL.mk' _ _ (by simp; omega)
  · obtain ⟨e, he⟩ := Rd.readN_err bs n (by omega)
    rw [he]; exact CL.mk' _ _ (by simp)

def AVok (n : Nat) (s : St) (o : Out) : Prop := CL n o.rd ∧ o.st.stack.length ≤ s.stack.length + 1

theorem AVok.scalar {α : Type} {n : Nat} {s : St} {r : R α} {mk : α → Body} {tag : Option Int} (h : CL n r.rd) :
    AVok n s (scalarOut s r mk tag) := by
  refine ⟨by rw [scalarOut_rd]; exact h, by rw [scalarOut_st]; exact Nat.le_succ _⟩

end

end Refmt.PumpL
