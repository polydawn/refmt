/-
  The reference parser reads back what the reference encoder writes: `arg` the argument of a shortest-form head
  (`head_arg`), `headOf` the head (`headOf_head`), with whatever follows left over; `HeadReads` says so for the heads
  with a count or a tag, for a definite string with its payload, and for a whole scalar (`headOf_encBody`).
-/
import RefmtProofs.Lemmas.Heads
import RefmtProofs.Lemmas.CborParse
namespace Refmt.C04
open Refmt Refmt.Spec.Cbor
open Refmt.C02L (beBytes_length beVal_beBytes head_cases canonBody)

theorem arg_be (ai k n : Nat) (hk : (ai, k) ∈ [(25, 2), (26, 4), (27, 8)]) (hn : n < 256 ^ k) (r : Bytes) :
    arg ai (beBytes k n ++ r) = some (n, r) := by
  have hl := beBytes_length k n
  rw [arg_be_eq hk, if_pos (by rw [List.length_append]; omega), List.take_left' hl, List.drop_left' hl, beVal_beBytes,
    Nat.mod_eq_of_lt hn]

theorem head_arg (m n : Nat) (hn : n < two64) :
    ∃ ai tl, ai < 28 ∧ head m n = (m + ai) :: tl ∧ ∀ r, arg ai (tl ++ r) = some (n, r) := by
  unfold two64 at hn
  rcases head_cases m n with ⟨h, e⟩ | ⟨_, h, e⟩ | ⟨_, h, e⟩ | ⟨_, h, e⟩ | ⟨_, e⟩
  · exact ⟨n, [], by omega, e, fun r => (IsArg.imm n r h).arg_eq⟩
  · exact ⟨24, [n], by omega, e, fun r => rfl⟩
  · exact ⟨25, _, by omega, e, arg_be 25 2 n (by simp) (by omega)⟩
  · exact ⟨26, _, by omega, e, arg_be 26 4 n (by simp) (by omega)⟩
  · exact ⟨27, _, by omega, e, arg_be 27 8 n (by simp) (by omega)⟩

theorem headOf_head (m n : Nat) (hm : m % 32 = 0) (hm7 : m < 0xe0) (hn : n < two64) :
    ∃ b tl, head m n = b :: tl ∧ m ≤ b ∧ b < m + 28 ∧
      ∀ coerce r, headOf coerce (b :: (tl ++ r)) = definiteOf (m / 32) n r := by
  obtain ⟨ai, tl, hai, e, ha⟩ := head_arg m n hn
  refine ⟨m + ai, tl, e, by omega, by omega, fun coerce r => ?_⟩
  have ha' : arg ((m + ai) % 32) (tl ++ r) = some (n, r) := by rw [show (m + ai) % 32 = ai by omega]; exact ha r
  rw [headOf_definite coerce (by omega) ha', show (m + ai) / 32 = m / 32 by omega]

/-- `E` heads an input from which the parser's `headOf` reads `h r` and leaves `r`, whatever `r` is. -/
def HeadReads (E : Bytes) (h : Bytes → Head) : Prop :=
  ∃ b tl, E = b :: tl ∧ b < 256 ∧ b ≠ 0xff ∧ ∀ coerce r, headOf coerce (b :: (tl ++ r)) = some (h r)

theorem HeadReads.of_head {m n : Nat} {h : Bytes → Head} (hm : m % 32 = 0) (hm7 : m < 0xe0)
    (hn : n < two64) (hd : ∀ r, definiteOf (m / 32) n r = some (h r)) : HeadReads (head m n) h := by
  obtain ⟨b, tl, e, h1, h2, hh⟩ := headOf_head m n hm hm7 hn
  exact ⟨b, tl, e, by omega, by omega, fun coerce r => (hh coerce r).trans (hd r)⟩

theorem HeadReads.counted {m n : Nat} (mk : Nat → Bytes → Head) (hm : m % 32 = 0) (hm7 : m < 0xe0)
    (hn : n ≤ Spec.Cbor.maxInt)
    (hd : ∀ r, definiteOf (m / 32) n r = if n > Spec.Cbor.maxInt then none else some (mk n r)) :
    HeadReads (head m n) (mk n) :=
  .of_head hm hm7 (by unfold Spec.Cbor.maxInt at hn; unfold two64; omega) fun r =>
    (hd r).trans (if_neg (Nat.not_lt.2 hn))

theorem HeadReads.tag {g : Int} (h0 : 0 ≤ g) (h1 : g < (two63 : Int)) :
    HeadReads (tagBytes (some g)) (Head.tag g.toNat) := by
  unfold two63 at h1
  rw [tagBytes, C02L.toU64_of_nonneg g h0 (by unfold two64; omega)]
  exact .counted Head.tag (by decide) (by decide) (by unfold Spec.Cbor.maxInt; omega) fun r => rfl

theorem HeadReads.str {m : Nat} (x : Bytes) (mk : Bytes → Body) (hm : m % 32 = 0) (hm7 : m < 0xe0)
    (hx : x.length ≤ Spec.Cbor.cap32M)
    (hd : ∀ r', definiteOf (m / 32) x.length r' =
      if x.length > Spec.Cbor.maxInt || x.length > Spec.Cbor.cap32M || r'.length < x.length then none
      else some (.scalar (mk (r'.take x.length)) (r'.drop x.length))) :
    HeadReads (head m x.length ++ x) fun r => .scalar (mk x) r := by
  have hc : x.length ≤ Spec.Cbor.maxInt := by unfold Spec.Cbor.cap32M at hx; unfold Spec.Cbor.maxInt; omega
  obtain ⟨b, tl, e, h1, h2, hh⟩ := headOf_head m x.length hm hm7 (by unfold Spec.Cbor.maxInt at hc; unfold two64; omega)
  refine ⟨b, tl ++ x, by rw [e]; rfl, by omega, by omega, fun coerce r => ?_⟩
  rw [List.append_assoc, hh, hd, if_neg (capped_false.2 ⟨hc, hx, by rw [List.length_append]; omega⟩),
    List.take_left' rfl, List.drop_left' rfl]

theorem headOf_encBody (b : Body) (hb : C02L.bodyInRange b = true)
    (hcap : ∀ x, b = .str x ∨ b = .bytes x → x.length ≤ 33554432) :
    HeadReads (encBody b) fun r => .scalar (canonBody b) r := by
  cases b with
  | null => exact ⟨0xf6, [], rfl, by omega, by omega, fun _ r => rfl⟩
  | bool x => cases x
              · exact ⟨0xf4, [], rfl, by omega, by omega, fun _ r => rfl⟩
              · exact ⟨0xf5, [], rfl, by omega, by omega, fun _ r => rfl⟩
  | uint n => exact .of_head (by decide) (by decide) (by simpa [C02L.bodyInRange] using hb) fun r => rfl
  | int i =>
    obtain ⟨i0, i1⟩ : - (two63 : Int) ≤ i ∧ i < (two63 : Int) := by simpa [C02L.bodyInRange] using hb
    unfold two63 at i0 i1
    by_cases h : i ≥ 0
    · simp only [encBody, canonBody, h, if_true]
      exact .of_head (by decide) (by decide) (by unfold two64; omega) fun r => rfl
    · simp only [encBody, canonBody, h, if_false]
      refine .of_head (by decide) (by decide) (by unfold two64; omega) fun r => ?_
      show (if (-1 - i).toNat < two63 then _ else _) = _
      rw [if_pos (by unfold two63; omega), show (-1 - (((-1 - i).toNat : Nat) : Int)) = i by omega]
  | float x =>
    have hl := beBytes_length 8 x
    have hx : x < two64 := by simpa [C02L.bodyInRange] using hb
    refine ⟨0xfb, beBytes 8 x, rfl, by omega, by omega, fun coerce r => ?_⟩
    have := (IsHead.f64 (coerce := coerce) (beBytes 8 x ++ r) (by rw [List.length_append]; omega)).headOf_eq
    rwa [List.take_left' hl, List.drop_left' hl, beVal_beBytes,
      Nat.mod_eq_of_lt (by unfold two64 at hx; omega)] at this
  | str x => exact .str x Body.str (by decide) (by decide) (hcap x (.inl rfl)) fun r' => rfl
  | bytes x => exact .str x Body.bytes (by decide) (by decide) (hcap x (.inr rfl)) fun r' => rfl
  | mapOpen _ | mapClose | arrOpen _ | arrClose => cases hb

end Refmt.C04
