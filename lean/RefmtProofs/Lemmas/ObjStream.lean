/-
  Sequencing of unmarshaller results: `URes.bind'` continues on `ok` and passes every other answer on, shifted by the
  number of tokens already consumed.  On `ok` the continuation receives the count as it is, not shifted, and adds the
  tokens consumed before itself.  The step equations of `unmV .. unmStruct` (Lemmas/ObjUnmEq) are written with it.
-/
import RefmtModel
namespace Refmt.Obj
open Refmt

def URes.bind' (x : URes) (K : Val → List Tok → Nat → URes) (s : Nat) : URes :=
  match x with
  | .ok v r u => K v r u
  | y => y.shift s

@[simp] theorem URes.shift_zero (x : URes) : x.shift 0 = x := by cases x <;> rfl
@[simp] theorem URes.shift_shift (x : URes) (a b : Nat) : (x.shift a).shift b = x.shift (a + b) := by
  cases x <;> simp [URes.shift, Nat.add_assoc]
@[simp] theorem URes.shift_ok (v r u k) : (URes.ok v r u).shift k = .ok v r (u + k) := rfl
@[simp] theorem URes.shift_more (u k) : (URes.more u).shift k = .more (u + k) := rfl
@[simp] theorem URes.shift_err (u k) : (URes.err u).shift k = .err (u + k) := rfl
@[simp] theorem URes.shift_panic (u k) : (URes.panic u).shift k = .panic (u + k) := rfl
@[simp] theorem URes.bind'_ok (v r u K s) : (URes.ok v r u).bind' K s = K v r u := rfl
@[simp] theorem URes.bind'_more (u K s) : (URes.more u).bind' K s = .more (u + s) := rfl
@[simp] theorem URes.bind'_err (u K s) : (URes.err u).bind' K s = .err (u + s) := rfl
@[simp] theorem URes.bind'_panic (u K s) : (URes.panic u).bind' K s = .panic (u + s) := rfl

/-- the model's bodies write `bind' K 0` as this match -/
theorem bind'_zero_eq (x : URes) (K) : x.bind' K 0 = (match x with | .ok v r u => K v r u | y => y) := by
  cases x <;> simp [URes.bind']

theorem ite_err_ok {c : Prop} [Decidable c] {k : Nat} {y : URes} {v : Val} {r : List Tok} {u : Nat}
    (h : (if c then URes.err k else y) = .ok v r u) : ¬ c ∧ y = .ok v r u := by
  split at h
  · cases h
  · exact ⟨‹_›, h⟩

theorem shift_ok_inv {x : URes} {k : Nat} {v : Val} {r : List Tok} {u : Nat} (h : x.shift k = .ok v r u) :
    ∃ u', x = .ok v r u' ∧ u = u' + k := by
  cases x <;> simp [URes.shift] at h
  exact ⟨_, by rw [h.1, h.2.1], h.2.2.symm⟩

theorem bind'_ok_inv {x : URes} {K : Val → List Tok → Nat → URes} {s : Nat} {v : Val} {r : List Tok} {u : Nat}
    (h : x.bind' K s = .ok v r u) : ∃ v1 r1 u1, x = .ok v1 r1 u1 ∧ K v1 r1 u1 = .ok v r u := by
  cases x with
  | ok v1 r1 u1 => exact ⟨v1, r1, u1, rfl, h⟩
  | _ => cases h

theorem bind'_bind' (x : URes) (K M : Val → List Tok → Nat → URes) (s s' : Nat) :
    (x.bind' K s).bind' M s' = x.bind' (fun v r u => (K v r u).bind' M s') (s + s') := by
  cases x <;> simp [URes.bind', Nat.add_assoc]

theorem shift_map (x : URes) (f : Val → Val) (k : Nat) :
    (x.shift k).bind' (fun v r u => .ok (f v) r u) 0 = (x.bind' (fun v r u => .ok (f v) r u) 0).shift k := by
  cases x <;> rfl

theorem bind'_one {K K' : Val → List Tok → Nat → URes} (h : ∀ v r u, K' v r u = (K v r u).shift 1) (x : URes) :
    x.bind' K' 1 = (x.bind' K 0).shift 1 := by
  cases x <;> simp [URes.bind', h]

def _root_.Refmt.Obj.URes.bind (r : URes) (k : Val → List Tok → Nat → URes) : URes :=
  match r with
  | .ok v r u => k v r u
  | x => x

@[simp] theorem _root_.Refmt.Obj.URes.bind_ok (v : Val) (r : List Tok) (u : Nat) (k : Val → List Tok → Nat → URes) :
    (URes.ok v r u).bind k = k v r u := rfl
@[simp] theorem _root_.Refmt.Obj.URes.bind_more (u : Nat) (k : Val → List Tok → Nat → URes) : (URes.more u).bind k = .more u := rfl
@[simp] theorem _root_.Refmt.Obj.URes.bind_err (u : Nat) (k : Val → List Tok → Nat → URes) : (URes.err u).bind k = .err u := rfl
@[simp] theorem _root_.Refmt.Obj.URes.bind_panic (u : Nat) (k : Val → List Tok → Nat → URes) : (URes.panic u).bind k = .panic u := rfl

theorem URes.bind_eq_bind' (r : URes) (k : Val → List Tok → Nat → URes) : r.bind k = r.bind' k 0 := by
  cases r <;> rfl

end Refmt.Obj
