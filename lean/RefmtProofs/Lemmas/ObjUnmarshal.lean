/-
  What a successful run of the object unmarshaller says of the tokens it consumed (Props/C13).  Their shape
  (`Reads.shape`): one token tree, or in a list walk trees / pairs of a key token and a tree up to the close token,
  modulo tags on close tokens (`nc`).  No early completion (`Reads.prefix_more`): on every proper prefix of them the
  unmarshaller asks for more.  `Starves g c` says this of an arbitrary consumer `g`; it is preserved by the ways in which
  the step equations put sub-runs together (after the head token, under `bind'`/`shift`, one run after another), so each
  rule of `Reads` is its step equation followed by the combinator for its shape.
-/
import RefmtProofs.Lemmas.ObjRun
namespace Refmt.Obj
open Refmt
variable (ts : Types) (a : Atlas) (trs : Trs) (it : IfaceTys)

/-- close tokens carry no tag in `TV.flatten`; the unmarshaller ignores tags on close tokens -/
def nc (t : Tok) : Tok :=
  match t.body with
  | .arrClose => ⟨.arrClose, none⟩
  | .mapClose => ⟨.mapClose, none⟩
  | _ => t

def TreeS (c : List Tok) : Prop := ∃ tv : TV, c.map nc = tv.flatten
def ElemsS (c : List Tok) : Prop := ∃ items : List TV, c.map nc = TV.flattenList items ++ [⟨.arrClose, none⟩]
def EntriesS (c : List Tok) : Prop := ∃ es : List (TV × TV), c.map nc = TV.flattenEntries es ++ [⟨.mapClose, none⟩]

theorem TreeS.single (t : Tok) : TreeS [t] := ⟨.scalar (nc t), by simp [TV.flatten]⟩

theorem TreeS.arr {t : Tok} {c : List Tok} {len : Int} (ht : t.body = .arrOpen len) (h : ElemsS c) : TreeS (t :: c) := by
  obtain ⟨items, hi⟩ := h
  obtain ⟨body, tag⟩ := t
  simp at ht; subst ht
  exact ⟨.arr tag len items, by simp [TV.flatten, hi, nc]⟩

theorem TreeS.map {t : Tok} {c : List Tok} {len : Int} (ht : t.body = .mapOpen len) (h : EntriesS c) : TreeS (t :: c) := by
  obtain ⟨es, hi⟩ := h
  obtain ⟨body, tag⟩ := t
  simp at ht; subst ht
  exact ⟨.map tag len es, by simp [TV.flatten, hi, nc]⟩

theorem ElemsS.close {t : Tok} (ht : t.body = .arrClose) : ElemsS [t] :=
  ⟨[], by simp [TV.flattenList, nc, ht]⟩

theorem ElemsS.cons {c1 c2 : List Tok} (h1 : TreeS c1) (h2 : ElemsS c2) : ElemsS (c1 ++ c2) := by
  obtain ⟨tv, h1⟩ := h1
  obtain ⟨items, h2⟩ := h2
  exact ⟨tv :: items, by simp [TV.flattenList, h1, h2]⟩

theorem EntriesS.close {t : Tok} (ht : t.body = .mapClose) : EntriesS [t] :=
  ⟨[], by simp [TV.flattenEntries, nc, ht]⟩

theorem EntriesS.cons (k : Tok) {c1 c2 : List Tok} (h1 : TreeS c1) (h2 : EntriesS c2) : EntriesS (k :: (c1 ++ c2)) := by
  obtain ⟨tv, h1⟩ := h1
  obtain ⟨es, h2⟩ := h2
  exact ⟨(.scalar (nc k), tv) :: es, by simp [TV.flattenEntries, TV.flatten, h1, h2]⟩

theorem TreeS.union {t k cl : Tok} {c : List Tok} {len : Int} (ht : t.body = .mapOpen len) (hc : cl.body = .mapClose)
    (h : TreeS c) : TreeS (t :: k :: (c ++ [cl])) := by
  refine TreeS.map ht ?_
  have := EntriesS.cons k h (EntriesS.close hc)
  simpa using this

variable {ts a trs it}

def Job.Shape : Job → List Tok → Prop
  | .elems .., c => ElemsS c
  | .entries .., c => EntriesS c
  | .struct .., c => EntriesS c
  | _, c => TreeS c

theorem Reads.shape {f j c v} (h : Reads ts a trs it f j c v) : j.Shape c := by
  induction h with
  | v_bare _ _ ih | v_ptr _ _ _ ih | wildcard _ ih | transform _ _ ih | wild_tag _ _ _ ih | wild_map _ _ _ _ ih
  | wild_arr _ _ _ _ ih => exact ih
  | v_null | prim | slice_null | array_null | map_null | struct_null | wild_scalar => exact TreeS.single _
  | slice hb _ ih | array hb _ ih => exact TreeS.arr hb ih
  | map _ hb _ ih | struct hb _ ih => exact TreeS.map hb ih
  | union hb _ _ _ _ _ _ _ hc ih => exact TreeS.union hb hc ih
  | elems_close hb => exact ElemsS.close hb
  | elems_cons _ _ _ _ _ ih1 ih2 => exact ElemsS.cons (c1 := _ :: _) ih1 ih2
  | entries_close hb | struct_close hb => exact EntriesS.close hb
  | entries_cons _ _ _ _ _ ih1 ih2 | struct_skip _ _ _ _ _ ih1 ih2 | struct_field _ _ _ _ _ _ _ ih1 ih2 =>
    exact EntriesS.cons _ ih1 ih2

def Starves (g : List Tok → URes) (c : List Tok) : Prop := ∀ k, k < c.length → ∃ u, g (c.take k) = .more u

theorem Starves.cons {g : List Tok → URes} {t : Tok} {c : List Tok} (h0 : ∃ u, g [] = .more u)
    (h : Starves (fun r => g (t :: r)) c) : Starves g (t :: c)
  | 0, _ => h0
  | k+1, hk => h k (Nat.lt_of_succ_lt_succ hk)

theorem Starves.single {g : List Tok → URes} {t : Tok} (h0 : ∃ u, g [] = .more u) : Starves g [t] :=
  .cons h0 (fun _ hk => absurd hk (Nat.not_lt_zero _))

theorem Starves.tail {g : List Tok → URes} {t : Tok} {c : List Tok} (h : Starves g (t :: c)) :
    Starves (fun r => g (t :: r)) c :=
  fun k hk => h (k+1) (Nat.succ_lt_succ hk)

theorem Starves.bind' {g : List Tok → URes} {c : List Tok} (h : Starves g c) (K : Val → List Tok → Nat → URes) (s : Nat) :
    Starves (fun r => (g r).bind' K s) c := fun k hk => by
  obtain ⟨u, hu⟩ := h k hk
  exact ⟨u + s, by simp only [hu, URes.bind'_more]⟩

theorem Starves.shift {g : List Tok → URes} {c : List Tok} (h : Starves g c) (s : Nat) :
    Starves (fun r => (g r).shift s) c := fun k hk => by
  obtain ⟨u, hu⟩ := h k hk
  exact ⟨u + s, by simp only [hu, URes.shift_more]⟩

theorem Starves.seq {g1 : List Tok → URes} {K : Val → List Tok → Nat → URes} {s u1 : Nat} {c1 c2 : List Tok} {v1 : Val}
    (h1 : Starves g1 c1) (hok : ∀ m, g1 (c1 ++ m) = .ok v1 m u1) (h2 : Starves (fun r => K v1 r u1) c2) :
    Starves (fun r => (g1 r).bind' K s) (c1 ++ c2) := by
  intro k hk
  by_cases hlt : k < c1.length
  · rw [List.take_append_of_le_length (by omega)]
    exact h1.bind' K s k hlt
  · obtain ⟨u, hu⟩ := h2 (k - c1.length) (by simp at hk; omega)
    refine ⟨u, ?_⟩
    rw [List.take_append, List.take_of_length_le (by omega)]
    simp only [hok, URes.bind'_ok]
    exact hu

theorem Starves.run_cons {f : Nat} {j : Job} {t : Tok} {c : List Tok}
    (h : Starves (fun r => run ts a trs it (f+1) j (t :: r)) c) : Starves (run ts a trs it (f+1) j) (t :: c) :=
  .cons ⟨0, run_succ_nil ..⟩ h

theorem Reads.prefix_more {f j c v} (h : Reads ts a trs it f j c v) : Starves (run ts a trs it f j) c := by
  induction h with
  | v_null | prim | slice_null | array_null | map_null | struct_null | wild_scalar | elems_close | entries_close
  | struct_close => exact .single ⟨0, run_succ_nil ..⟩
  | slice hb _ ih =>
    refine .run_cons ?_
    simp only [run_bare, unmBare_slice, hb]
    exact ih.shift 1
  | array hb _ ih =>
    refine .run_cons ?_
    simp only [run_bare, unmBare_array, hb]
    exact ih.bind' _ 1
  | map hk hb _ ih =>
    refine .run_cons ?_
    simp only [run_bare, unmBare_map, hk, hb]
    exact ih.shift 1
  | struct hb _ ih =>
    refine .run_cons ?_
    simp only [run_bare, unmBare_structMap, hb]
    exact ih.shift 1
  | v_bare h0 _ ih =>
    refine .run_cons ?_
    simp only [run_v, unmV_bare h0]
    exact ih.tail
  | v_ptr h0 hb _ ih =>
    refine .run_cons ?_
    simp only [run_v, unmV_ptr h0 hb]
    exact ih.tail.bind' _ 0
  | wildcard _ ih =>
    refine .run_cons ?_
    simp only [run_bare, unmBare_wild]
    exact ih.tail
  | transform _ _ ih =>
    refine .run_cons ?_
    simp only [run_bare, unmBare_transform]
    exact ih.tail.bind' _ 0
  | wild_tag hg he _ ih =>
    refine .run_cons ?_
    simp only [run_wild, unmWild_eq, hg, he, Bool.false_eq_true, if_false]
    exact ih.tail.bind' _ 0
  | wild_map hg hr hb _ ih =>
    refine .run_cons ?_
    rw [hb] at hr
    simp only [run_wild, unmWild_eq, hg, hb, hr, Bool.false_eq_true, if_false]
    exact ih.tail.bind' _ 0
  | wild_arr hg hr hb _ ih =>
    refine .run_cons ?_
    rw [hb] at hr
    simp only [run_wild, unmWild_eq, hg, hb, hr, Bool.false_eq_true, if_false]
    exact ih.tail.bind' _ 0
  | elems_cons hb1 hb2 hcap hr1 _ ih1 ih2 =>
    refine .run_cons ?_
    simp only [run_elems, unmElems_item hb1 hb2 hcap]
    exact .seq ih1.tail hr1.sound (ih2.shift _)
  | entries_cons hb hk hh hr1 _ ih1 ih2 =>
    refine .run_cons ?_
    simp only [run_entries, unmMapEntries_cons, hb, hk, hh, Bool.false_eq_true, if_false]
    exact .seq ih1 hr1.sound (ih2.shift _)
  | struct_skip hb hf hi hr1 _ ih1 ih2 =>
    refine .run_cons ?_
    simp only [run_struct, unmStruct_skip hb hf hi]
    exact .seq ih1 hr1.sound (ih2.shift _)
  | struct_field hb hf hi hg hr1 hs _ ih1 ih2 =>
    obtain ⟨f, rfl⟩ := hr1.fuel_pos
    refine .run_cons ?_
    simp only [run_struct, unmStruct_field hb hf hi hg]
    refine .seq ih1 hr1.sound ?_
    simp only [structCont_some hs]
    exact ih2.shift _
  | union hb hl hk hf hp h1 h2 hr hc ih =>
    refine .run_cons (.cons ⟨1, ?_⟩ ?_)
    · simp only [run_bare, unmBare_union, hb, hl, Bool.false_eq_true, if_false]
    · simp only [run_bare, unmBare_member hb hl hk hf hp h1 h2]
      exact .seq ih hr.sound (.single ⟨_, unionClose_nil ..⟩)

end Refmt.Obj
