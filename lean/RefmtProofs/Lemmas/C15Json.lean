/-
  C15 support: the JSON decoder model (RefmtModel/Model/JsonDec.lean) as a client program (`Prog`) of the
  reader interface.  One `Prog`-valued mirror per model function, in continuation-passing style, and one
  lemma per mirror: running the mirror over a cursor and continuing = continuing from the model function's
  result and the reader it leaves.  The number scanner's look-ahead byte is pushed back through the `unread`
  component of `Prog.read1`.  `N` is the iteration bound of the whitespace, string and number scanners
  (Lemmas/ProgExec.lean says why a program needs one).  C06 for JSON follows from `step_lt`.
-/
import RefmtModel
import RefmtProofs.Lemmas.ProgExec
namespace Refmt.C15Prog
open Refmt Refmt.C15 Refmt.JsonDec

abbrev JsonRes := List Tok × Except Err Unit × Nat

def jsonProj (r : JsonDec.RunOut) : JsonRes := (r.toks, r.res, r.steps)

namespace Json

variable {β : Type}

def contR {α : Type} (k : Except Err α → Prog β) (x : Except Err (α × Rd) × Rd) : β × Rd :=
  match x with
  | (.ok (a, rd1), _) => exec (k (.ok a)) rd1
  | (.error e, rd') => exec (k (.error e)) rd'

def skipWsP : Nat → (Except Err Nat → Prog β) → Prog β
  | 0, k => k (.error .other)
  | fuel+1, k =>
    rd1 fun r => match r with
      | .error e => k (.error e)
      | .ok b => if isWs b then skipWsP fuel k else k (.ok b)

theorem skipWsP_spec (k : Except Err Nat → Prog β) : ∀ (fuel : Nat) (rd : Rd),
    exec (skipWsP fuel k) rd = contR k (skipWs fuel rd) := by
  intro fuel
  induction fuel with
  | zero => intro rd; rfl
  | succ fuel ih =>
    intro rd
    rw [skipWsP, skipWs, exec_rd1]
    rcases rd.read1 with ⟨e | ⟨b, rd1⟩, rd'⟩
    · rfl
    · dsimp only
      split
      · exact ih rd1
      · rfl

theorem skipWs_fuel (f g : Nat) (rd : Rd) (hf : rd.data.length < f) (hg : rd.data.length < g) :
    skipWs f rd = skipWs g rd := by
  refine fuel_irrelevant (fun _ rd => rd.data.length) (fun f (_ : Unit) rd => skipWs f rd) ?_ f g () rd hf hg
  intro f g _ rd hrec
  rw [skipWs, skipWs]
  rcases h : rd.read1 with ⟨e | ⟨b, rd1⟩, rd'⟩
  · rfl
  · have h1 := C06.read1_ok_len h
    dsimp only
    split
    · exact hrec () rd1 (by omega)
    · rfl

theorem skipWsP_model (k : Except Err Nat → Prog β) (N : Nat) (rd : Rd) (hN : rd.data.length < N) :
    exec (skipWsP N k) rd = contR k (skipWs (rd.data.length + 1) rd) := by
  rw [skipWsP_spec, skipWs_fuel N (rd.data.length + 1) rd hN (by omega)]

theorem skipWs_le {rd : Rd} {b : Nat} {rd1 r2 : Rd} (h : skipWs (rd.data.length + 1) rd = (.ok (b, rd1), r2)) :
    rd1.data.length ≤ rd.data.length := by
  have := len_of_exec (skipWsP_model (fun r => .ret r) _ rd (Nat.lt_succ_self _))
  rwa [h] at this

def scanStringP : Nat → SS → Bytes → (Except Err Bytes → Prog β) → Prog β
  | 0, _, _, k => k (.error .other)
  | fuel+1, st, acc, k =>
    rd1 fun r => match r with
      | .error e => k (.error e)
      | .ok b =>
        match strStep st b with
        | .error _ => k (.error .syntax)
        | .ok none => k (.ok acc.reverse)
        | .ok (some st') => scanStringP fuel st' (b :: acc) k

theorem scanStringP_spec (k : Except Err Bytes → Prog β) : ∀ (fuel : Nat) (st : SS) (acc : Bytes) (rd : Rd),
    exec (scanStringP fuel st acc k) rd = contR k (scanString fuel st rd acc) := by
  intro fuel
  induction fuel with
  | zero => intro st acc rd; rfl
  | succ fuel ih =>
    intro st acc rd
    rw [scanStringP, scanString, exec_rd1]
    rcases rd.read1 with ⟨e | ⟨b, rd1⟩, rd'⟩
    · rfl
    · dsimp only
      rcases strStep st b with _ | _ | st'
      · rfl
      · rfl
      · exact ih _ _ _

theorem scanString_fuel (f g : Nat) (st : SS) (rd : Rd) (acc : Bytes) (hf : rd.data.length < f)
    (hg : rd.data.length < g) : scanString f st rd acc = scanString g st rd acc := by
  refine fuel_irrelevant (fun _ rd => rd.data.length) (fun f (s : SS × Bytes) rd => scanString f s.1 rd s.2) ?_
    f g (st, acc) rd hf hg
  intro f g s rd hrec
  rw [scanString, scanString]
  rcases h : rd.read1 with ⟨e | ⟨b, rd1⟩, rd'⟩
  · rfl
  · have h1 := C06.read1_ok_len h
    dsimp only
    rcases strStep s.1 b with _ | _ | st'
    · rfl
    · rfl
    · exact hrec (st', b :: s.2) rd1 (by omega)

def decStringP (N : Nat) (k : Except Err Bytes → Prog β) : Prog β :=
  scanStringP N .normal [] fun r => match r with
    | .error e => k (.error e)
    | .ok raw => k (.ok ((parseString (raw.length + 1) raw).getD []))

theorem decStringP_spec (k : Except Err Bytes → Prog β) (N : Nat) (rd : Rd) (hN : rd.data.length < N) :
    exec (decStringP N k) rd = contR k (decString rd) := by
  unfold decStringP decString
  rw [scanStringP_spec, scanString_fuel N (rd.data.length + 1) _ rd _ hN (by omega)]
  rcases scanString (rd.data.length + 1) .normal rd [] with ⟨e | ⟨raw, rd1⟩, rd'⟩ <;> rfl

def numEnds (st : NS) (b : Nat) : Bool :=
  match numStep st b with
  | .ok none => true
  | _ => false

def scanNumberP : Nat → NS → Bytes → (Except Err Bytes → Prog β) → Prog β
  | 0, _, _, k => k (.error .other)
  | fuel+1, st, acc, k =>
    .read1 (numEnds st) fun r => match r with
      | .error .eof =>
        (match numStep st 32 with
         | .error _ => k (.error .unexpectedEof)
         | .ok _ => k (.ok acc.reverse))
      | .error e => k (.error e)
      | .ok b =>
        match numStep st b with
        | .error _ => k (.error .syntax)
        | .ok none => k (.ok acc.reverse)
        | .ok (some st') => scanNumberP fuel st' (b :: acc) k

theorem scanNumberP_spec (k : Except Err Bytes → Prog β) : ∀ (fuel : Nat) (st : NS) (acc : Bytes) (rd : Rd),
    exec (scanNumberP fuel st acc k) rd = contR k (scanNumber fuel st rd acc) := by
  intro fuel
  induction fuel with
  | zero => intro st acc rd; rfl
  | succ fuel ih =>
    intro st acc rd
    rw [scanNumberP, scanNumber, exec]
    rcases rd.read1 with ⟨e | ⟨b, rd1⟩, rd'⟩
    · cases e
      case eof =>
        rcases numStep st 32 with _ | _ <;> rfl
      all_goals rfl
    · dsimp only
      unfold numEnds
      rcases numStep st b with _ | _ | st'
      · rfl
      · rfl
      · exact ih _ _ _

theorem scanNumber_fuel (f g : Nat) (st : NS) (rd : Rd) (acc : Bytes) (hf : rd.data.length < f)
    (hg : rd.data.length < g) : scanNumber f st rd acc = scanNumber g st rd acc := by
  refine fuel_irrelevant (fun _ rd => rd.data.length) (fun f (s : NS × Bytes) rd => scanNumber f s.1 rd s.2) ?_
    f g (st, acc) rd hf hg
  intro f g s rd hrec
  rw [scanNumber, scanNumber]
  rcases h : rd.read1 with ⟨e | ⟨b, rd1⟩, rd'⟩
  · cases e <;> rfl
  · have h1 := C06.read1_ok_len h
    dsimp only
    rcases numStep s.1 b with _ | _ | st'
    · rfl
    · rfl
    · exact hrec (st', b :: s.2) rd1 (by omega)

def decNumberP (N : Nat) (b0 : Nat) (k : Except Err Body → Prog β) : Prog β :=
  scanNumberP N (if b0 == 45 then .neg else if b0 == 48 then .s0 else .s1) [b0] fun r => match r with
    | .error e => k (.error e)
    | .ok text => k (numTok text)

theorem decNumberP_spec (k : Except Err Body → Prog β) (N : Nat) (b0 : Nat) (rd : Rd) (hN : rd.data.length < N) :
    exec (decNumberP N b0 k) rd = contR k (decNumber rd b0) := by
  unfold decNumberP decNumber
  dsimp only
  rw [scanNumberP_spec, scanNumber_fuel N (rd.data.length + 2) _ rd _ hN (by omega)]
  rcases scanNumber (rd.data.length + 2) _ rd [b0] with ⟨e | ⟨text, rd1⟩, rd'⟩
  · rfl
  · show exec (k (numTok text)) rd1 = _
    dsimp only
    rcases numTok text with e | b <;> rfl


/-- `Out` without the reader: a continuation of a `Prog` cannot be handed a reader, so the mirrors of the functions
    that return an `Out` pass on an `O`. -/
structure O where
  st : St
  ret : JsonDec.Ret

def strip (o : Out) : O := ⟨o.st, o.ret⟩

def contO (k : O → Prog β) (o : Out) : β × Rd := exec (k (strip o)) o.rd

/-- `expectLiteralRemainder` -/
def literalP (s : St) (rest : Bytes) (b : Body) (k : O → Prog β) : Prog β :=
  .readN rest.length fun r => match r with
    | .error .eof => k ⟨s, .err .unexpectedEof⟩
    | .error e => k ⟨s, .err e⟩
    | .ok bs => if bs == rest then k ⟨s, .tok ⟨b, none⟩ true⟩ else k ⟨s, .err .syntax⟩

theorem literalP_spec (s : St) (rest : Bytes) (b : Body) (k : O → Prog β) (rd : Rd) :
    exec (literalP s rest b k) rd = contO k (literal s rd rest b) := by
  unfold literalP literal
  rw [exec]
  rcases rd.readN rest.length with ⟨e | bs, rd'⟩
  · cases e <;> rfl
  · exact exec_ite _ rfl rfl

def acceptValueP (N : Nat) (s : St) (mb : Nat) (k : O → Prog β) : Prog β :=
  if mb == 123 then k ⟨push s .mapKey, .tok ⟨.mapOpen (-1), none⟩ false⟩
  else if mb == 91 then k ⟨push s .arr, .tok ⟨.arrOpen (-1), none⟩ false⟩
  else if mb == 110 then literalP s [117, 108, 108] .null k
  else if mb == 34 then
    decStringP N fun r => match r with
      | .ok str => k ⟨s, .tok ⟨.str str, none⟩ true⟩
      | .error e => k ⟨s, .err e⟩
  else if mb == 102 then literalP s [97, 108, 115, 101] (.bool false) k
  else if mb == 116 then literalP s [114, 117, 101] (.bool true) k
  else if mb == 45 || isDigit mb then
    decNumberP N mb fun r => match r with
      | .ok b => k ⟨s, .tok ⟨b, none⟩ true⟩
      | .error e => k ⟨s, .err e⟩
  else k ⟨s, .err .syntax⟩

theorem acceptValueP_spec (N : Nat) (k : O → Prog β) (s : St) (rd : Rd) (mb : Nat) (hN : rd.data.length < N) :
    exec (acceptValueP N s mb k) rd = contO k (acceptValue s rd mb) := by
  unfold acceptValueP acceptValue
  refine exec_ite _ rfl <| exec_ite _ rfl <| exec_ite _ (literalP_spec ..) <| exec_ite _ ?str <|
    exec_ite _ (literalP_spec ..) <| exec_ite _ (literalP_spec ..) <| exec_ite _ ?num rfl
  case str =>
    rw [decStringP_spec _ N rd hN]
    rcases decString rd with ⟨e | ⟨str, rd1⟩, rd'⟩ <;> rfl
  case num =>
    rw [decNumberP_spec _ N mb rd hN]
    rcases decNumber rd mb with ⟨e | ⟨b, rd1⟩, rd'⟩ <;> rfl

def inContainerO (o : O) : O :=
  match o.ret with
  | .tok t _ => { o with ret := .tok t false }
  | .err _ => o

theorem contO_inContainer (k : O → Prog β) (o : Out) :
    contO (fun o => k (inContainerO o)) o = contO k (inContainer o) := by
  rcases o with ⟨st, rd, ret | e⟩ <;> rfl

theorem acceptValueP_in (N : Nat) (k : O → Prog β) (s : St) (rd : Rd) (mb : Nat) (hN : rd.data.length < N) :
    exec (acceptValueP N s mb fun o => k (inContainerO o)) rd = contO k (inContainer (acceptValue s rd mb)) := by
  rw [acceptValueP_spec N _ s rd mb hN]
  exact contO_inContainer k _

def arrEntryP (N : Nat) (s : St) (mb : Nat) (k : O → Prog β) : Prog β :=
  if mb == 93 then k ⟨s, .tok ⟨.arrClose, none⟩ true⟩
  else acceptValueP N { s with frame := ⟨s.frame.k, true⟩ } mb fun o => k (inContainerO o)

theorem arrEntryP_spec (N : Nat) (k : O → Prog β) (s : St) (rd : Rd) (mb : Nat) (hN : rd.data.length < N) :
    exec (arrEntryP N s mb k) rd = contO k (arrEntry s rd mb) := by
  unfold arrEntryP arrEntry
  exact exec_ite _ rfl (acceptValueP_in N k _ rd mb hN)

def mapEntryP (N : Nat) (s : St) (mb : Nat) (k : O → Prog β) : Prog β :=
  if mb == 125 then k ⟨s, .tok ⟨.mapClose, none⟩ true⟩
  else if mb != 34 then k ⟨s, .err .syntax⟩
  else
    decStringP N fun r => match r with
      | .error e => k ⟨s, .err e⟩
      | .ok key =>
        skipWsP N fun r => match r with
          | .error e => k ⟨s, .err e⟩
          | .ok c =>
            if c != 58 then k ⟨s, .err .syntax⟩
            else k ⟨{ s with frame := ⟨.mapVal, false⟩ }, .tok ⟨.str key, none⟩ false⟩

theorem mapEntryP_spec (N : Nat) (k : O → Prog β) (s : St) (rd : Rd) (mb : Nat) (hN : rd.data.length < N) :
    exec (mapEntryP N s mb k) rd = contO k (mapEntry s rd mb) := by
  unfold mapEntryP mapEntry
  refine exec_ite _ rfl <| exec_ite _ rfl ?_
  rw [decStringP_spec _ N rd hN]
  rcases h : decString rd with ⟨e | ⟨key, rd1⟩, rd'⟩
  · rfl
  · have h1 : rd1.data.length ≤ rd.data.length := by
      have := len_of_exec (decStringP_spec (fun r => .ret r) N rd hN)
      rwa [h] at this
    unfold contR
    dsimp only
    rw [skipWsP_model _ N rd1 (by omega)]
    rcases skipWs (rd1.data.length + 1) rd1 with ⟨e | ⟨c, rd2⟩, rd''⟩
    · rfl
    · unfold contR
      exact exec_ite _ rfl rfl

def afterSomeP (N : Nat) (s : St) (mb : Nat) (close : Nat) (closeTok : Body)
    (entry : St → Nat → (O → Prog β) → Prog β) (k : O → Prog β) : Prog β :=
  if s.frame.some then
    if mb == close then k ⟨s, .tok ⟨closeTok, none⟩ true⟩
    else if mb == 44 then
      skipWsP N fun r => match r with
        | .error e => k ⟨s, .err e⟩
        | .ok mb2 => entry s mb2 k
    else k ⟨s, .err .syntax⟩
  else entry s mb k

theorem afterSomeP_spec (N : Nat) (k : O → Prog β) (close : Nat) (closeTok : Body)
    (entryP : St → Nat → (O → Prog β) → Prog β) (entry : St → Rd → Nat → Out)
    (he : ∀ (s : St) (rd : Rd) (mb : Nat), rd.data.length < N → exec (entryP s mb k) rd = contO k (entry s rd mb))
    (s : St) (rd : Rd) (mb : Nat) (hN : rd.data.length < N) :
    exec (afterSomeP N s mb close closeTok entryP k) rd = contO k (afterSome s rd mb close closeTok entry) := by
  unfold afterSomeP afterSome
  refine exec_ite _ (exec_ite _ rfl <| exec_ite _ ?comma rfl) (he s rd mb hN)
  rw [skipWsP_model _ N rd hN]
  rcases h : skipWs (rd.data.length + 1) rd with ⟨e | ⟨mb2, rd2⟩, rd''⟩
  · rfl
  · have h1 := skipWs_le h
    exact he s rd2 mb2 (by omega)

def subStepP (N : Nat) (s : St) (k : O → Prog β) : Prog β :=
  skipWsP N fun r => match r with
    | .error e => k ⟨s, .err e⟩
    | .ok mb =>
      match s.frame.k with
      | .value => acceptValueP N s mb k
      | .arr => afterSomeP N s mb 93 .arrClose (arrEntryP N) k
      | .mapKey => afterSomeP N s mb 125 .mapClose (mapEntryP N) k
      | .mapVal => acceptValueP N { s with frame := ⟨.mapKey, true⟩ } mb fun o => k (inContainerO o)

theorem subStepP_spec (N : Nat) (k : O → Prog β) (s : St) (rd : Rd) (hN : rd.data.length < N) :
    exec (subStepP N s k) rd = contO k (subStep s rd) := by
  unfold subStepP subStep
  rw [skipWsP_model _ N rd hN]
  rcases h : skipWs (rd.data.length + 1) rd with ⟨e | ⟨mb, rd1⟩, rd'⟩
  · rfl
  · have h1 := skipWs_le h
    have hN1 : rd1.data.length < N := by omega
    unfold contR
    rcases s with ⟨stack, ⟨fk, sm⟩⟩
    cases fk <;> dsimp only
    · exact acceptValueP_spec N k _ rd1 mb hN1
    · exact afterSomeP_spec N k _ _ _ _ (fun s rd mb h => arrEntryP_spec N k s rd mb h) _ rd1 mb hN1
    · exact afterSomeP_spec N k _ _ _ _ (fun s rd mb h => mapEntryP_spec N k s rd mb h) _ rd1 mb hN1
    · exact acceptValueP_in N k _ rd1 mb hN1

def postO (o : O) : O :=
  match o.ret with
  | .err _ => o
  | .tok _ false => o
  | .tok t true =>
    match o.st.stack with
    | [] => o
    | [_] => o
    | f :: rest => { o with st := ⟨rest, f⟩, ret := .tok t false }

theorem strip_step (s : St) (rd : Rd) :
    strip (step s rd) = postO (strip (subStep s rd)) ∧ (step s rd).rd = (subStep s rd).rd := by
  unfold step
  generalize subStep s rd = o
  rcases o with ⟨⟨stack, fr⟩, rd', (⟨t, _ | _⟩ | e)⟩
  · exact ⟨rfl, rfl⟩
  · rcases stack with _ | ⟨p, _ | ⟨q, rest⟩⟩ <;> exact ⟨rfl, rfl⟩
  · exact ⟨rfl, rfl⟩

def stepP (N : Nat) (s : St) (k : O → Prog β) : Prog β :=
  subStepP N s fun o => k (postO o)

theorem stepP_spec (N : Nat) (k : O → Prog β) (s : St) (rd : Rd) (hN : rd.data.length < N) :
    exec (stepP N s k) rd = contO k (step s rd) := by
  unfold stepP
  rw [subStepP_spec N _ s rd hN]
  unfold contO
  rw [(strip_step s rd).1, (strip_step s rd).2]

/-- The step is a client program that starts with a plain one-byte read, and fails if that read does. -/
theorem step_lt (s : St) (rd : Rd) (t : Tok) (d : Bool) (h : (step s rd).ret = .tok t d) :
    (step s rd).rd.data.length < rd.data.length := by
  have hs := stepP_spec (rd.data.length + 1) (fun o => .ret o) s rd (Nat.lt_succ_self _)
  rw [stepP, subStepP, skipWsP, exec_rd1] at hs
  rcases hr : rd.read1 with ⟨e | ⟨b, rd1⟩, rd'⟩
  · rw [hr] at hs
    have : strip (step s rd) = ⟨s, .err e⟩ := (congrArg Prod.fst hs).symm
    rw [show (step s rd).ret = (strip (step s rd)).ret from rfl, this] at h
    cases h
  · rw [hr] at hs
    exact Nat.lt_of_le_of_lt (len_of_exec hs) (Nat.lt_of_succ_le (Nat.le_of_eq (C06.read1_ok_len hr)))

/-- The result type of `runP`: the tuple that `JsonRes` abbreviates, under the name the type of `runP` is
    written with (both are `abbrev`s, so a result of `runP` compares with a `jsonProj` without a cast). -/
abbrev Res := List Tok × Except Err Unit × Nat

def runP (N : Nat) : Nat → St → List Tok → Nat → Prog Res
  | 0, _, acc, steps => .ret (acc.reverse, .error .other, steps)
  | fuel+1, s, acc, steps =>
    stepP N s fun o => match o.ret with
      | .err e => .ret (acc.reverse, .error e, steps + 1)
      | .tok t true => .ret ((t :: acc).reverse, .ok (), steps + 1)
      | .tok t false => runP N fuel o.st (t :: acc) (steps + 1)

theorem runP_spec (N : Nat) : ∀ (fuel : Nat) (s : St) (rd : Rd) (acc : List Tok) (steps : Nat),
    rd.data.length < N →
    exec (runP N fuel s acc steps) rd = (jsonProj (run fuel s rd acc steps), (run fuel s rd acc steps).rd) := by
  intro fuel
  induction fuel with
  | zero => intro s rd acc steps hN; rfl
  | succ fuel ih =>
    intro s rd acc steps hN
    rw [runP, run, stepP_spec N _ s rd hN]
    have hl := step_lt s rd
    unfold contO
    generalize step s rd = o at hl
    rcases o with ⟨st, rd', (⟨t, _ | _⟩ | e)⟩
    · have := hl t false rfl
      dsimp only at this
      exact ih _ _ _ _ (by show rd'.data.length < N; omega)
    · rfl
    · rfl

end Json
end Refmt.C15Prog

namespace Refmt.C06.Json
open Refmt Refmt.JsonDec

theorem run_steps : ∀ (fuel : Nat) (s : St) (rd : Rd) (acc : List Tok) (steps : Nat),
    (run fuel s rd acc steps).steps ≤ steps + fuel
  | 0, s, rd, acc, steps => by simp [run]
  | fuel+1, s, rd, acc, steps => by
    rw [run]
    split
    · dsimp only; omega
    · dsimp only; omega
    · rename_i t ht
      have := run_steps fuel (step s rd).st (step s rd).rd (t :: acc) (steps + 1)
      omega

theorem run_fuel (f g : Nat) (s : St) (rd : Rd) (acc : List Tok) (steps : Nat)
    (hf : rd.data.length < f) (hg : rd.data.length < g) : run f s rd acc steps = run g s rd acc steps := by
  refine C15Prog.fuel_irrelevant (fun _ rd => rd.data.length)
    (fun f (x : St × List Tok × Nat) rd => run f x.1 rd x.2.1 x.2.2) ?_ f g (s, acc, steps) rd hf hg
  intro f g x rd hrec
  rw [run, run]
  split
  · rfl
  · rfl
  · rename_i t ht
    exact hrec (_, _, _) _ (C15Prog.Json.step_lt x.1 rd t false ht)

end Refmt.C06.Json
