-- the class of types, side conditions and round-trip value of the JSON full-domain theorem
-- (RefmtProofs/Props/C01JsonFull.lean)
import RefmtProofs.Lemmas.FullBasic
namespace Refmt.Obj
open Refmt Refmt.C13 Refmt.C11

/-- JSON replaces the invalid bytes of a string by U+FFFD, so a field or member name that is not valid UTF-8 would not
    be found again by the unmarshaller -/
def namesUtf8 (a : Atlas) : Bool :=
  a.pool.all fun e =>
    match e.k with
    | .structMap fs => fs.all (fun f => toValidUtf8 f.name == f.name)
    | .union ms => ms.all (fun m => toValidUtf8 m.1 == m.1)
    | _ => true

def fullTyJ (ts : Types) (a : Atlas) (p id : Nat) : Bool := fullTy ts a p id && namesUtf8 a

theorem fullTyJ_iff {ts : Types} {a : Atlas} {p id : Nat} :
    fullTyJ ts a p id = true ↔ fullTy ts a p id = true ∧ namesUtf8 a = true := by
  simp only [fullTyJ, Bool.and_eq_true]

/-- the scalars JSON can carry and give back -/
def jsonScalar : Val → Bool
  | .float b => !floatNonFinite b
  | .str s => toValidUtf8 s == s
  | .bytes (some _) => false
  | .byteArr _ => false
  | _ => true

def utf8Keys (es : List (Val × Val)) : Bool := es.all fun p => toValidUtf8 (keyStr p.1) == keyStr p.1

-- `fullValJB` takes the type id as `fullValB` does, and does not look at it
set_option linter.unusedVariables false in
mutual
  /-- Value side conditions for JSON, by the recursion of `normV .json`: those of `fullVal` restricted to what JSON can
      carry.  Scalars as `jsonScalar` (a nil `[]byte`, written as `null`, is fine); map keys valid UTF-8; an untyped
      slot holds NO tagged registered type (JSON drops the tag, the slot cannot reconstruct it). -/
  def fullValJ (ts : Types) (a : Atlas) (trs : Trs) (it : IfaceTys) : Nat → Nat → Val → Bool
    | 0, _, _ => true
    | g+1, id, v =>
      let (n, base) := peel ts 64 0 id
      if n == 0 then fullValJB ts a trs it g base (pickBare ts a base) v
      else
        match derefN n v with
        | none => true
        | some inner => fullValJB ts a trs it g base (pickBare ts a base) inner
  def fullValJB (ts : Types) (a : Atlas) (trs : Trs) (it : IfaceTys) : Nat → Nat → Mach → Val → Bool
    | 0, _, _, _ => true
    | g+1, id, m, v =>
      match m with
      | .prim => jsonScalar v
      | .slice e => (match v with | .slice (some vs) => vs.all (fullValJ ts a trs it g e) | _ => true)
      | .array e => (match v with | .arr vs => vs.all (fullValJ ts a trs it g e) | _ => true)
      | .map _ vt _ =>
        (match v with
         | .map (some es) => strKeysB es && utf8Keys es && es.all (fun p => fullValJ ts a trs it g vt p.2)
         | _ => true)
      | .structMap _ fields =>
        fields.all fun f =>
          !emitP v f || (match traverse f.route v with | some fv => fullValJ ts a trs it g f.ty fv | none => true)
      | .transform _ fn mty =>
        (match trs.m fn v with
         | some tv =>
           hasTy ts 1000 mty tv && fullValJ ts a trs it g mty tv &&
           (trs.u fn (normV .json ts a trs it g mty tv)).isSome
         | none => true)
      | .union _ members =>
        (match v with
         | .iface (some (dt, dv)) =>
           (match members.find? fun (_, idx) => (a.pool[idx]?.map (·.ty)) == some dt with
            | some (_, idx) =>
              (match a.pool[idx]? with
               | some me => fullValJB ts a trs it g dt (machForEntry ts me) dv
               | none => true)
            | none => true)
         | _ => true)
      | .wildcard =>
        (match v with
         | .iface (some (dt, dv)) =>
           notPtrB (ts.get dt) &&
           (match pickBare ts a dt with
            | .prim => jsonScalar dv
            | .slice _ =>
              dt == it.sliceI &&
              (match dv with | .slice (some vs) => vs.all (fullValJ ts a trs it g it.iface) | _ => false)
            | .map _ _ _ =>
              dt == it.mapSI &&
              (match dv with
               | .map (some es) => strKeysB es && utf8Keys es && es.all (fun p => fullValJ ts a trs it g it.iface p.2)
               | _ => false)
            | _ => false)
         | _ => true)
      | _ => true
end

mutual
  /-- the value the JSON round trip returns: `normV .json` with the entries of every map in marshalling (key) order -/
  def rtJ (ts : Types) (a : Atlas) (trs : Trs) (it : IfaceTys) : Nat → Nat → Val → Val
    | 0, _, v => v
    | fuel+1, id, v =>
      let (n, base) := peel ts 64 0 id
      if n == 0 then rtJB ts a trs it fuel base (pickBare ts a base) v
      else
        match derefN n v with
        | none => .ptr none
        | some inner =>
          if isNullSer ts a trs base inner then .ptr none
          else wrapPtr n (rtJB ts a trs it fuel base (pickBare ts a base) inner)
  def rtJB (ts : Types) (a : Atlas) (trs : Trs) (it : IfaceTys) : Nat → Nat → Mach → Val → Val
    | 0, _, _, v => v
    | fuel+1, id, m, v =>
      match m with
      | .slice e => (match v with | .slice (some vs) => .slice (some (vs.map (rtJ ts a trs it fuel e))) | x => x)
      | .array e => (match v with | .arr vs => .arr (vs.map (rtJ ts a trs it fuel e)) | x => x)
      | .map _ vt mode =>
        (match v with
         | .map (some es) =>
           .map (some ((sortKeys mode (es.map fun (k, x) => (keyStr k, x))).map fun (s, x) => (Val.str s, rtJ ts a trs it fuel vt x)))
         | x => x)
      | .structMap _ fields => structFold ts id fields v (fun t x => rtJ ts a trs it fuel t x)
      | .transform _ fn mty =>
        (match trs.m fn v with
         | some tv => (trs.u fn (rtJ ts a trs it fuel mty tv)).getD v
         | none => v)
      | .union _ members =>
        (match v with
         | .iface (some (dt, dv)) =>
           (match members.find? fun (_, idx) => (a.pool[idx]?.map (·.ty)) == some dt with
            | some (_, idx) =>
              (match a.pool[idx]? with
               | some me => .iface (some (dt, rtJB ts a trs it fuel dt (machForEntry ts me) dv))
               | none => v)
            | none => v)
         | x => x)
      | .wildcard =>
        (match v with
         | .iface (some (dt, dv)) =>
           if isBareNullSer .json ts a trs dt dv then .iface none else
           (match pickBare ts a (peel ts 64 0 dt).2, derefN (peel ts 64 0 dt).1 dv with
            | .prim, some pv =>
              (match pv with
               | .bool b => .iface (some (it.bool, .bool b))
               | .int i => .iface (some (it.int, .int i))
               | .uint u => if u < two63 then .iface (some (it.int, .int u)) else .iface (some (it.uint64, .uint u))
               | .float b => .iface (some (normFloatIface .json it b))
               | .str s => .iface (some (it.str, .str s))
               | .bytes (some b) => .iface (some (it.bytes, .bytes (some b)))
               | .byteArr b => .iface (some (it.bytes, .bytes (some b)))
               | x => .iface (some (dt, x)))
            | .slice e, some (.slice (some vs)) =>
              .iface (some (it.sliceI, .slice (some (vs.map fun x => rtJ ts a trs it fuel it.iface (boxAs ts e x)))))
            | .array e, some (.arr vs) =>
              .iface (some (it.sliceI, .slice (some (vs.map fun x => rtJ ts a trs it fuel it.iface (boxAs ts e x)))))
            | .map _ vt mode, some (.map (some es)) =>
              .iface (some (it.mapSI, .map (some ((sortKeys mode (es.map fun (k, x) => (keyStr k, x))).map fun (s, x) =>
                (Val.str s, rtJ ts a trs it fuel it.iface (boxAs ts vt x))))))
            | _, some pv =>
              .iface (some ((peel ts 64 0 dt).2, rtJB ts a trs it fuel (peel ts 64 0 dt).2 (pickBare ts a (peel ts 64 0 dt).2) pv))
            | _, none => .iface none)
         | x => x)
      | m => normBare .json ts a trs it (fuel+1) id m v
end

variable (ts : Types) (a : Atlas) (trs : Trs) (it : IfaceTys)

/-- what a scalar target holds after a JSON round trip: `-0` is re-read as `0` -/
def jprim : Val → Val
  | .float b => .float (normFloat .json b)
  | x => x

theorem normBareJ_prim (fuel id v) : normBare .json ts a trs it (fuel+1) id .prim v = jprim v := by
  rw [Norm.prim]
  cases v <;> rfl

theorem rtJB_prim (fuel id v) : rtJB ts a trs it (fuel+1) id .prim v = jprim v := by
  rw [rtJB.eq_def]
  exact normBareJ_prim ts a trs it fuel id v

theorem fullValJB_prim (g id v) : fullValJB ts a trs it (g+1) id .prim v = jsonScalar v := by
  rw [fullValJB.eq_def] <;> rfl

theorem fullValJB_wild (g id dt dv) : fullValJB ts a trs it (g+1) id .wildcard (.iface (some (dt, dv))) =
    (notPtrB (ts.get dt) &&
     (match pickBare ts a dt with
      | .prim => jsonScalar dv
      | .slice _ =>
        dt == it.sliceI &&
        (match dv with | .slice (some vs) => vs.all (fullValJ ts a trs it g it.iface) | _ => false)
      | .map _ _ _ =>
        dt == it.mapSI &&
        (match dv with
         | .map (some es) => strKeysB es && utf8Keys es && es.all (fun p => fullValJ ts a trs it g it.iface p.2)
         | _ => false)
      | _ => false)) := by
  rw [fullValJB.eq_def] <;> rfl

end Refmt.Obj
