-- The JSON round trip on `fullTy`: the instance of the induction where the tokens arrive re-typed by a JSON encode /
-- decode (`Spec.Json.retypeTok`; that it is a `TokMap`, `tokMap_rt`, and the stored value of a non-float token are in Lemmas/UnmRetype).  Here: a few
-- more of its one-token equations, what it does to the one token of a scalar of a given type, in a typed target and in
-- an untyped slot, and the instance `wire_json` (see RefmtProofs/Props/C01JsonFull.lean).
import RefmtProofs.Lemmas.FullWire
import RefmtProofs.Props.C03Sem
namespace Refmt.Obj
open Refmt Refmt.C13 Refmt.C11 Refmt.C12 Refmt.C01L

-- in the names of this file and of Lemmas/UnmRetype `rt` is `retypeTok`; elsewhere (`rtF`, `rt_full`, `prim_tok_rt`) round trip
local notation "rt" => Spec.Json.retypeTok

theorem rt_untag (t : Tok) : rt t = rt ⟨t.body, none⟩ := rfl
@[simp] theorem rt_arrClose (tg : Option Int) : rt ⟨.arrClose, tg⟩ = ⟨.arrClose, none⟩ := rfl
@[simp] theorem rt_mapClose (tg : Option Int) : rt ⟨.mapClose, tg⟩ = ⟨.mapClose, none⟩ := rfl
@[simp] theorem rt_bool (b : Bool) (tg : Option Int) : rt ⟨.bool b, tg⟩ = ⟨.bool b, none⟩ := rfl
@[simp] theorem rt_int (i : Int) (tg : Option Int) : rt ⟨.int i, tg⟩ = ⟨.int i, none⟩ := rfl

theorem namesUtf8_entry {a : Atlas} (hn : namesUtf8 a = true) {id : Nat} {e : Entry} (he : a.get id = some e) :
    (∀ fs, e.k = .structMap fs → ∀ fld ∈ fs, toValidUtf8 fld.name = fld.name) ∧
    (∀ ms, e.k = .union ms → ∀ m ∈ ms, toValidUtf8 m.1 = m.1) := by
  have := List.all_eq_true.mp hn _ ((atlas_get_some he).1)
  constructor
  · intro fs hk fld hf
    rw [hk] at this
    simpa using List.all_eq_true.mp this fld hf
  · intro ms hk m hm
    rw [hk] at this
    simpa using List.all_eq_true.mp this m hm

variable {ts : Types} {a : Atlas} {trs : Trs} {it : IfaceTys}

theorem narrowF32_zero : FloatText.narrowF32 0 = 0 := by decide

theorem normFloat_ne {b : Nat} (h : b ≠ 9223372036854775808) : normFloat .json b = b := by
  simp [normFloat, h]

theorem normFloat_negZero : normFloat .json 9223372036854775808 = 0 := by
  simp [normFloat]

theorem rt_float_sem (b : Nat) (tg : Option Int) (hb : b < two64) (hfin : floatNonFinite b = false) :
    (b ≠ 9223372036854775808 ∧ rt ⟨.float b, tg⟩ = ⟨.float b, none⟩) ∨
    (∃ i : Int, rt ⟨.float b, tg⟩ = ⟨.int i, none⟩ ∧ FloatText.intToF64 i = normFloat .json b) := by
  by_cases hz : b = 9223372036854775808
  · subst hz
    right
    refine ⟨0, ?_, ?_⟩
    · simp only [Spec.Json.retypeTok, C03Sem.jsonFloat_negZero, C03Sem.numTok_negZero]
    · rw [normFloat_negZero]; exact C03Sem.intToF64_zero
  · rcases C03Sem.numTok_jsonFloat_kinds b hb hfin with h | ⟨i, h, hi⟩
    · left
      refine ⟨hz, ?_⟩
      simp only [Spec.Json.retypeTok, h]
    · right
      refine ⟨i, ?_, ?_⟩
      · simp only [Spec.Json.retypeTok, h]
      · rw [hi, normFloat_ne hz]
        simp [C03Sem.readBack, hz]

theorem prim_rtJ (h id : Nat) (v : Val) (toks : List Tok) (hv : hasTy ts h id v = true)
    (hj : jsonScalar v = true) (hm : primTok ts id v = ⟨toks, none⟩) :
    ∃ tok, toks = [tok] ∧ storePrim (ts.get id) (rt tok) = some (jprim v) := by
  obtain ⟨tok, rfl, hs⟩ := prim_tok_rt ts h id v toks hv hm
  refine ⟨tok, rfl, ?_⟩
  obtain ⟨b, htok, hc⟩ := ObjL.primTok_cases hm
  cases htok
  cases hc with
  | float b =>
    have hfin : floatNonFinite b = false := by simpa [jsonScalar] using hj
    obtain ⟨hb, bi, hdd | ⟨hdd, hnar⟩⟩ := hasTy_float ts hv
    · rw [hdd]
      rcases rt_float_sem b none hb hfin with ⟨hz, h1⟩ | ⟨i, h1, hi⟩
      · rw [h1]; simp [storePrim, jprim, normFloat_ne hz]
      · rw [h1]; simp [storePrim, jprim, hi]
    · rw [hdd]
      rcases rt_float_sem b none hb hfin with ⟨hz, h1⟩ | ⟨i, h1, hi⟩
      · rw [h1]; simp [storePrim, jprim, normFloat_ne hz, hnar]
      · rw [h1]
        simp only [storePrim, jprim, hi]
        by_cases hz : b = 9223372036854775808
        · subst hz; rw [normFloat_negZero, narrowF32_zero]
        · rw [normFloat_ne hz, hnar]
  | str s =>
    have hs' : toValidUtf8 s = s := by simpa [jsonScalar] using hj
    exact storePrim_rt_of (by simp) (fun s' h' => by cases h'; exact hs') hs
  | bytes bs => simp [jsonScalar] at hj
  | byteArr bs => simp [jsonScalar] at hj
  | _ => exact storePrim_rt_of (by simp) (by simp) hs

theorem wild_float (b : Nat) (hb : b < two64) (hfin : floatNonFinite b = false) :
    (rt ⟨.float b, none⟩).tag = none ∧
      slotScalar it (rt ⟨.float b, none⟩).body = some (.iface (some (normFloatIface .json it b))) := by
  rcases C03Sem.numTok_jsonFloat_kinds b hb hfin with h | ⟨i, h, -⟩
  · have h1 : rt ⟨.float b, none⟩ = ⟨.float b, none⟩ := by simp only [Spec.Json.retypeTok, h]
    rw [h1]
    simp [slotScalar, normFloatIface, h]
  · have h1 : rt ⟨.float b, none⟩ = ⟨.int i, none⟩ := by simp only [Spec.Json.retypeTok, h]
    rw [h1]
    simp [slotScalar, normFloatIface, h]

theorem wildTok_json {h dt : Nat} {dv : Val} {tok : Tok} (hvd : hasTy ts h dt dv = true) (hj : jsonScalar dv = true)
    (hp : primTok ts dt dv = ⟨[tok], none⟩) (hb : tok.body ≠ .null) :
    (rt tok).tag = none ∧ slotScalar it (rt tok).body = some (wildScalar .json it dt dv) := by
  obtain ⟨b, htok, hc⟩ := ObjL.primTok_cases hp
  cases htok
  cases hc with
  | nilBytes => exact absurd rfl hb
  | bytes bs => simp [jsonScalar] at hj
  | byteArr bs => simp [jsonScalar] at hj
  | float b =>
    have hfin : floatNonFinite b = false := by simpa [jsonScalar] using hj
    exact wild_float b (hasTy_float ts hvd).1 hfin
  | str s =>
    rw [rt_str (by simpa [jsonScalar] using hj)]
    exact ⟨rfl, rfl⟩
  | uint u => by_cases hu : u < two63 <;> simp [slotScalar, wildScalar, Spec.Json.retypeTok, hu]
  | _ => exact ⟨rfl, rfl⟩

theorem wire_json (hnm : namesUtf8 a = true) : Wire ts a trs it .json (fun s => toValidUtf8 s = s) rt (rtJ ts a trs it)
    (rtJB ts a trs it) (fullValJ ts a trs it) (fullValJB ts a trs it) where
  toRtSpec := rtSpec_json
  toTokMap := tokMap_rt
  body_tag := fun _ _ _ => rfl
  untagged := fun _ => rfl
  keepsTag := fun h => absurd rfl h
  fieldNames := fun _ _ _ _ _ he => (namesUtf8_entry hnm he).1 _ rfl
  memberNames := fun _ _ _ _ _ he => (namesUtf8_entry hnm he).2 _ rfl
  prim := fun h id v toks g hv hs hm => by
    rw [fullValJB_prim] at hs
    rw [rtJB_prim]
    exact prim_rtJ h id v toks hv hs hm
  wildTok := fun h id dt dv tok g hpkd hvd hs hp hb => by
    rw [fullValJB_wild, hpkd] at hs
    simp only [Bool.and_eq_true] at hs
    exact wildTok_json hvd hs.2 hp hb

end Refmt.Obj
