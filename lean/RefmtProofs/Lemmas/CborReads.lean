/-
  The fixed-size terminals of the CBOR decoder model do at most one reader operation: `decFloat` is one `readN`,
  `decUint` is no read, one `read1` or one `readN`, which of them being decided by the initial byte alone; `decLen`
  and `decNegInt` are `decUint` followed by the test against the Go `int` range (`decRange`); `decBytes` and `decString` are the
  same length-then-bytes read (`lenRead`) with different allocation.  What they leave of the data and what they
  allocate is then read off `RdOps`.
-/
import RefmtProofs.Lemmas.RdOps
namespace Refmt.CborDec
open Refmt Refmt.CborEnc

def readVal (rd : Rd) (n : Nat) (f : Bytes → Nat) : R Nat :=
  match rd.readN n with
  | (.ok bs, rd') => ⟨.ok (f bs), rd', 0⟩
  | (.error e, rd') => ⟨.error e, rd', 0⟩

def read1Val (rd : Rd) : R Nat :=
  match rd.read1 with
  | (.ok (b, rd'), _) => ⟨.ok b, rd', 0⟩
  | (.error e, rd') => ⟨.error e, rd', 0⟩

theorem decFloat_cases (major : Nat) :
    (major = sigF16 ∧ ∀ rd, decFloat rd major = readVal rd 2 fun bs => f32to64 (halfToFloatBits (beVal bs))) ∨
    (major = sigF32 ∧ ∀ rd, decFloat rd major = readVal rd 4 fun bs => f32to64 (beVal bs)) ∨
    (major ≠ sigF16 ∧ major ≠ sigF32 ∧ ∀ rd, decFloat rd major = readVal rd 8 beVal) := by
  unfold decFloat
  by_cases h1 : major = sigF16
  · exact .inl ⟨h1, fun rd => by rw [if_pos (beq_iff_eq.2 h1)]; rfl⟩
  by_cases h2 : major = sigF32
  · exact .inr (.inl ⟨h2, fun rd => by rw [if_neg (mt beq_iff_eq.1 h1), if_pos (beq_iff_eq.2 h2)]; rfl⟩)
  · exact .inr (.inr ⟨h1, h2, fun rd => by rw [if_neg (mt beq_iff_eq.1 h1), if_neg (mt beq_iff_eq.1 h2)]; rfl⟩)

theorem decUint_cases (major : Nat) :
    (major % 32 < 24 ∧ ∀ rd, decUint rd major = ⟨.ok (major % 32), rd, 0⟩) ∨
    (major % 32 = 24 ∧ ∀ rd, decUint rd major = read1Val rd) ∨
    (∃ k, (major % 32, k) ∈ [(25, 2), (26, 4), (27, 8)] ∧ ∀ rd, decUint rd major = readVal rd k beVal) ∨
    (27 < major % 32 ∧ ∀ rd, decUint rd major = ⟨.error .syntax, rd, 0⟩) := by
  unfold decUint
  generalize major % 32 = ai
  by_cases h0 : ai ≤ 0x17
  · exact .inl ⟨by omega, fun rd => if_pos h0⟩
  by_cases h1 : ai = 0x18
  · subst h1; exact .inr (.inl ⟨rfl, fun rd => rfl⟩)
  by_cases h2 : ai = 0x19
  · subst h2; exact .inr (.inr (.inl ⟨2, by simp, fun rd => rfl⟩))
  by_cases h3 : ai = 0x1a
  · subst h3; exact .inr (.inr (.inl ⟨4, by simp, fun rd => rfl⟩))
  by_cases h4 : ai = 0x1b
  · subst h4; exact .inr (.inr (.inl ⟨8, by simp, fun rd => rfl⟩))
  · refine .inr (.inr (.inr ⟨by omega, fun rd => ?_⟩))
    rw [if_neg h0, if_neg (by simpa using h1), if_neg (by simpa using h2), if_neg (by simpa using h3),
      if_neg (by simpa using h4)]

theorem readVal_len (rd : Rd) (n : Nat) (f : Bytes → Nat) :
    (readVal rd n f).rd.data.length ≤ rd.data.length ∧ (readVal rd n f).alloc = 0 := by
  unfold readVal
  rcases h : rd.readN n with ⟨e | bs, rd'⟩
  · exact ⟨C06.readN_err_len h, rfl⟩
  · exact ⟨Nat.le.intro (C06.readN_ok_len h).1, rfl⟩

theorem read1Val_len (rd : Rd) : (read1Val rd).rd.data.length ≤ rd.data.length ∧ (read1Val rd).alloc = 0 := by
  unfold read1Val
  rcases h : rd.read1 with ⟨e | ⟨b, rd1⟩, rd'⟩
  · exact ⟨C06.read1_err_len h, rfl⟩
  · exact ⟨Nat.le.intro (C06.read1_ok_len h), rfl⟩

theorem decUint_len (rd : Rd) (m : Nat) :
    (decUint rd m).rd.data.length ≤ rd.data.length ∧ (decUint rd m).alloc = 0 := by
  rcases decUint_cases m with ⟨_, h⟩ | ⟨_, h⟩ | ⟨k, _, h⟩ | ⟨_, h⟩ <;> rw [h]
  · exact ⟨Nat.le_refl _, rfl⟩
  · exact read1Val_len rd
  · exact readVal_len rd k _
  · exact ⟨Nat.le_refl _, rfl⟩

theorem decFloat_len (rd : Rd) (m : Nat) :
    (decFloat rd m).rd.data.length ≤ rd.data.length ∧ (decFloat rd m).alloc = 0 := by
  rcases decFloat_cases m with ⟨_, h⟩ | ⟨_, h⟩ | ⟨_, _, h⟩ <;> rw [h] <;> exact readVal_len rd _ _

def lenRead (rd : Rd) (major : Nat) (aOk aErr : Nat → Nat) : R Bytes :=
  let l := decLen rd major
  match l.res with
  | .error e => ⟨.error e, l.rd, 0⟩
  | .ok n =>
    if n > cap32M then ⟨.error .range, l.rd, 0⟩
    else match l.rd.readN n with
      | (.ok bs, rd') => ⟨.ok bs, rd', aOk n⟩
      | (.error e, rd') => ⟨.error e, rd', aErr n⟩

theorem decBytes_eq (rd : Rd) (major : Nat) : decBytes rd major = lenRead rd major (fun n => n) (fun n => n) := rfl

theorem decString_eq (rd : Rd) (major : Nat) :
    decString rd major =
      lenRead rd major (fun n => (if n < 32 then 0 else n) + n) (fun n => if n < 32 then 0 else n) := rfl

/-- `decNegInt` and `decLen` are `decUint` followed by the same range check; `g` is what they make of the value. -/
def decRange {α : Type} (g : Nat → α) (rd : Rd) (major : Nat) : R α :=
  let u := decUint rd major
  match u.res with
  | .error e => ⟨.error e, u.rd, 0⟩
  | .ok ui => if ui > maxInt then ⟨.error .range, u.rd, 0⟩ else ⟨.ok (g ui), u.rd, 0⟩

theorem decRange_ok {α : Type} (g : Nat → α) {rd : Rd} {major n : Nat} (h : (decUint rd major).res = .ok n) :
    decRange g rd major = ⟨if n > maxInt then .error .range else .ok (g n), (decUint rd major).rd, 0⟩ := by
  unfold decRange
  dsimp only
  rw [h]
  dsimp only
  split <;> rfl

theorem decRange_err {α : Type} (g : Nat → α) {rd : Rd} {major : Nat} {e : Err} (h : (decUint rd major).res = .error e) :
    decRange g rd major = ⟨.error e, (decUint rd major).rd, 0⟩ := by
  unfold decRange
  dsimp only
  rw [h]

theorem decRange_rd {α : Type} (g : Nat → α) (rd : Rd) (major : Nat) :
    (decRange g rd major).rd = (decUint rd major).rd ∧ (decRange g rd major).alloc = 0 := by
  cases h : (decUint rd major).res with
  | error e => rw [decRange_err g h]; exact ⟨rfl, rfl⟩
  | ok n => rw [decRange_ok g h]; exact ⟨rfl, rfl⟩

theorem decLen_ok {rd : Rd} {major n : Nat} (h : (decUint rd major).res = .ok n) :
    decLen rd major = ⟨if n > maxInt then .error .range else .ok n, (decUint rd major).rd, 0⟩ :=
  decRange_ok _ h

theorem decLen_err {rd : Rd} {major : Nat} {e : Err} (h : (decUint rd major).res = .error e) :
    decLen rd major = ⟨.error e, (decUint rd major).rd, 0⟩ :=
  decRange_err (fun n => n) h

theorem decNegInt_ok {rd : Rd} {major n : Nat} (h : (decUint rd major).res = .ok n) :
    decNegInt rd major =
      ⟨if n > maxInt then .error .range else .ok (-1 - (n : Int)), (decUint rd major).rd, 0⟩ :=
  decRange_ok _ h

theorem decNegInt_err {rd : Rd} {major : Nat} {e : Err} (h : (decUint rd major).res = .error e) :
    decNegInt rd major = ⟨.error e, (decUint rd major).rd, 0⟩ :=
  decRange_err (fun n => -1 - (n : Int)) h

theorem decLen_rd (rd : Rd) (major : Nat) :
    (decLen rd major).rd = (decUint rd major).rd ∧ (decLen rd major).alloc = 0 :=
  decRange_rd (fun n => n) rd major

theorem decNegInt_rd (rd : Rd) (major : Nat) :
    (decNegInt rd major).rd = (decUint rd major).rd ∧ (decNegInt rd major).alloc = 0 :=
  decRange_rd (fun n => -1 - (n : Int)) rd major

theorem decLen_len (rd : Rd) (m : Nat) :
    (decLen rd m).rd.data.length ≤ rd.data.length ∧ (decLen rd m).alloc = 0 :=
  ⟨(decLen_rd rd m).1 ▸ (decUint_len rd m).1, (decLen_rd rd m).2⟩

theorem decNegInt_len (rd : Rd) (m : Nat) :
    (decNegInt rd m).rd.data.length ≤ rd.data.length ∧ (decNegInt rd m).alloc = 0 :=
  ⟨(decNegInt_rd rd m).1 ▸ (decUint_len rd m).1, (decNegInt_rd rd m).2⟩

theorem scalarOut_rd {α : Type} (s : St) (r : R α) (mk : α → Body) (tag : Option Int) :
    (scalarOut s r mk tag).rd = r.rd := by
  unfold scalarOut
  split <;> rfl

theorem scalarOut_st {α : Type} (s : St) (r : R α) (mk : α → Body) (tag : Option Int) :
    (scalarOut s r mk tag).st = s := by
  unfold scalarOut
  split <;> rfl

theorem inContainer_st (o : Out) : (inContainer o).st = o.st ∧ (inContainer o).rd = o.rd ∧ (inContainer o).alloc = o.alloc := by
  unfold inContainer
  split <;> exact ⟨rfl, rfl, rfl⟩

end Refmt.CborDec

namespace Refmt.C04
open Refmt Refmt.CborDec

theorem scalarOut_mk_ok {α : Type} (s : St) (res : Except Err α) (rd : Rd) (al : Nat) (mk : α → Body)
    (tag : Option Int) (v : α) (h : res = .ok v) :
    scalarOut s ⟨res, rd, al⟩ mk tag = ⟨s, rd, .tok ⟨mk v, tag⟩ true, al⟩ := by
  unfold scalarOut; subst h; rfl

theorem scalarOut_mk_err {α : Type} (s : St) (res : Except Err α) (rd : Rd) (al : Nat) (mk : α → Body)
    (tag : Option Int) (e : Err) (h : res = .error e) :
    (scalarOut s ⟨res, rd, al⟩ mk tag).ret = .err e := by
  unfold scalarOut; subst h; rfl

end Refmt.C04
