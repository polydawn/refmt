/-
  Simulation lemmas for the machines without children of their own: the leaves (primitive, error thunk) and the
  wrappers, which step a delegate: ptrDeref and transform (delegate in the same row), wildcard (delegate in a row of
  its own), keyed union (delegate in the tip row, which may be the union machine's own).
-/
import RefmtProofs.Lemmas.MarshalMachDefs
import RefmtProofs.Lemmas.MarshalMachFun
open Refmt Refmt.Obj Refmt.Obj.MM

namespace Refmt.MachL

variable {ts : Types} {a : Atlas} {trs : Trs}

theorem primTok_irrel (i j : Nat) (v : Val) : primTok ts i v = primTok ts j v := rfl

theorem primTok_cases (id : Nat) (v : Val) (h : (primTok ts id v).fail ≠ some .panic) :
    ∃ t, primTok ts id v = ⟨[t], none⟩ := by
  unfold primTok at h ⊢
  split <;> first | exact ⟨_, rfl⟩ | simp [MOut.bad] at h

theorem sim_prim {mk vm : Mask} {L row hi rt id v t} (hcl : Clean (row :: hi)) (hr : primTok ts id v = ⟨[t], none⟩) :
    Sim ts a trs mk vm (CfgBare .prim .prim) L row hi .prim rt v (primTok ts id v) := by
  rw [hr]
  refine Sim.run (by simp) 1 { row with prim := { row.prim with rv := v } } hi (fun lo hl => ?_) (agreeW.refl _ _) rfl
    (hcl.of_map rfl) fun lo hl w cur st be => ?_
  · subst hl; simp [resetM_kind, resetPrim, updRow_at]
  · subst hl
    refine .fin (n := 1) (hi' := hi) ?_ (agreeW.refl _ _) rfl (hcl.of_map rfl)
    simp only [stepM_kind, stepPrim, setWm_prim]
    rw [primTok_irrel _ id, hr]

theorem sim_errThunk {mk vm : Mask} {L row hi rt v} (hcfg : CfgBare .errThunk .errThunk row) :
    Sim ts a trs mk vm (CfgBare .errThunk .errThunk) L row hi .errThunk rt v (MOut.bad .err) := by
  refine Sim.bad rfl 1 fun lo hl => ?_
  subst hl
  simp [resetM_kind, resetErr, hcfg.2]

theorem setWm_ptr_own (b2 b3 : Bool) (w : WVal) (r : Row) : (setWm (false, b2, b3) w r).ptr = r.ptr := rfl

theorem sim_ptr_nil {p2 p3 b2 b3 : Bool} {Q : Row → Prop} {L row hi rt v} (hcl : Clean (row :: hi))
    (hd : derefN row.ptr.peelCount v = none)
    (hq : ∀ w, Q (setWm (false, b2, b3) w { row with ptr := { row.ptr with isNil := true } })) :
    Sim ts a trs (false, p2, p3) (false, b2, b3) Q L row hi .ptr rt v (MOut.ok [⟨.null, none⟩]) := by
  refine Sim.run (by simp [MOut.ok]) 1 { row with ptr := { row.ptr with isNil := true } } hi (fun lo hl => ?_)
    ⟨fun h => (by cases h), fun _ => rfl, fun _ => rfl⟩ ?_ (hcl.of_map rfl) fun lo hl w cur st be => ?_
  · subst hl; simp [resetM_kind, resetPtr, hd, updRow_at]
  · have := hq (getW { row with ptr := { row.ptr with isNil := true } })
    rwa [setWm_self] at this
  · subst hl
    refine .fin (n := 1) (hi' := hi) ?_ (agreeW.refl _ _) (hq w) (hcl.of_map rfl)
    simp [stepM_kind, stepPtr, tk, setWm_ptr_own]

theorem reset_ptr_some {L n : Nat} {lo : List Row} {row hi rt v inner k'} (hl : lo.length = L)
    (hd : derefN row.ptr.peelCount v = some inner) (hm : row.ptr.mach = some k') :
    resetM ts a trs (n+1) ⟨L, .ptr⟩ rt v (lo ++ row :: hi) =
      resetM ts a trs n ⟨L, k'⟩ (peel ts 64 0 rt).2 inner
        (lo ++ { row with ptr := { row.ptr with isNil := false } } :: hi) := by
  subst hl
  simp [resetM_kind, resetPtr, hd, hm, updRow_at]

theorem step_ptr_pass {L n : Nat} {lo : List Row} {row rw : Row} {hi st cur be k'} (hl : lo.length = L)
    (hm : row.ptr.mach = some k') (hP : rw.ptr = { row.ptr with isNil := false }) :
    stepM ts a trs (n+1) ⟨L, .ptr⟩ ⟨lo ++ rw :: hi, st, cur, be⟩ =
      stepM ts a trs n ⟨L, k'⟩ ⟨lo ++ rw :: hi, st, cur, be⟩ := by
  subst hl
  simp [stepM_kind, stepPtr, hP, hm]

theorem sim_ptr_some {p2 p3 b2 b3 : Bool} {Qd : Row → Prop} {L row hi rt v inner k' r}
    (hd : derefN row.ptr.peelCount v = some inner) (hm : row.ptr.mach = some k')
    (hsim : Sim ts a trs (true, p2, p3) (false, b2, b3) Qd L { row with ptr := { row.ptr with isNil := false } } hi
      k' (peel ts 64 0 rt).2 inner r) :
    Sim ts a trs (false, p2, p3) (false, b2, b3) (fun r2 => Qd r2 ∧ r2.ptr = { row.ptr with isNil := false }) L row hi
      .ptr rt v r := by
  rcases hsim with ⟨rfl, n, hn⟩ | ⟨hne, n, row1, hi1, hr, hag1, hq1, hc1, hrun⟩
  · exact Sim.bad rfl (n+1) fun lo hl => by rw [reset_ptr_some hl hd hm, hn lo hl]
  · have hp1 : row1.ptr = { row.ptr with isNil := false } := hag1.1 rfl
    refine Sim.run hne (n+1) row1 hi1 (fun lo hl => by rw [reset_ptr_some hl hd hm, hr lo hl])
      ⟨fun h => (by cases h), hag1.2.1, hag1.2.2⟩ ⟨hq1, hp1⟩ hc1 fun lo hl w cur st be => ?_
    -- while the ptrDeref sub-struct stays as Reset left it, the delegate's Steps are the ptrDeref machine's
    refine (hrun lo hl w cur st be).pass
      (Embed.same (I := fun r => r.ptr = { row.ptr with isNil := false }) (by simp [Mask.le]) ⟨id, id, id⟩
        (fun hP hag => (hag.1 rfl).trans hP) (fun w hP => (setWm_ptr_own b2 b3 w _).trans hP))
      ?hok ?herr ?hQ ⟨rfl, rfl, (setWm_ptr_own b2 b3 w row1).trans hp1⟩
    · rintro r h _ _ n t dn r2 h2 st2 cur2 ⟨rfl, rfl, hP⟩ _ hs
      exact ⟨_, by rw [step_ptr_pass hl hm hP, hs]⟩
    · rintro r h _ _ n e ⟨rfl, rfl, hP⟩ hs
      exact ⟨_, by rw [step_ptr_pass hl hm hP, hs]⟩
    · rintro r h _ _ ⟨rfl, rfl, hP⟩ hq hcl
      exact ⟨⟨hq, hP⟩, hcl⟩

theorem sim_wild_nil {mk vm : Mask} {L row hi rt} (hcl : Clean (row :: hi)) :
    Sim ts a trs mk vm (CfgBare .wildcard .wild) L row hi .wild rt (.iface none)
      (MOut.ok [⟨.null, none⟩]) := by
  refine Sim.run (by simp [MOut.ok]) 1 { row with wild := { delegate := none } } hi (fun lo hl => ?_) (agreeW.refl _ _)
    rfl (hcl.of_map rfl) fun lo hl w cur st be => ?_
  · subst hl; simp [resetM_kind, resetWild, updRow_at]
  · subst hl
    refine .fin (n := 1) (hi' := hi) ?_ (agreeW.refl _ _) rfl (hcl.of_map rfl)
    simp [stepM_kind, stepWild, tk, setWm_wild]

theorem reset_wild_some {L ny n : Nat} {lo : List Row} {row wrow hi rt dt dv drow kd} (hl : lo.length = L) (hn : ny ≤ n)
    (hy : yieldM ts a ny Row.zero dt = .ok (drow, kd))
    (hw : wrow = { row with wild := { delegate := some ⟨L + 1 + hi.length, kd⟩ } }) :
    resetM ts a trs (n+1) ⟨L, .wild⟩ rt (.iface (some (dt, dv))) (lo ++ row :: hi) =
      resetM ts a trs n ⟨L + 1 + hi.length, kd⟩ dt dv ((lo ++ wrow :: hi) ++ drow :: []) := by
  subst hl hw
  simp only [resetM_kind, resetWild, requisition_at (yieldM_le hy NS.ok hn), RowL.reassoc, updRow_at, RowL.len_at]

theorem step_wild_pass {L n : Nat} {lo : List Row} {wrow : Row} {hi : List Row} {d : MRef} {x hi' st cur be res}
    (hl : lo.length = L) (hw : wrow.wild.delegate = some d)
    (hs : stepM ts a trs n d ⟨(lo ++ wrow :: hi) ++ x :: hi', st, cur, be⟩ = res) :
    stepM ts a trs (n+1) ⟨L, .wild⟩ ⟨lo ++ wrow :: (hi ++ x :: hi'), st, cur, be⟩ = res := by
  subst hl
  rw [RowL.reassoc] at hs
  simp only [stepM_kind, stepWild, hw, hs]

/-- `vm = FFF`: the wildcard machine's row lies in its delegate's `lo`, which a `Steps` derivation keeps fixed, so
    nothing in it may change from outside while the delegate runs (likewise `sim_union_tip`).  A transform machine's
    delegate has to let the transform sub-struct change under it, so `PlainT` (MarshalMachMain) excludes the wildcard
    machine: a limit of this proof, not a clash of the two models. -/
theorem sim_wild_some {mk mkd vmd : Mask} {Qd : Row → Prop} {L row hi rt dt dv ny drow kd r}
    (hcl : Clean (row :: hi)) (hy : yieldM ts a ny Row.zero dt = .ok (drow, kd))
    (hsim : Sim ts a trs mkd vmd Qd (L + 1 + hi.length) drow [] kd dt dv r) :
    Sim ts a trs mk FFF (CfgBare .wildcard .wild) L row hi .wild rt (.iface (some (dt, dv))) r := by
  obtain ⟨wrow, hwrow⟩ : ∃ x : Row, x = { row with wild := { delegate := some ⟨L + 1 + hi.length, kd⟩ } } := ⟨_, rfl⟩
  have hwd : wrow.wild.delegate = some ⟨L + 1 + hi.length, kd⟩ := by rw [hwrow]
  have hlen : ∀ lo : List Row, lo.length = L → (lo ++ wrow :: hi).length = L + 1 + hi.length := by
    intro lo hl; rw [RowL.len_at, hl]
  have hwcl : ∀ {x : List Row}, Clean x → Clean (wrow :: (hi ++ x)) := fun hx =>
    Clean.cons (by subst hwrow; exact hcl.head) (Clean.append hcl.tail hx)
  rcases hsim with ⟨rfl, n, hn⟩ | ⟨hne, n, row1, hi1, hr, _, _, hc1, hrun⟩
  · refine Sim.bad rfl (max ny n + 1) fun lo hl => ?_
    have := hn (lo ++ wrow :: hi) (hlen lo hl)
    rw [reset_wild_some hl (Nat.le_max_left _ _) hy hwrow, resetM_le this NS.f (Nat.le_max_right _ _)]
  · refine Sim.run hne (max ny n + 1) wrow (hi ++ row1 :: hi1) (fun lo hl => ?_)
      (by subst hwrow; exact agreeW.refl _ _) rfl (hwcl hc1) fun lo hl w cur st be => ?_
    · have := hr (lo ++ wrow :: hi) (hlen lo hl)
      rw [reset_wild_some hl (Nat.le_max_left _ _) hy hwrow, resetM_le this NS.ok (Nat.le_max_right _ _), RowL.reassoc]
    · have hD := Steps.unchanged fun w => hrun (lo ++ wrow :: hi) (hlen lo hl) w cur st be
      rw [setWm_FFF]
      refine hD.pass (Embed.above wrow hi lo _ _ _) ?hok ?herr ?hQ ⟨rfl, rfl⟩
      · rintro r h _ _ n t dn r2 h2 st2 cur2 _ _ hs
        exact ⟨_, by rw [RowL.reassoc]; exact step_wild_pass hl hwd hs⟩
      · rintro r h _ _ n e _ hs
        exact ⟨_, by rw [RowL.reassoc]; exact step_wild_pass hl hwd hs⟩
      · rintro r h _ _ ⟨rfl, rfl⟩ _ hcl'
        exact ⟨rfl, hwcl hcl'⟩

def rtag (tag : Option Int) (t : Tok) : Tok :=
  match tag with
  | some g => { t with tag := some g }
  | none => t

theorem retagFirst_cons {tag : Option Int} {r : MOut} {t1 rest} (h : r.toks = t1 :: rest) :
    (retagFirst tag r).toks = rtag tag t1 :: rest := by
  unfold retagFirst rtag
  cases tag <;> simp [h]

theorem retagFirst_nil {tag : Option Int} {r : MOut} (h : r.toks = []) : retagFirst tag r = r := by
  unfold retagFirst
  cases tag <;> simp [h]

theorem retagFirst_nil_iff (tag : Option Int) (r : MOut) : (retagFirst tag r).toks = [] ↔ r.toks = [] := by
  cases h : r.toks with
  | nil => rw [retagFirst_nil h]; simp [h]
  | cons t rest => rw [retagFirst_cons h]; simp

def clearT (T : TransM) : TransM :=
  match T.tag with
  | some _ => { T with first := false }
  | none => T

theorem clearT_past (T : TransM) : (clearT T).first = false ∨ (clearT T).tag = none := by
  unfold clearT
  split
  · exact .inl rfl
  · next h => exact .inr h

structure TCfg (fn mty : Nat) (kd : MK) (tag : Option Int) (T : TransM) : Prop where
  trFunc : T.trFunc = fn
  mty : T.mty = mty
  delegate : T.delegate = some kd
  tag : T.tag = tag

theorem TCfg.setFirst {fn mty kd tag T} (h : TCfg fn mty kd tag T) (b : Bool) : TCfg fn mty kd tag { T with first := b } :=
  ⟨h.trFunc, h.mty, h.delegate, h.tag⟩

theorem TCfg.clearT {fn mty kd tag T} (h : TCfg fn mty kd tag T) : TCfg fn mty kd tag (clearT T) := by
  unfold MachL.clearT
  split
  · exact h.setFirst false
  · exact h

theorem stepM_transform {n lo row hi st cur be} :
    stepM ts a trs (n+1) ⟨lo.length, .transform⟩ ⟨lo ++ row :: hi, st, cur, be⟩ =
      stepTransform (stepM ts a trs n) ⟨lo.length, .transform⟩ row ⟨lo ++ row :: hi, st, cur, be⟩ := by
  simp only [stepM_kind]

theorem step_transform_pass {n lo row hi st cur be kd row'' hi'' st'' cur'' t dn}
    (hd : row.transform.delegate = some kd)
    (hs : stepM ts a trs n ⟨lo.length, kd⟩ ⟨lo ++ row :: hi, st, cur, be⟩ =
      .ok ⟨t, dn, ⟨lo ++ row'' :: hi'', st'', cur'', be⟩⟩)
    (hf : row''.transform.first = false ∨ row''.transform.tag = none) :
    stepM ts a trs (n+1) ⟨lo.length, .transform⟩ ⟨lo ++ row :: hi, st, cur, be⟩ =
      .ok ⟨t, dn, ⟨lo ++ row'' :: hi'', st'', cur'', be⟩⟩ := by
  rw [stepM_transform]
  simp only [stepTransform, hd, hs, RowL.getRow]
  rcases hf with h | h
  · simp [h]
  · cases hfi : row''.transform.first <;> simp [h]

theorem step_transform_first {n lo row hi st cur be kd row'' hi'' st'' cur'' t dn T}
    (hd : row.transform.delegate = some kd)
    (hs : stepM ts a trs n ⟨lo.length, kd⟩ ⟨lo ++ row :: hi, st, cur, be⟩ =
      .ok ⟨t, dn, ⟨lo ++ row'' :: hi'', st'', cur'', be⟩⟩)
    (hT : row''.transform = T) (hf : T.first = true) :
    stepM ts a trs (n+1) ⟨lo.length, .transform⟩ ⟨lo ++ row :: hi, st, cur, be⟩ =
      .ok ⟨rtag T.tag t, dn, ⟨lo ++ { row'' with transform := clearT T } :: hi'', st'', cur'', be⟩⟩ := by
  subst hT
  rw [stepM_transform]
  simp only [stepTransform, hd, hs, RowL.getRow, hf]
  cases htag : row''.transform.tag with
  | none => simp [rtag, clearT, htag]
  | some g => simp [rtag, clearT, htag, upd_at]

theorem step_transform_err {n lo row hi st cur be kd e} (hd : row.transform.delegate = some kd)
    (hs : stepM ts a trs n ⟨lo.length, kd⟩ ⟨lo ++ row :: hi, st, cur, be⟩ = .error e) :
    stepM ts a trs (n+1) ⟨lo.length, .transform⟩ ⟨lo ++ row :: hi, st, cur, be⟩ = .error e := by
  rw [stepM_transform]
  simp only [stepTransform, hd, hs]

theorem setWm_tr_own (b1 b3 : Bool) (w : WVal) (r : Row) : (setWm (b1, false, b3) w r).transform = r.transform := rfl

theorem setWm_absorb_transform (b3 : Bool) (w : WVal) (r : Row) (T : TransM) :
    setWm (false, true, b3) (getW (setWm (false, false, b3) w { r with transform := T })) r =
      setWm (false, false, b3) w { r with transform := T } :=
  setWm_getW rfl rfl rfl rfl rfl rfl (fun _ => rfl) (fun h => by cases h) (fun h => by cases h; rfl)

theorem agreeW_tr_set {p1 p3 : Bool} {r r' : Row} (T : TransM) (h : agreeW (p1, true, p3) r r') :
    agreeW (p1, false, p3) r { r' with transform := T } :=
  ⟨h.1, fun x => (by cases x), h.2.2⟩

theorem sim_transform {p1 p3 b3 : Bool} {Qd : Row → Prop} {L row hi rt v fn mty kd tag} {rin : Val → MOut}
    (hcfg : TCfg fn mty kd tag row.transform)
    (hsim : ∀ tv, trs.m fn v = some tv →
      Sim ts a trs (p1, true, p3) (false, true, b3) Qd L { row with transform := { row.transform with first := true } } hi
        kd mty tv (rin tv))
    (hqd : ∀ (r2 : Row) (T : TransM), Qd r2 → Qd { r2 with transform := T }) :
    Sim ts a trs (p1, false, p3) (false, false, b3) (fun r2 => Qd r2 ∧ TCfg fn mty kd tag r2.transform) L row hi
      .transform rt v
      (match trs.m fn v with
       | none => .bad .err
       | some tv => retagFirst tag (rin tv)) := by
  cases htv : trs.m fn v with
  | none =>
    refine Sim.bad rfl 1 fun lo hl => ?_
    subst hl
    simp [resetM_kind, resetTransform, hcfg.trFunc, htv]
  | some tv =>
    simp only
    have hreset : ∀ (lo : List Row) n, lo.length = L → resetM ts a trs (n+1) ⟨L, .transform⟩ rt v (lo ++ row :: hi) =
        resetM ts a trs n ⟨L, kd⟩ mty tv
          (lo ++ { row with transform := { row.transform with first := true } } :: hi) := by
      intro lo n hl; subst hl
      simp [resetM_kind, resetTransform, hcfg.trFunc, htv, hcfg.delegate, hcfg.mty, updRow_at]
    -- the transform sub-struct until the delegate has taken its first Step: `T1`; from then on: `clearT T1`
    obtain ⟨T1, hT1⟩ : ∃ T, T = { row.transform with first := true } := ⟨_, rfl⟩
    have hc1 : TCfg fn mty kd tag T1 := by rw [hT1]; exact hcfg.setFirst true
    have hf1 : T1.first = true := by rw [hT1]
    rw [← hT1] at hsim hreset
    rcases hsim tv htv with ⟨hbad, n, hn⟩ | ⟨hne, n, row1, hi1, hr, hag1, hq1, hcl1, hrun⟩
    · rw [hbad, retagFirst_nil rfl]
      exact Sim.bad rfl (n+1) fun lo hl => by rw [hreset lo n hl, hn lo hl]
    · have ht1 : row1.transform = T1 := hag1.2.1 rfl
      refine Sim.run (by rwa [retagFirst_nil_iff, ObjL.retagFirst_fail]) (n+1) row1 hi1
        (fun lo hl => by rw [hreset lo n hl, hr lo hl]) ⟨hag1.1, fun h => (by cases h), hag1.2.2⟩
        ⟨hq1, by rw [ht1]; exact hc1⟩ hcl1 fun lo hl w cur st be => ?_
      have hD := hrun lo hl (getW (setWm (false, false, b3) w row1)) cur st be
      subst hl
      rw [setWm_absorb_transform b3 w row1 row1.transform] at hD
      have hXt : (setWm (false, false, b3) w row1).transform = T1 := by rw [setWm_tr_own, ht1]
      generalize setWm (false, false, b3) w row1 = X at hD hXt
      have hdelX : X.transform.delegate = some kd := by rw [hXt]; exact hc1.delegate
      rw [ObjL.retagFirst_fail]
      -- the delegate's first Step does not recurse: it reports done, fails, or leaves the driver where it is
      generalize hT : (rin tv).toks = toks at hD
      generalize hF : (rin tv).fail = fl at hD
      cases hD with
      | fin hs hag hq' hcl =>
        have hfirst := step_transform_first hdelX hs ((hag.2.1 rfl).trans hXt) hf1
        rw [hc1.tag] at hfirst
        rw [retagFirst_cons hT]
        exact .fin hfirst (agreeW_tr_set _ hag) ⟨hqd _ _ hq', hc1.clearT⟩ (hcl.of_map rfl)
      | err hs =>
        rw [retagFirst_nil hT, hT]
        exact .err (step_transform_err hdelX hs)
      | @tok _ _ _ t rowA hiA toks' _ n hs hagA hrest =>
        have hfirst := step_transform_first hdelX hs ((hagA.2.1 rfl).trans hXt) hf1
        rw [hc1.tag] at hfirst
        rw [retagFirst_cons hT]
        refine .tok hfirst (agreeW_tr_set _ hagA) fun w' => ?_
        have hR := hrest (getW (setWm (false, false, b3) w' { rowA with transform := clearT T1 }))
        rw [setWm_absorb_transform b3 w' rowA (clearT T1)] at hR
        refine hR.pass
          (Embed.same (I := fun r => r.transform = clearT T1) (by simp [Mask.le]) (by simp [Mask.le])
            (fun hI hag => (hag.2.1 rfl).trans hI) (fun w hI => (setWm_tr_own false b3 w _).trans hI))
          ?hok ?herr ?hQ ⟨rfl, rfl, rfl⟩
        · rintro r h _ _ n t dn r2 h2 st2 cur2 ⟨rfl, rfl, hI⟩ hag hs
          exact ⟨_, step_transform_pass (by rw [hI]; exact hc1.clearT.delegate) hs
            (by rw [hag.2.1 rfl, hI]; exact clearT_past T1)⟩
        · rintro r h _ _ n e ⟨rfl, rfl, hI⟩ hs
          exact ⟨_, step_transform_err (by rw [hI]; exact hc1.clearT.delegate) hs⟩
        · rintro r h _ _ ⟨rfl, rfl, hI⟩ hq' hcl
          exact ⟨⟨hq', by rw [hI]; exact hc1.clearT⟩, hcl⟩

def setPhase (p : UPhase) (r : Row) : Row := { r with union := { r.union with step := p } }

theorem setPhase_setPhase (p q : UPhase) (r : Row) : setPhase p (setPhase q r) = setPhase p r := rfl

theorem setWm_setPhase (p : UPhase) (r : Row) : setWm (false, false, true) (getW (setPhase p r)) r = setPhase p r := rfl

theorem stepM_union {n lo row hi st cur be} :
    stepM ts a trs (n+1) ⟨lo.length, .union⟩ ⟨lo ++ row :: hi, st, cur, be⟩ =
      stepUnion (stepM ts a trs n) ⟨lo.length, .union⟩ row ⟨lo ++ row :: hi, st, cur, be⟩ := by
  simp only [stepM_kind]

theorem step_union_open {n lo row hi st cur be} (h : row.union.step = .emitMapOpen) :
    stepM ts a trs (n+1) ⟨lo.length, .union⟩ ⟨lo ++ row :: hi, st, cur, be⟩ =
      .ok ⟨⟨.mapOpen 1, none⟩, false, ⟨lo ++ setPhase .emitKey row :: hi, st, cur, be⟩⟩ := by
  rw [stepM_union]
  simp [stepUnion, h, upd_at, tk, setPhase]

theorem step_union_key {n lo row hi st cur be} (h : row.union.step = .emitKey) :
    stepM ts a trs (n+1) ⟨lo.length, .union⟩ ⟨lo ++ row :: hi, st, cur, be⟩ =
      .ok ⟨⟨.str row.union.elementName, none⟩, false, ⟨lo ++ setPhase .delegate row :: hi, st, cur, be⟩⟩ := by
  rw [stepM_union]
  simp [stepUnion, h, upd_at, tk, setPhase]

theorem step_union_close {n lo row hi st cur be} (h : row.union.step = .emitMapClose) :
    stepM ts a trs (n+1) ⟨lo.length, .union⟩ ⟨lo ++ row :: hi, st, cur, be⟩ =
      .ok ⟨⟨.mapClose, none⟩, true, ⟨lo ++ setPhase .nil row :: hi, st, cur, be⟩⟩ := by
  rw [stepM_union]
  simp [stepUnion, h, upd_at, tk, setPhase]

theorem step_union_pass {n lo row hi st cur be d res}
    (h : row.union.step = .delegate) (hd : row.union.delegate = some d)
    (hs : stepM ts a trs n d ⟨lo ++ row :: hi, st, cur, be⟩ = .ok res) (hnd : res.done = false) :
    stepM ts a trs (n+1) ⟨lo.length, .union⟩ ⟨lo ++ row :: hi, st, cur, be⟩ = .ok res := by
  rw [stepM_union]
  simp [stepUnion, h, hd, hs, hnd]

theorem step_union_err {n lo row hi st cur be d e}
    (h : row.union.step = .delegate) (hd : row.union.delegate = some d)
    (hs : stepM ts a trs n d ⟨lo ++ row :: hi, st, cur, be⟩ = .error e) :
    stepM ts a trs (n+1) ⟨lo.length, .union⟩ ⟨lo ++ row :: hi, st, cur, be⟩ = .error e := by
  rw [stepM_union]
  simp [stepUnion, h, hd, hs]

theorem step_union_done {n lo row hi st cur be d t row' hi' st' cur'}
    (h : row.union.step = .delegate) (hd : row.union.delegate = some d)
    (hs : stepM ts a trs n d ⟨lo ++ row :: hi, st, cur, be⟩ = .ok ⟨t, true, ⟨lo ++ row' :: hi', st', cur', be⟩⟩) :
    stepM ts a trs (n+1) ⟨lo.length, .union⟩ ⟨lo ++ row :: hi, st, cur, be⟩ =
      .ok ⟨t, false, ⟨lo ++ setPhase .emitMapClose row' :: hi', st', cur', be⟩⟩ := by
  rw [stepM_union]
  simp [stepUnion, h, hd, hs, upd_at, setPhase]

def uTarget (dv : Val) (name : Bytes) (r : Row) : Row :=
  { r with union := { r.union with target_rv := dv, elementName := name } }
def uDeleg (d : MRef) (r : Row) : Row := { r with union := { r.union with delegate := some d } }

theorem reset_union_same {L nc n lo row rt dt dv name idx me trow' kd} (hl : lo.length = L) (hn : nc ≤ n)
    (hfind : row.union.members.find? (fun x => (a.pool[x.2]?.map (·.ty)) == some dt) = some (name, idx))
    (hme : a.pool[idx]? = some me)
    (hc : cfgMach ts a nc (uTarget dv name row) me.ty (machForEntry ts me) = .ok (trow', kd)) :
    resetM ts a trs (n+1) ⟨L, .union⟩ rt (.iface (some (dt, dv))) (lo ++ row :: []) =
      match resetM ts a trs n ⟨L, kd⟩ me.ty dv (lo ++ uDeleg ⟨L, kd⟩ trow' :: []) with
      | .error x => .error x
      | .ok R4 => .ok (updRow R4 L (setPhase .emitMapOpen)) := by
  subst hl
  have hlen : ∀ x : Row, (lo ++ [x]).length - 1 = lo.length := by intro x; simp
  have hc' := cfgMach_le hc NS.ok hn
  simp only [uTarget] at hc'
  simp only [resetM_kind, RowL.getRow, resetUnion, hfind, hme, updRow_at, hlen, hc', RowL.set_at, uDeleg]
  rfl

theorem agreeW_ptr_only {p1 : Bool} {r r' : Row} (h : p1 = true → r'.ptr = r.ptr) : agreeW (p1, false, false) r r' :=
  ⟨h, fun x => (by cases x), fun x => (by cases x)⟩

theorem Steps.keyedUnion {D cur : MRef} {st be} {lo loD : List Row} {p1 : Bool} {mkD vmD : Mask} {Q QD : Row → Prop}
    {E : Row → List Row → Row → List Row → Prop} (hemb : Embed E lo loD (p1, false, false) mkD FFF vmD)
    (hU : ∀ {r hiD rW hiW}, E r hiD rW hiW → rW.union.step = .delegate ∧ rW.union.delegate = some D)
    (hQ : ∀ {r hiD rW hiW}, E r hiD rW hiW → QD r → Clean (r :: hiD) → Q (setPhase .nil rW) ∧ Clean (rW :: hiW))
    {row hi toks fl} (h : Steps ts a trs D cur st be loD mkD vmD QD false row hi toks fl) {U : Row} {hiW}
    (h0 : E row hi (setPhase .delegate U) hiW) :
    Steps ts a trs ⟨lo.length, .union⟩ cur st be lo (p1, false, false) FFF Q false (setPhase .emitMapOpen U) hiW
      (⟨.mapOpen 1, none⟩ :: ⟨.str U.union.elementName, none⟩ ::
        (toks ++ if fl = none then [⟨.mapClose, none⟩] else [])) fl := by
  refine .tok (step_union_open (n := 0) rfl) (agreeW_ptr_only fun _ => rfl) fun _ => ?_
  rw [setWm_FFF]
  refine .tok (step_union_key (n := 0) rfl) (agreeW_ptr_only fun _ => rfl) fun _ => ?_
  rw [setWm_FFF, setPhase_setPhase, setPhase_setPhase]
  refine (h.wrap hemb [⟨.mapClose, none⟩] ?hok ?herr ?hfin h0 rfl).weaken
  · intro r h rW hW n t r2 h2 st2 cur2 hE _ hs
    rw [hemb.rows hE] at hs ⊢
    exact ⟨_, step_union_pass (hU hE).1 (hU hE).2 hs rfl⟩
  · intro r h rW hW n e hE hs
    rw [hemb.rows hE] at hs ⊢
    exact ⟨_, step_union_err (hU hE).1 (hU hE).2 hs⟩
  · intro fr r h rW hW n t r' h' hE hag hs hq hcl
    obtain ⟨rW', hW', hE', hag'⟩ := hemb.next h' hE hag
    rw [hemb.rows hE, hemb.rows hE'] at hs
    refine .tok (step_union_done (hU hE).1 (hU hE).2 hs) (agreeW_ptr_only hag'.1) fun _ => ?_
    rw [setWm_FFF]
    exact .fin (step_union_close (n := 0) rfl) (agreeW_ptr_only fun _ => rfl) (hQ hE' hq hcl).1
      ((hQ hE' hq hcl).2.of_map rfl)

theorem sim_union_same {p1 : Bool} {Qd : Row → Prop} {L row rt dt dv name idx me trow' kd nc} {rin : MOut}
    (hfind : row.union.members.find? (fun x => (a.pool[x.2]?.map (·.ty)) == some dt) = some (name, idx))
    (hme : a.pool[idx]? = some me)
    (hc : cfgMach ts a nc (uTarget dv name row) me.ty (machForEntry ts me) = .ok (trow', kd))
    (htu : trow'.union = (uTarget dv name row).union) (htp : trow'.ptr = row.ptr)
    (hsim : Sim ts a trs (p1, false, true) (false, false, true) Qd L (uDeleg ⟨L, kd⟩ trow') [] kd me.ty dv rin) :
    Sim ts a trs (p1, false, false) FFF (fun r2 => r2.union.cfg = row.union.cfg ∧ r2.union.members = row.union.members)
      L row [] .union rt (.iface (some (dt, dv)))
      (unionOut name rin) := by
  rcases hsim with ⟨rfl, n, hn⟩ | ⟨hin, n, row1, hi1, hr, hag1, _, hc1, hrun⟩
  · refine Sim.bad rfl (max nc n + 1) fun lo hl => ?_
    rw [reset_union_same hl (Nat.le_max_left _ _) hfind hme hc, resetM_le (hn lo hl) NS.f (Nat.le_max_right _ _)]
  · have hu1 : row1.union = { (uTarget dv name row).union with delegate := some ⟨L, kd⟩ } := by
      rw [hag1.2.2 rfl]; simp only [uDeleg, htu]
    have hp1 : p1 = true → row1.ptr = row.ptr := fun h => by rw [hag1.1 h]; exact htp
    have hq1 : ∀ (p : UPhase) (r : Row), r.union = { row1.union with step := .delegate } →
        (setPhase p r).union.cfg = row.union.cfg ∧ (setPhase p r).union.members = row.union.members := fun p r hI =>
      ⟨by show r.union.cfg = _; rw [hI, hu1]; rfl, by show r.union.members = _; rw [hI, hu1]; rfl⟩
    rw [unionOut_eq hin]
    refine Sim.run (by simp) (max nc n + 1) (setPhase .emitMapOpen row1) hi1 (fun lo hl => ?_) (agreeW_ptr_only hp1)
      (hq1 _ (setPhase .delegate row1) rfl) (hc1.of_map rfl) fun lo hl w cur st be => ?_
    · rw [reset_union_same hl (Nat.le_max_left _ _) hfind hme hc, resetM_le (hr lo hl) NS.ok (Nat.le_max_right _ _)]
      subst hl
      simp only [updRow_at]
    · subst hl
      -- the member's machine lives in the union machine's row and sees the union sub-struct as foreign
      have hD := hrun lo rfl (getW (setPhase .delegate row1)) cur st be
      rw [setWm_setPhase] at hD
      have hname : row1.union.elementName = name := by rw [hu1]; rfl
      rw [setWm_FFF, ← hname]
      refine hD.keyedUnion
        (Embed.same (I := fun r => r.union = { row1.union with step := .delegate }) (by simp [Mask.le])
          (by simp [Mask.le]) (fun hI hag => (hag.2.2 rfl).trans hI) (fun _ hI => hI))
        ?hU ?hQ ⟨rfl, rfl, rfl⟩
      · rintro r h _ _ ⟨rfl, rfl, hI⟩
        rw [hI, hu1]
        exact ⟨rfl, rfl⟩
      · rintro r h _ _ ⟨rfl, rfl, hI⟩ _ hcl'
        exact ⟨hq1 _ r hI, hcl'⟩

theorem reset_union_tip {L nc n lo row hi0 trow rt dt dv name idx me trow' kd} (hl : lo.length = L) (hn : nc ≤ n)
    (hfind : row.union.members.find? (fun x => (a.pool[x.2]?.map (·.ty)) == some dt) = some (name, idx))
    (hme : a.pool[idx]? = some me)
    (hc : cfgMach ts a nc trow me.ty (machForEntry ts me) = .ok (trow', kd)) :
    resetM ts a trs (n+1) ⟨L, .union⟩ rt (.iface (some (dt, dv))) (lo ++ row :: (hi0 ++ [trow])) =
      match resetM ts a trs n ⟨L + 1 + hi0.length, kd⟩ me.ty dv
          (lo ++ uDeleg ⟨L + 1 + hi0.length, kd⟩ (uTarget dv name row) :: (hi0 ++ [trow'])) with
      | .error x => .error x
      | .ok R4 => .ok (updRow R4 L (setPhase .emitMapOpen)) := by
  subst hl
  have hc := cfgMach_le hc NS.ok hn
  have hlen : ∀ x : Row, (lo ++ x :: (hi0 ++ [trow])).length - 1 = lo.length + 1 + hi0.length := by
    intro x; simp; omega
  simp only [resetM_kind, resetUnion, hfind, hme, updRow_at, hlen, RowL.getRow_tip, hc, RowL.set_tip, uDeleg,
    uTarget]
  rfl

theorem sim_union_tip {p1 : Bool} {mkd vmd : Mask} {Qd : Row → Prop} {L row hi0 trow rt dt dv name idx me trow' kd nc}
    {rin : MOut} (hcl : Clean (row :: hi0))
    (hfind : row.union.members.find? (fun x => (a.pool[x.2]?.map (·.ty)) == some dt) = some (name, idx))
    (hme : a.pool[idx]? = some me)
    (hc : cfgMach ts a nc trow me.ty (machForEntry ts me) = .ok (trow', kd))
    (hsim : Sim ts a trs mkd vmd Qd (L + 1 + hi0.length) trow' [] kd me.ty dv rin) :
    Sim ts a trs (p1, false, false) FFF (fun r2 => r2.union.cfg = row.union.cfg ∧ r2.union.members = row.union.members)
      L row (hi0 ++ [trow]) .union rt (.iface (some (dt, dv)))
      (unionOut name rin) := by
  have hlen : ∀ (lo : List Row) (r' : Row), lo.length = L → (lo ++ r' :: hi0).length = L + 1 + hi0.length := by
    intro lo r' hl; rw [RowL.len_at, hl]
  -- the union machine's row `U` lies below the member's and stays as it is while the member runs
  obtain ⟨U, hUd⟩ : ∃ U, U = uDeleg ⟨L + 1 + hi0.length, kd⟩ (uTarget dv name row) := ⟨_, rfl⟩
  have hUcl : ∀ (p : UPhase) {x : List Row}, Clean x → Clean (setPhase p U :: (hi0 ++ x)) := fun p _ hx =>
    Clean.cons (by subst hUd; exact hcl.head) (Clean.append hcl.tail hx)
  have hUq : ∀ p : UPhase, (setPhase p U).union.cfg = row.union.cfg ∧ (setPhase p U).union.members = row.union.members :=
    fun p => ⟨by subst hUd; rfl, by subst hUd; rfl⟩
  rcases hsim with ⟨rfl, n, hn⟩ | ⟨hin, n, row1, hi1, hr, _, _, hc1, hrun⟩
  · refine Sim.bad rfl (max nc n + 1) fun lo hl => ?_
    have := hn (lo ++ U :: hi0) (hlen lo _ hl)
    rw [RowL.reassoc] at this
    rw [reset_union_tip hl (Nat.le_max_left _ _) hfind hme hc, ← hUd, resetM_le this NS.f (Nat.le_max_right _ _)]
  · rw [unionOut_eq hin]
    refine Sim.run (by simp) (max nc n + 1) (setPhase .emitMapOpen U) (hi0 ++ row1 :: hi1) (fun lo hl => ?_)
      (agreeW_ptr_only fun _ => by subst hUd; rfl) (hUq _) (hUcl _ hc1) fun lo hl w cur st be => ?_
    · have := hr (lo ++ U :: hi0) (hlen lo _ hl)
      rw [RowL.reassoc] at this
      rw [reset_union_tip hl (Nat.le_max_left _ _) hfind hme hc, ← hUd, resetM_le this NS.ok (Nat.le_max_right _ _)]
      subst hl
      simp only [RowL.reassoc, updRow_at]
    · have hD := Steps.unchanged fun w => hrun (lo ++ setPhase .delegate U :: hi0) (hlen lo _ hl) w cur st be
      have hname : U.union.elementName = name := by rw [hUd]; rfl
      subst hl
      rw [setWm_FFF, ← hname]
      refine hD.keyedUnion (Embed.above (setPhase .delegate U) hi0 lo _ _ _) ?hU ?hQ ⟨rfl, rfl⟩
      · rintro r h _ _ ⟨rfl, rfl⟩
        rw [hUd]
        exact ⟨rfl, rfl⟩
      · rintro r h _ _ ⟨rfl, rfl⟩ _ hcl'
        exact ⟨hUq _, hUcl _ hcl'⟩

end Refmt.MachL
