-- Struct maps in the token-level round trip (C11).  The struct case of `normBare` is a fold over the fields of the atlas
-- entry (`structFold`, one `normStep` per field); the marshaller's filter (`emitP` = `MM.emittable`) makes it a fold over
-- the fields that are written (`structFold_eq_filter`), which is what `unmStruct` rebuilds: `fields_rt` reads
-- `marshalFields` back field by field, `structMap_rt` is the machine, in the manner of Lemmas/ObjMachRT.  `rtV'`,
-- `distinctKeys'`, `mapsSorted'`, `ValEqv'` are C13's notions descending into struct fields as well; `NormRelS` is
-- `NormRel` with the struct fold.  Nothing here depends on `structTy`.
import RefmtProofs.Lemmas.ObjMachRT
namespace Refmt.Obj
open Refmt Refmt.C13

/-- which fields are emitted for `v`: the marshaller's own filter `MM.emittable` under a second name (`emittable_eq`, by `rfl`) -/
def emitP (v : Val) (f : SMField) : Bool :=
  !f.ignore && (match traverse f.route v with
                | none => false
                | some fv => !(f.omitEmpty && isEmpty 1000 fv))

def fieldStep (ts : Types) (id : Nat) (v : Val) (N : Nat → Val → Val) (acc : Val) (f : SMField) : Val :=
  match traverse f.route v with
  | none => acc
  | some fv => (setRoute ts 64 id f.route acc (fun _ => N f.ty fv)).getD acc

/-- one step of the struct-map case of `normBare` -/
def normStep (ts : Types) (id : Nat) (v : Val) (N : Nat → Val → Val) (acc : Val) (f : SMField) : Val :=
  if f.ignore then acc else
  match traverse f.route v with
  | none => acc
  | some fv =>
    if f.omitEmpty && isEmpty 1000 fv then acc
    else (setRoute ts 64 id f.route acc (fun _ => N f.ty fv)).getD acc

/-- the struct-map case of `normBare`, as a function of the field normalizer -/
def structFold (ts : Types) (id : Nat) (fields : List SMField) (v : Val) (N : Nat → Val → Val) : Val :=
  fields.foldl (normStep ts id v N) (zeroVal ts 64 id)

theorem Norm.structMap (ts : Types) (a : Atlas) (trs : Trs) (it : IfaceTys) (fmt : Fmt) (fuel id e fields v) :
    normBare fmt ts a trs it (fuel+1) id (.structMap e fields) v = structFold ts id fields v (normV fmt ts a trs it fuel) := by
  rw [normBare.eq_def]
  rfl

theorem normStep_eq (ts : Types) (id : Nat) (v : Val) (N : Nat → Val → Val) (acc : Val) (f : SMField) :
    normStep ts id v N acc f = if emitP v f then fieldStep ts id v N acc f else acc := by
  unfold normStep emitP fieldStep
  cases hi : f.ignore with
  | true => simp
  | false =>
    cases ht : traverse f.route v with
    | none => simp
    | some fv =>
      cases f.omitEmpty <;> simp
      split <;> simp_all

theorem foldl_filter_step (ts : Types) (id : Nat) (v : Val) (N : Nat → Val → Val) (fields : List SMField) : ∀ (z : Val),
    fields.foldl (normStep ts id v N) z = (fields.filter (emitP v)).foldl (fieldStep ts id v N) z := by
  induction fields with
  | nil => intro z; rfl
  | cons f fs ih =>
    intro z
    simp only [List.foldl_cons, List.filter_cons, normStep_eq]
    split
    · simp only [List.foldl_cons]; rw [← ih]
    · rw [← ih]

theorem structFold_eq_filter (ts : Types) (id : Nat) (fields : List SMField) (v : Val) (N : Nat → Val → Val) :
    structFold ts id fields v N = (fields.filter (emitP v)).foldl (fieldStep ts id v N) (zeroVal ts 64 id) :=
  foldl_filter_step ts id v N fields _

mutual
  def rtV' (ts : Types) (a : Atlas) (trs : Trs) (it : IfaceTys) : Nat → Nat → Val → Val
    | 0, _, v => v
    | fuel+1, id, v =>
      let (n, base) := peel ts 64 0 id
      if n == 0 then rtBare' ts a trs it fuel base (pickBare ts a base) v
      else
        match derefN n v with
        | none => .ptr none
        | some inner =>
          if isNullSer ts a trs base inner then .ptr none
          else wrapPtr n (rtBare' ts a trs it fuel base (pickBare ts a base) inner)
  def rtBare' (ts : Types) (a : Atlas) (trs : Trs) (it : IfaceTys) : Nat → Nat → Mach → Val → Val
    | 0, _, _, v => v
    | fuel+1, id, m, v =>
      match m with
      | .slice e => (match v with | .slice (some vs) => .slice (some (vs.map (rtV' ts a trs it fuel e))) | x => x)
      | .array e => (match v with | .arr vs => .arr (vs.map (rtV' ts a trs it fuel e)) | x => x)
      | .map _ vt mode =>
        (match v with
         | .map (some es) =>
           .map (some ((sortKeys mode (es.map fun (k, x) => (keyStr k, x))).map fun (s, x) => (Val.str s, rtV' ts a trs it fuel vt x)))
         | x => x)
      | .structMap _ fields => structFold ts id fields v (fun t x => rtV' ts a trs it fuel t x)
      | m => normBare .pretty ts a trs it (fuel+1) id m v
end

def distinctKeys' : Nat → Val → Prop
  | 0, _ => False
  | fuel+1, v =>
    match v with
    | .slice (some vs) => ∀ x ∈ vs, distinctKeys' fuel x
    | .arr vs => ∀ x ∈ vs, distinctKeys' fuel x
    | .map (some es) =>
      (∀ p ∈ es, ∃ s, p.1 = Val.str s) ∧ (es.map fun p => keyStr p.1).Nodup ∧ ∀ p ∈ es, distinctKeys' fuel p.2
    | .ptr (some x) => distinctKeys' fuel x
    | .struct vs => ∀ x ∈ vs, distinctKeys' fuel x
    | _ => True

theorem distinctKeys'_succ {k : Nat} {v : Val} (h : distinctKeys' k v) : distinctKeys' (k - 1 + 1) v := by
  cases k with
  | zero => exact False.elim h
  | succ k => exact h

def mapsSorted' (mode : KeySort) : Nat → Val → Prop
  | 0, _ => False
  | fuel+1, v =>
    match v with
    | .slice (some vs) => ∀ x ∈ vs, mapsSorted' mode fuel x
    | .arr vs => ∀ x ∈ vs, mapsSorted' mode fuel x
    | .map (some es) =>
      (es.map fun p => (keyStr p.1, p.2)).Pairwise (fun x y => keyLe mode x.1 y.1 = true) ∧
      (∀ p ∈ es, ∃ s, p.1 = Val.str s) ∧ ∀ p ∈ es, mapsSorted' mode fuel p.2
    | .ptr (some x) => mapsSorted' mode fuel x
    | .struct vs => ∀ x ∈ vs, mapsSorted' mode fuel x
    | _ => True

theorem mapsSorted'_succ {mode k} {v : Val} (h : mapsSorted' mode k v) : mapsSorted' mode (k - 1 + 1) v := by
  cases k with
  | zero => exact False.elim h
  | succ k => exact h

/-- `ValEqv` (equality up to the order of map entries) with the missing congruence for struct fields -/
inductive ValEqv' : Val → Val → Prop
  | refl (v : Val) : ValEqv' v v
  | slice {xs ys : List Val} : xs.length = ys.length → (∀ p ∈ xs.zip ys, ValEqv' p.1 p.2) →
      ValEqv' (.slice (some xs)) (.slice (some ys))
  | arr {xs ys : List Val} : xs.length = ys.length → (∀ p ∈ xs.zip ys, ValEqv' p.1 p.2) →
      ValEqv' (.arr xs) (.arr ys)
  | ptr {x y : Val} : ValEqv' x y → ValEqv' (.ptr (some x)) (.ptr (some y))
  | map {es zs es' : List (Val × Val)} : es.Perm zs → zs.length = es'.length →
      (∀ p ∈ zs.zip es', p.1.1 = p.2.1) → (∀ p ∈ zs.zip es', ValEqv' p.1.2 p.2.2) →
      ValEqv' (.map (some es)) (.map (some es'))
  | struct {xs ys : List Val} : xs.length = ys.length →
      (∀ (j : Nat) (x y : Val), xs[j]? = some x → ys[j]? = some y → ValEqv' x y) → ValEqv' (.struct xs) (.struct ys)

theorem ValEqv.toEqv' {x y : Val} (h : ValEqv x y) : ValEqv' x y := by
  induction h with
  | refl v => exact ValEqv'.refl v
  | slice hl _ ih => exact ValEqv'.slice hl ih
  | arr hl _ ih => exact ValEqv'.arr hl ih
  | ptr _ ih => exact ValEqv'.ptr ih
  | map hp hl hk _ ih => exact ValEqv'.map hp hl hk ih

variable (ts : Types) (a : Atlas) (trs : Trs) (it : IfaceTys)

theorem rtV'_succ (fuel id v) : rtV' ts a trs it (fuel+1) id v =
    ptrStep ts a trs (peel ts 64 0 id).1 (peel ts 64 0 id).2
      (rtBare' ts a trs it fuel (peel ts 64 0 id).2 (pickBare ts a (peel ts 64 0 id).2)) v := by
  rw [rtV'.eq_def]
  rfl

theorem rtBare'_prim (fuel id v) : rtBare' ts a trs it (fuel+1) id .prim v = v := by
  rw [rtBare'.eq_def]
  exact C13.normBare_prim ts a trs it fuel id v

theorem rtBare'_slice (fuel id e v) : rtBare' ts a trs it (fuel+1) id (.slice e) v =
    mapSlice (rtV' ts a trs it fuel e) v := by
  rw [rtBare'.eq_def]
  rfl
theorem rtBare'_array (fuel id e v) : rtBare' ts a trs it (fuel+1) id (.array e) v =
    mapArr (rtV' ts a trs it fuel e) v := by
  rw [rtBare'.eq_def]
  rfl
theorem rtBare'_map (fuel id kt vt mode v) : rtBare' ts a trs it (fuel+1) id (.map kt vt mode) v =
    mapSorted mode (rtV' ts a trs it fuel vt) v := by
  rw [rtBare'.eq_def]
  rfl
theorem rtBare'_structMap (fuel id e fields v) : rtBare' ts a trs it (fuel+1) id (.structMap e fields) v =
    structFold ts id fields v (rtV' ts a trs it fuel) := by
  rw [rtBare'.eq_def]

theorem emittable_eq (v : Val) : MM.emittable v = emitP v := rfl

theorem traverse_one (i : Nat) (vs : List Val) : traverse [i] (.struct vs) = vs[i]? :=
  ObjL.traverse_single i (.struct vs)

theorem setRoute_one {id i : Nat} {fds : List FieldDesc} {fd : FieldDesc} {cs : List Val} {c : Val} (F : Val → Val)
    (hd : ts.get id = .struct fds) (hfd : fds[i]? = some fd) (hc : cs[i]? = some c) :
    setRoute ts 64 id [i] (.struct cs) F = some (.struct (cs.set i (F c))) := by
  simp [hd, hfd, hc, setRoute]

theorem getRoute_one {id i : Nat} {fds : List FieldDesc} {fd : FieldDesc} {cs : List Val} {c : Val}
    (hd : ts.get id = .struct fds) (hfd : fds[i]? = some fd) (hc : cs[i]? = some c) :
    getRoute ts 64 id [i] (.struct cs) = some c := by
  simp [hd, hfd, hc, getRoute]

theorem zeroVal_struct {id : Nat} {fds : List FieldDesc} (hd : ts.get id = .struct fds) :
    zeroVal ts 64 id = .struct (fds.map fun f => zeroVal ts 63 f.ty) := by
  rw [zeroVal_one_level 63, hd]

theorem traverse_one_desc {P : Nat → Val → Prop} (hptr : ∀ k x, P k (.ptr (some x)) → P (k - 1) x)
    (hstruct : ∀ k vs, P k (.struct vs) → ∀ x ∈ vs, P (k - 1) x) (i : Nat) (v fv : Val) (k : Nat)
    (ht : traverse [i] v = some fv) (hk : P k v) : ∃ k', P k' fv := by
  have key : ∀ vs k, P k (.struct vs) → vs[i]? = some fv → ∃ k', P k' fv :=
    fun vs k hk hi => ⟨k - 1, hstruct k vs hk fv (List.mem_of_getElem? hi)⟩
  cases v with
  | struct vs => rw [traverse_one] at ht; exact key vs k hk ht
  | ptr o =>
    cases o with
    | none => simp [traverse] at ht
    | some x =>
      cases x with
      | struct vs =>
        rw [ObjL.traverse_single] at ht
        exact key vs (k - 1) (hptr k _ hk) ht
      | _ => simp [traverse] at ht
  | _ => simp [traverse] at ht

structure NormRelS (ts : Types) (mode : KeySort) (Rel : Val → Val → Prop) (S : Nat → Val → Prop) : Prop
    extends NormRel mode Rel S where
  struct : ∀ {id : Nat} {fds : List FieldDesc} {fields : List SMField} {v : Val} {N1 N2 : Nat → Val → Val},
    ts.get id = .struct fds → (∀ fld ∈ fields, ∃ i fd, fld.route = [i] ∧ fds[i]? = some fd) →
    (∀ fld ∈ fields, ∀ fv, traverse fld.route v = some fv → Rel (N1 fld.ty fv) (N2 fld.ty fv)) →
    Rel (structFold ts id fields v N1) (structFold ts id fields v N2)
  S_struct : ∀ k vs, S k (.struct vs) → ∀ x ∈ vs, S (k - 1) x

/-- what `C11.structTy` and `fullTy` ask of one field of a struct-map entry, as a test -/
def fieldOkB (fds : List FieldDesc) (f : SMField) : Bool :=
  !f.ignore &&
  (match f.route with
   | [i] => (match fds[i]? with | some fd => fd.exported && fd.ty == f.ty | none => false)
   | _ => false)

end Refmt.Obj

namespace Refmt.C11
open Refmt Refmt.Obj Refmt.C13
open Refmt.MachL
variable {ts : Types} {a : Atlas} {trs : Trs} {it : IfaceTys}

/-- the fuel bound of `zeroVal` does not truncate any zero value (type nesting through struct fields and arrays is
    shallower than 63) -/
def ZeroStable (ts : Types) : Prop := ∀ t, zeroVal ts 63 t = zeroVal ts 64 t

def FieldSlot (fds : List FieldDesc) (fld : SMField) : Prop :=
  fld.ignore = false ∧ ∃ i fd, fld.route = [i] ∧ fds[i]? = some fd ∧ fd.ty = fld.ty

theorem _root_.Refmt.Obj.fieldOkB_inv {fds : List FieldDesc} {f : SMField} (h : fieldOkB fds f = true) : FieldSlot fds f := by
  unfold fieldOkB at h
  simp only [Bool.and_eq_true] at h
  obtain ⟨hi, hr⟩ := h
  split at hr
  · rename_i i hroute
    split at hr
    · rename_i fd hfd
      simp only [Bool.and_eq_true, beq_iff_eq] at hr
      exact ⟨by simpa using hi, i, fd, hroute, hfd, hr.2⟩
    · cases hr
  · cases hr


section wire
variable {τ : Tok → Tok} {ok : Bytes → Prop} (T : TokMap τ ok) {δ : Nat}
include T

theorem fields_rt {id : Nat} {fds : List FieldDesc} {fields : List SMField} {vs : List Val} (R : Nat → Val → Val)
    (hd : ts.get id = .struct fds) (hnames : (fields.map (·.name)).Nodup) {len : Int} {c : Tok} (hc : c.body = .mapClose) :
    ∀ {fl : List SMField} {f : Nat} {toks : List Tok}, MRun.Writes ts a trs f (.fields fl (.struct vs)) toks →
    (fl.map (·.route)).Nodup → (∀ fld ∈ fl, fld ∈ fields ∧ FieldSlot fds fld ∧ ok fld.name) →
    (∀ f' < f, ∀ fld ∈ fl, ∀ (i : Nat) x, fld.route = [i] → vs[i]? = some x →
      VRt ts a trs it τ δ f' fld.ty x (R fld.ty x)) →
    ∀ (cs : List Val) (idx : Nat), cs.length = fds.length →
    (∀ fld ∈ fl, ∀ (i : Nat), fld.route = [i] → cs[i]? = some (zeroVal ts 64 fld.ty)) →
    len = -1 ∨ len = ((idx + fl.length : Nat) : Int) →
    Reads ts a trs it (f + δ) (.struct id fields len idx (.struct cs)) (toks.map τ ++ [c])
      (fl.foldl (fieldStep ts id (.struct vs) R) (.struct cs)) := by
  intro fl
  induction fl with
  | nil =>
    intro f toks hm _ _ _ cs idx _ _ hlen
    cases hm
    rw [Nat.add_right_comm]
    exact .struct_close hc (by rcases hlen with rfl | rfl <;> simp)
  | cons fld fl' ih =>
    intro f toks hm hroutes hfl hel cs idx hcs hzero hlen
    cases hm with
    | @fieldsCons f _ _ _ fv tx txs hfv h1 h2 =>
    obtain ⟨hmem, ⟨hign, i, fd, hroute, hfd, hty⟩, hokn⟩ := hfl fld (by simp)
    rw [hroute, traverse_one] at hfv
    have hci : cs[i]? = some (zeroVal ts 64 fld.ty) := hzero fld (by simp) i hroute
    simp only [List.map_cons, List.nodup_cons] at hroutes
    -- the other fields still find their zero values: routes are pairwise distinct
    have hxs := ih h2 hroutes.2 (fun y hy => hfl y (by simp [hy]))
      (fun f' hf' y hy => hel f' (by omega) y (by simp [hy])) (cs.set i (R fld.ty fv)) (idx + 1) (by simp [hcs])
      (fun y hy j hj => by
        have hne : i ≠ j := by
          intro he
          apply hroutes.1
          rw [hroute, he, ← hj]
          exact List.mem_map_of_mem hy
        rw [List.getElem?_set_ne hne]
        exact hzero y (by simp [hy]) j hj)
      (hlen.imp (fun hl => hl) fun hl => by rw [hl]; simp only [List.length_cons]; congr 1; omega)
    have hstep : fieldStep ts id (.struct vs) R (.struct cs) fld = .struct (cs.set i (R fld.ty fv)) := by
      unfold fieldStep
      rw [hroute, traverse_one, hfv]
      simp only
      rw [setRoute_one ts _ hd hfd hci]
      rfl
    rw [Nat.add_right_comm, List.foldl_cons, hstep]
    simpa using Reads.struct_field (T.str _ hokn) (ObjL.find?_key (·.name) fields hnames fld hmem) hign
      (by rw [hroute]; exact getRoute_one ts hd hfd hci) (hel f (Nat.lt_succ_self f) fld (by simp) i fv hroute hfv tx h1)
      (by rw [hroute]; exact setRoute_one ts _ hd hfd hci) hxs

theorem structMap_rt (hz : ZeroStable ts) {f id : Nat} {fds : List FieldDesc} {reg : Bool} {ty : Nat} {tag : Option Int}
    {fields : List SMField} (hd : ts.get id = .struct fds) (he : a.get id = some ⟨reg, ty, tag, .structMap fields⟩)
    (hnames : (fields.map (·.name)).Nodup) (hroutes : (fields.map (·.route)).Nodup)
    (hfok : ∀ fld ∈ fields, FieldSlot fds fld ∧ ok fld.name) (R : Nat → Val → Val) (vs : List Val)
    (hel : ∀ f' < f, ∀ fld ∈ fields, emitP (.struct vs) fld = true → ∀ (i : Nat) x, fld.route = [i] → vs[i]? = some x →
      VRt ts a trs it τ δ f' fld.ty x (R fld.ty x)) :
    BRt ts a trs it τ δ (f+1) id (.struct (fds.map fun fd => zeroVal ts 63 fd.ty)) (.struct vs)
      ((fields.filter (emitP (.struct vs))).foldl (fieldStep ts id (.struct vs) R)
        (.struct (fds.map fun fd => zeroVal ts 63 fd.ty))) := by
  refine BRt.of_pick (pick_struct hd he).1 (pick_struct hd he).2 fun toks hm => ?_
  cases hm with
  | @struct _ _ _ _ _ tl h =>
    have hs := fun len hlen => fields_rt T R hd hnames (len := len) T.mapClose
      (fl := fields.filter (emitP (.struct vs))) h ((List.filter_sublist.map _).nodup hroutes)
      (fun fld hf => ⟨(List.mem_filter.mp hf).1, hfok fld (List.mem_filter.mp hf).1⟩)
      (fun f' hf' fld hf => hel f' hf' fld (List.mem_filter.mp hf).1 (List.mem_filter.mp hf).2)
      (fds.map fun fd => zeroVal ts 63 fd.ty) 0 (by simp)
      (fun fld hf i hi => by
        -- a field of the zero struct is the zero value of the field's type, one unit of `zeroVal` fuel down
        obtain ⟨⟨_, j, fd, hroute, hfd, hty⟩, _⟩ := hfok fld (List.mem_filter.mp hf).1
        rw [hroute] at hi
        cases hi
        rw [List.getElem?_map, hfd, ← hty, ← hz fd.ty]; rfl)
      hlen
    -- the length announced is the number of fields written, or unknown
    rcases T.mapOpen (fields.filter (emitP (.struct vs))).length tag with hb | hb
    · simpa [emittable_eq] using Reads.struct hb (hs _ (Or.inr (by simp)))
    · simpa [emittable_eq] using Reads.struct hb (hs (-1) (Or.inl rfl))

end wire

theorem normStep_skip {id : Nat} (v : Val) (N : Nat → Val → Val) {fld : SMField} (he : emitP v fld = false) (acc : Val) :
    normStep ts id v N acc fld = acc := by
  rw [normStep_eq, he]; simp

theorem normStep_struct {id : Nat} {fds : List FieldDesc} (hd : ts.get id = .struct fds) (v : Val)
    {fld : SMField} {i : Nat} {fd : FieldDesc} (hroute : fld.route = [i]) (hfd : fds[i]? = some fd)
    (he : emitP v fld = true) :
    ∃ fv : Val, i < fds.length ∧ traverse fld.route v = some fv ∧
      ∀ (N : Nat → Val → Val) (cs : List Val), cs.length = fds.length →
        normStep ts id v N (.struct cs) fld = .struct (cs.set i (N fld.ty fv)) := by
  have hi : i < fds.length := (List.getElem?_eq_some_iff.mp hfd).1
  cases ht : traverse fld.route v with
  | none => simp [emitP, ht] at he
  | some fv =>
    refine ⟨fv, hi, rfl, fun N cs hcs => ?_⟩
    have hci : cs[i]? = some (cs[i]'(by omega)) := List.getElem?_eq_getElem _
    rw [normStep_eq, he]
    simp only [if_true, fieldStep, ht]
    rw [hroute, setRoute_one ts _ hd hfd hci]
    rfl

theorem fold_rel {Rel : Val → Val → Prop}
    (hstruct : ∀ {xs ys : List Val}, xs.length = ys.length →
      (∀ (j : Nat) (x y : Val), xs[j]? = some x → ys[j]? = some y → Rel x y) → Rel (.struct xs) (.struct ys))
    {id : Nat} {fds : List FieldDesc} (hd : ts.get id = .struct fds) (v : Val) (N1 N2 : Nat → Val → Val) :
    ∀ (fields : List SMField), (∀ fld ∈ fields, ∃ i fd, fld.route = [i] ∧ fds[i]? = some fd) →
    (∀ fld ∈ fields, emitP v fld = true → ∀ fv, traverse fld.route v = some fv → Rel (N1 fld.ty fv) (N2 fld.ty fv)) →
    ∀ cs1 cs2 : List Val, cs1.length = fds.length → cs2.length = fds.length →
    (∀ (j : Nat) (x y : Val), cs1[j]? = some x → cs2[j]? = some y → Rel x y) →
    Rel (fields.foldl (normStep ts id v N1) (.struct cs1)) (fields.foldl (normStep ts id v N2) (.struct cs2)) := by
  intro fields
  induction fields with
  | nil =>
    intro _ _ cs1 cs2 h1 h2 hpt
    exact hstruct (by omega) hpt
  | cons fld fs ih =>
    intro hfok hN cs1 cs2 h1 h2 hpt
    simp only [List.foldl_cons]
    have ihh := ih (fun y hy => hfok y (by simp [hy])) (fun y hy => hN y (by simp [hy]))
    cases he : emitP v fld with
    | false =>
      rw [normStep_skip v N1 he, normStep_skip v N2 he]
      exact ihh cs1 cs2 h1 h2 hpt
    | true =>
      obtain ⟨i, fd, hroute, hfd⟩ := hfok fld (by simp)
      obtain ⟨fv, hi, ht, hstep⟩ := normStep_struct hd v hroute hfd he
      rw [hstep N1 cs1 h1, hstep N2 cs2 h2]
      refine ihh _ _ (by simp [h1]) (by simp [h2]) (fun j x y hx hy => ?_)
      simp only [List.getElem?_set] at hx hy
      split at hx
      · rename_i hij
        subst hij
        simp only [h1, h2, hi, if_true, Option.some.injEq] at hx hy
        subst hx hy
        exact hN fld (by simp) he fv ht
      · rename_i hij
        simp only [hij, if_false] at hy
        exact hpt j x y hx hy

theorem structFold_rel {Rel : Val → Val → Prop} (hrefl : ∀ v, Rel v v)
    (hstruct : ∀ {xs ys : List Val}, xs.length = ys.length →
      (∀ (j : Nat) (x y : Val), xs[j]? = some x → ys[j]? = some y → Rel x y) → Rel (.struct xs) (.struct ys))
    {id : Nat} {fds : List FieldDesc} {fields : List SMField} {v : Val} {N1 N2 : Nat → Val → Val} (hd : ts.get id = .struct fds)
    (hslots : ∀ fld ∈ fields, ∃ i fd, fld.route = [i] ∧ fds[i]? = some fd)
    (h : ∀ fld ∈ fields, emitP v fld = true → ∀ fv, traverse fld.route v = some fv → Rel (N1 fld.ty fv) (N2 fld.ty fv)) :
    Rel (structFold ts id fields v N1) (structFold ts id fields v N2) := by
  unfold structFold
  rw [zeroVal_struct ts hd]
  exact fold_rel hstruct hd v N1 N2 fields hslots h _ _ (by simp) (by simp)
    (fun j x y hx hy => by rw [hx] at hy; cases hy; exact hrefl _)

theorem struct_ext {xs ys : List Val} (hl : xs.length = ys.length)
    (h : ∀ (j : Nat) (x y : Val), xs[j]? = some x → ys[j]? = some y → x = y) : Val.struct xs = .struct ys := by
  refine congrArg Val.struct (List.ext_getElem hl fun j h1 h2 => ?_)
  exact h j _ _ (List.getElem?_eq_getElem h1) (List.getElem?_eq_getElem h2)

theorem normRelS_eqv (mode : KeySort) : NormRelS ts mode ValEqv' distinctKeys' where
  refl := ValEqv'.refl
  ptr := ValEqv'.ptr
  slice := slice_map_rel ValEqv'.refl ValEqv'.slice
  arr := arr_map_rel ValEqv'.refl ValEqv'.arr
  map := fun hs h => map_sort_rel ValEqv'.refl ValEqv'.map fun es hv => by
    obtain ⟨hstr, -, hsub⟩ := distinctKeys'_succ (hv ▸ hs)
    exact ⟨hstr, fun q hq => h es hv q hq (hsub q hq)⟩
  S_ptr := fun _ _ h => distinctKeys'_succ h
  S_slice := fun h => distinctKeys'_succ h
  S_arr := fun h => distinctKeys'_succ h
  struct := fun hd hslots h => structFold_rel ValEqv'.refl ValEqv'.struct hd hslots fun fld hf _ => h fld hf
  S_struct := fun _ _ h => distinctKeys'_succ h

theorem normRelS_eq (mode : KeySort) : NormRelS ts mode Eq (mapsSorted' mode) where
  refl := fun _ => rfl
  ptr := fun h => h ▸ rfl
  slice := slice_map_congr
  arr := arr_map_congr
  map := fun hs h => map_sorted_congr fun es hv => by
    obtain ⟨hsort, hstr, hsub⟩ := mapsSorted'_succ (hv ▸ hs)
    exact ⟨hsort, hstr, fun q hq => h es hv q hq (hsub q hq)⟩
  S_ptr := fun _ _ h => mapsSorted'_succ h
  S_slice := fun h => mapsSorted'_succ h
  S_arr := fun h => mapsSorted'_succ h
  struct := fun hd hslots h => structFold_rel (fun _ => rfl) struct_ext hd hslots fun fld hf _ => h fld hf
  S_struct := fun _ _ h => mapsSorted'_succ h

end Refmt.C11

