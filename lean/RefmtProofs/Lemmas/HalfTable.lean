/-
  `halfToFloatBits` followed by the float32→float64 widening agrees with the IEEE 754 binary16 definition.
  Normal numbers, infinities and NaNs only re-bias the exponent (15 → 127 → 1023) and shift the fraction
  (10 → 23 → 52 bits); for a subnormal the renormalisation loop finds the leading bit and what is packed afterwards
  is again a normal float32.  No bound on `h` is needed: only its low sixteen bits are looked at.
-/
import RefmtModel.Spec.Cbor
namespace Refmt.HalfTable
open Refmt

theorem f32_fields (s e m : Nat) (hs : s < 2) (he : e < 256) (hm : m < 8388608) :
    (s * 2147483648 + e * 8388608 + m) / 2147483648 % 2 = s ∧
    (s * 2147483648 + e * 8388608 + m) / 8388608 % 256 = e ∧
    (s * 2147483648 + e * 8388608 + m) % 8388608 = m := by
  refine ⟨?_, ?_, ?_⟩ <;> omega

theorem f32to64_normal (s e m : Nat) (hs : s < 2) (h0 : 0 < e) (he : e < 255) (hm : m < 8388608) :
    f32to64 (s * 2147483648 + e * 8388608 + m) = s * pow2_63 + (e + 896) * pow2_52 + m * 536870912 := by
  obtain ⟨h1, h2, h3⟩ := f32_fields s e m hs (by omega) hm
  have e255 : (e == 255) = false := by simp; omega
  have e0 : (e == 0) = false := by simp; omega
  simp only [f32to64, h1, h2, h3, e255, e0, Bool.false_eq_true, if_false]

/-- An infinity (`m = 0`) or a NaN, which is quieted (bit 51) and keeps its shifted payload. -/
theorem f32to64_special (s m : Nat) (hs : s < 2) (hm : m < 8388608) :
    f32to64 (s * 2147483648 + 255 * 8388608 + m) =
      if m == 0 then s * pow2_63 + 0x7ff * pow2_52
      else s * pow2_63 + 0x7ff * pow2_52 + 2251799813685248 + (m * 536870912) % 2251799813685248 := by
  obtain ⟨h1, h2, h3⟩ := f32_fields s 255 m hs (by omega) hm
  simp only [f32to64, h1, h2, h3]
  rw [if_pos (show (255 == 255) = true from rfl)]

theorem f32to64_zero (s : Nat) (hs : s < 2) : f32to64 (s * 2147483648) = s * pow2_63 := by
  obtain ⟨h1, h2, h3⟩ := f32_fields s 0 0 hs (by decide) (by decide)
  simp only [Nat.zero_mul, Nat.add_zero] at h1 h2 h3
  simp only [f32to64, h1, h2, h3]
  rfl

/-- A subnormal `m * 2^-149`: the leading bit `k = log2 m` of `m` becomes the implicit one, under the exponent
    field `k - 149 + 1023`. -/
theorem f32to64_subnormal (s m : Nat) (hs : s < 2) (h0 : m ≠ 0) (hm : m < 8388608) :
    f32to64 (s * 2147483648 + m) =
      s * pow2_63 + (m.log2 + 874) * pow2_52 + (m - 2 ^ m.log2) * 2 ^ (52 - m.log2) := by
  obtain ⟨h1, h2, h3⟩ := f32_fields s 0 m hs (by decide) hm
  simp only [Nat.zero_mul, Nat.add_zero] at h1 h2 h3
  have m0 : (m == 0) = false := by simpa using h0
  simp only [f32to64, h1, h2, h3, m0]
  rfl

theorem f32to64_fields (x : Nat) : ∃ s e m, s < 2 ∧ e < 256 ∧ m < 8388608 ∧
    f32to64 x = f32to64 (s * 2147483648 + e * 8388608 + m) := by
  have hs : x / 2147483648 % 2 < 2 := Nat.mod_lt _ (by decide)
  have he : x / 8388608 % 256 < 256 := Nat.mod_lt _ (by decide)
  have hm : x % 8388608 < 8388608 := Nat.mod_lt _ (by decide)
  obtain ⟨h1, h2, h3⟩ := f32_fields _ _ _ hs he hm
  refine ⟨_, _, _, hs, he, hm, ?_⟩
  simp only [f32to64, h1, h2, h3]

theorem subnormal_frac_lt (m : Nat) (hk : m.log2 ≤ 52) : (m - 2 ^ m.log2) * 2 ^ (52 - m.log2) < 2 ^ 52 := by
  have h2 : m < 2 ^ (m.log2 + 1) := Nat.lt_log2_self
  generalize m.log2 = k at hk h2 ⊢
  have h3 : m - 2 ^ k < 2 ^ k := by rw [Nat.pow_succ] at h2; omega
  calc (m - 2 ^ k) * 2 ^ (52 - k)
      < 2 ^ k * 2 ^ (52 - k) := Nat.mul_lt_mul_of_pos_right h3 (Nat.pow_pos (by decide))
    _ = 2 ^ 52 := by rw [← Nat.pow_add, Nat.add_sub_cancel' hk]

theorem halfNormLoop_spec : ∀ (d fuel m e : Nat), d ≤ fuel → e < two32 → 1024 ≤ m * 2 ^ d → m * 2 ^ d < 2048 →
    ∃ e', halfNormLoop fuel m e = (m * 2 ^ d, e') ∧ (e' + d) % two32 = e
  | 0, fuel, m, e, _, he, h1, h2 => by
    rw [Nat.pow_zero, Nat.mul_one] at h1 h2 ⊢
    refine ⟨e, ?_, Nat.mod_eq_of_lt he⟩
    cases fuel with
    | zero => rfl
    | succ f =>
      rw [halfNormLoop, if_neg]
      rw [beq_iff_eq]; omega
  | d+1, 0, _, _, hf, _, _, _ => absurd hf (by omega)
  | d+1, f+1, m, e, hf, he, h1, h2 => by
    have hm : m * 2 ^ (d + 1) = (m * 2) * 2 ^ d := by rw [Nat.pow_succ, Nat.mul_assoc, Nat.mul_comm 2]
    rw [hm] at h1 h2 ⊢
    have hlt : m * 2 < 2048 := Nat.lt_of_le_of_lt (Nat.le_mul_of_pos_right _ (Nat.pow_pos (by decide))) h2
    obtain ⟨e', h, hmod⟩ := halfNormLoop_spec d f (m * 2) ((e + two32 - 1) % two32) (by omega)
      (Nat.mod_lt _ (by decide)) h1 h2
    refine ⟨e', ?_, ?_⟩
    · rw [halfNormLoop, if_pos (by rw [beq_iff_eq]; omega), Nat.mod_eq_of_lt (by unfold two32; omega)]
      exact h
    · unfold two32 at *; omega

theorem half_fields (h : Nat) :
    h % 65536 / 32768 % 2 = h / 32768 % 2 ∧ h % 65536 / 1024 % 32 = h / 1024 % 32 ∧ h % 65536 % 1024 = h % 1024 := by
  refine ⟨?_, ?_, Nat.mod_mod_of_dvd h (by decide)⟩ <;> omega

/-- What `halfToFloatBits` packs from the loop's result `(X, e')`: bit 10 of `X` is set and is cleared; `e'` is `-d`
    modulo `2^32`, so that `e' + 1 + 112` is the exponent field `113 - d`; the reductions modulo `2^32` lose nothing. -/
theorem subnormal_pack (s X e' d : Nat) (hs : s < 2) (hd : d ≤ 10) (hX1 : 1024 ≤ X) (hX2 : X < 2048)
    (hmod : (e' + d) % two32 = 0) :
    (s * 2147483648 + (((e' + 1) % two32 + 112) % two32 * 8388608) % two32 +
        (X % two32 - (X / 1024 % 2) * 1024) * 8192 % two32) % two32 =
      s * 2147483648 + (113 - d) * 8388608 + (X - 1024) * 8192 := by
  unfold two32 at *
  have he3 : ((e' + 1) % 4294967296 + 112) % 4294967296 = 113 - d := by omega
  have hb10 : X / 1024 % 2 = 1 := by omega
  rw [he3, hb10, Nat.one_mul, Nat.mod_eq_of_lt (a := X) (by omega),
    Nat.mod_eq_of_lt (a := (113 - d) * 8388608) (by omega), Nat.mod_eq_of_lt (a := (X - 1024) * 8192) (by omega),
    Nat.mod_eq_of_lt (by omega)]

theorem half_exact_all (h : Nat) : f32to64 (halfToFloatBits h) = Spec.Cbor.halfToF64 h := by
  obtain ⟨f1, f2, f3⟩ := half_fields h
  have hs : h / 32768 % 2 < 2 := Nat.mod_lt _ (by decide)
  have he : h / 1024 % 32 < 32 := Nat.mod_lt _ (by decide)
  have hm : h % 1024 < 1024 := Nat.mod_lt _ (by decide)
  simp only [halfToFloatBits, Spec.Cbor.halfToF64, f1, f2, f3]
  clear f1 f2 f3
  generalize h / 32768 % 2 = s at *
  generalize h / 1024 % 32 = e at *
  generalize h % 1024 = m at *
  by_cases e0 : e = 0
  · subst e0
    have t0 : ((0 : Nat) == 0) = true := rfl
    rw [if_pos t0, if_neg (show ¬ ((0 : Nat) == 31) = true by decide), if_pos t0]
    by_cases m0 : m = 0
    · subst m0
      rw [if_pos t0, if_pos t0, f32to64_zero s hs]
    · -- subnormals `m * 2^-24`: the leading bit of `m` is `k = log2 m ≤ 9`, and `d = 10 - k` doublings normalise it
      have mb0 : ¬ (m == 0) = true := by simpa using m0
      rw [if_neg mb0, if_neg mb0]
      have hk : Nat.log2 m < 10 := (Nat.log2_lt m0).2 hm
      have h1 : 2 ^ Nat.log2 m ≤ m := Nat.log2_self_le m0
      have h2 : m < 2 ^ (Nat.log2 m + 1) := Nat.lt_log2_self
      generalize Nat.log2 m = k at hk h1 h2 ⊢
      obtain ⟨d, hkd⟩ : ∃ d, k + d = 10 := ⟨10 - k, by omega⟩
      have hK : 2 ^ k * 2 ^ d = 1024 := by rw [← Nat.pow_add, hkd]
      have hX1 : 1024 ≤ m * 2 ^ d := hK ▸ Nat.mul_le_mul_right _ h1
      have hX2 : m * 2 ^ d < 2048 := by
        have := Nat.mul_lt_mul_of_pos_right h2 (Nat.pow_pos (n := d) (by decide : 0 < 2))
        rwa [Nat.pow_succ, Nat.mul_right_comm, hK] at this
      obtain ⟨e', hloop, hmod⟩ := halfNormLoop_spec d 11 m 0 (by omega) (by decide) hX1 hX2
      -- in units of `2^-24 / 2^d` the fraction is `m * 2^d - 2^10`
      have hfr : (m - 2 ^ k) * 2 ^ (52 - k) = (m * 2 ^ d - 1024) * 8192 * 536870912 := by
        rw [show 52 - k = d + 42 by omega, Nat.pow_add, ← Nat.mul_assoc, Nat.sub_mul, hK, Nat.mul_assoc _ 8192]
      -- float32 exponent field `113 - d = k + 103`, which widens to `k + 999`
      rw [hloop, hfr, show k + 999 = 113 - d + 896 by omega]
      generalize m * 2 ^ d = X at hX1 hX2 ⊢
      show f32to64 ((s * 2147483648 + (((e' + 1) % two32 + 112) % two32 * 8388608) % two32 +
        (X % two32 - (X / 1024 % 2) * 1024) * 8192 % two32) % two32) = _
      rw [subnormal_pack s X e' d hs (by omega) hX1 hX2 hmod,
        f32to64_normal s _ _ hs (by omega) (by omega) (by omega)]
  have eb0 : ¬ (e == 0) = true := by simpa using e0
  rw [if_neg eb0, if_neg eb0]
  by_cases e31 : e = 31
  · -- infinities and NaNs: float32 exponent 255, fraction `m * 2^13`
    subst e31
    have t31 : ((31 : Nat) == 31) = true := rfl
    rw [if_pos t31, if_pos t31]
    have hb : (if (m == 0) = true then s * 2147483648 + 0x7f800000 else s * 2147483648 + 0x7f800000 + m * 8192) =
        s * 2147483648 + 255 * 8388608 + m * 8192 := by
      by_cases m0 : m = 0
      · subst m0; rfl
      · rw [if_neg (by simpa using m0), Nat.add_assoc]
    rw [hb, f32to64_special s _ hs (by omega)]
    by_cases m0 : m = 0
    · subst m0; rfl
    · rw [if_neg (by simp; omega), if_neg (by simpa using m0), Nat.mul_assoc]
  · -- normal numbers: float32 exponent `e + 112`, then `e + 112 + 896 = e + 1008`
    have eb31 : ¬ (e == 31) = true := by simpa using e31
    rw [if_neg eb31, if_neg eb31, f32to64_normal s _ _ hs (by omega) (by omega) (by omega), Nat.mul_assoc]

-- `hh` is not needed: see `half_fields`
set_option linter.unusedVariables false in
theorem half_exact (h : Nat) (hh : h < 65536) :
    f32to64 (halfToFloatBits h) = Spec.Cbor.halfToF64 h :=
  half_exact_all h

end Refmt.HalfTable
