/-
  Facts about the model's data that both codecs and the stream processors use: byte strings whose elements
  are bytes (`B256`, which passes to every part of a string and to what is put together from such parts),
  the tokens that open and close a container, and that the flattening of a token tree is not empty.
-/
import RefmtModel
namespace Refmt.PumpL
open Refmt

def B256 (bs : Bytes) : Prop := ∀ x ∈ bs, x < 256

theorem B256.nil : B256 [] := by intro x hx; simp at hx
theorem B256.cons {b : Nat} {r : Bytes} (hb : b < 256) (hr : B256 r) : B256 (b :: r) := by
  intro x hx; simp only [List.mem_cons] at hx; rcases hx with rfl | hx; exact hb; exact hr x hx
theorem B256.append {a b : Bytes} (ha : B256 a) (hb : B256 b) : B256 (a ++ b) := by
  intro x hx; simp only [List.mem_append] at hx; rcases hx with hx | hx; exact ha x hx; exact hb x hx
theorem B256.head {b : Nat} {r : Bytes} (h : B256 (b :: r)) : b < 256 := h b (by simp)
theorem B256.tail {b : Nat} {r : Bytes} (h : B256 (b :: r)) : B256 r := fun x hx => h x (by simp [hx])
theorem B256.sub {a b : Bytes} (hb : B256 b) (h : ∀ x ∈ a, x ∈ b) : B256 a := fun x hx => hb x (h x hx)
theorem B256.drop {a : Bytes} (h : B256 a) (n : Nat) : B256 (a.drop n) :=
  fun x hx => h x (List.mem_of_mem_drop hx)
theorem B256.take {a : Bytes} (h : B256 a) (n : Nat) : B256 (a.take n) :=
  fun x hx => h x (List.mem_of_mem_take hx)
theorem B256.reverse {a : Bytes} (h : B256 a) : B256 a.reverse := fun x hx => h x (by simpa using hx)

theorem B256.suffix {a b : Bytes} (h : a <:+ b) (hb : B256 b) : B256 a := hb.sub fun _ hx => h.subset hx

theorem B256.of_append {a b : Bytes} (h : B256 (a ++ b)) : B256 a ∧ B256 b :=
  ⟨h.sub fun _ hx => List.mem_append_left _ hx, h.sub fun _ hx => List.mem_append_right _ hx⟩

theorem all_of_B256 {s : Bytes} (h : B256 s) : s.all (· < 256) = true := by
  simp only [List.all_eq_true, decide_eq_true_eq]; exact h

theorem B256_of_all {s : Bytes} (h : s.all (· < 256) = true) : B256 s := by
  simp only [List.all_eq_true, decide_eq_true_eq] at h; exact h

end Refmt.PumpL

namespace Refmt

def openTok (isMap : Bool) (len : Int) (tag : Option Int) : Tok := ⟨if isMap then .mapOpen len else .arrOpen len, tag⟩
def closeTok (isMap : Bool) : Tok := ⟨if isMap then .mapClose else .arrClose, none⟩

end Refmt

namespace Refmt.TV

theorem flatten_pos : ∀ v : TV, 0 < v.flatten.length
  | .scalar _ => Nat.zero_lt_one
  | .arr _ _ _ => Nat.succ_pos _
  | .map _ _ _ => Nat.succ_pos _

end Refmt.TV
