/-
  Orders, selection and grouping for the struct-mapping autogeneration model
  (RefmtModel/Model/Obj/Autogen.lean).  `selectName` and `dominantField` look only at a name's candidates (`cls`) at
  their least depth, and of those only at what `Cap2` keeps; `Agree` is the relation between two lists that the BFS
  and the specification keep level by level.  Sorting, grouping and picking in `exploreFields` come to
  `names.filterMap (selectName raw)` (`picks_eq`), which is how `promoted` is defined.
-/
import RefmtProofs.Lemmas.KeyOrder
import RefmtProofs.Lemmas.AutogenList
namespace Refmt.Autogen
open Refmt Refmt.Obj Refmt.KeyOrder

/-- the model writes the lexicographic order of `List Nat` twice -/
theorem routeLt_eq_bytesLt : ∀ a b : List Nat, routeLt a b = bytesLt a b := by
  intro a
  induction a with
  | nil => intro b; cases b <;> rfl
  | cons x xs ih =>
    intro b
    cases b with
    | nil => rfl
    | cons y ys =>
      rw [routeLt, bytesLt, ih]
      by_cases h : x = y <;> simp [h]

theorem routeLt_irrefl : ∀ a : List Nat, routeLt a a = false := by
  intro a
  rw [routeLt_eq_bytesLt]; exact bytesLt_irrefl a

/-- as the comparators of `exploreFields` write it -/
def routeLe (a b : List Nat) : Bool := !routeLt b a

theorem routeLe_eq_bytesLe (a b : List Nat) : routeLe a b = bytesLe a b := by
  rw [routeLe, routeLt_eq_bytesLt]; rfl

theorem routeLe_total (a b : List Nat) : routeLe a b = true ∨ routeLe b a = true := by
  rw [routeLe_eq_bytesLe, routeLe_eq_bytesLe]
  exact bytesLe_total a b

theorem routeLe_trans (a b c : List Nat) (h1 : routeLe a b = true) (h2 : routeLe b c = true) :
    routeLe a c = true := by
  rw [routeLe_eq_bytesLe] at *
  exact bytesLe_trans a b c h1 h2

def LexOn {α κ : Type} (key : α → κ) (lt : κ → κ → Prop) (le : α → α → Prop) (x y : α) : Prop :=
  lt (key x) (key y) ∨ key x = key y ∧ le x y

theorem LexOn.total {α κ : Type} {key : α → κ} {lt : κ → κ → Prop} {le : α → α → Prop}
    (tri : ∀ a b, lt a b ∨ a = b ∨ lt b a) (tot : ∀ x y, le x y ∨ le y x) (x y : α) :
    LexOn key lt le x y ∨ LexOn key lt le y x := by
  rcases tri (key x) (key y) with h | h | h
  · exact .inl (.inl h)
  · exact (tot x y).imp (fun l => .inr ⟨h, l⟩) (fun l => .inr ⟨h.symm, l⟩)
  · exact .inr (.inl h)

theorem LexOn.trans {α κ : Type} {key : α → κ} {lt : κ → κ → Prop} {le : α → α → Prop}
    (hlt : ∀ a b c, lt a b → lt b c → lt a c) (hle : ∀ x y z, le x y → le y z → le x z) (x y z : α)
    (h1 : LexOn key lt le x y) (h2 : LexOn key lt le y z) : LexOn key lt le x z := by
  rcases h1 with h1 | ⟨e1, h1⟩ <;> rcases h2 with h2 | ⟨e2, h2⟩
  · exact .inl (hlt _ _ _ h1 h2)
  · exact .inl (e2 ▸ h1)
  · exact .inl (e1 ▸ h2)
  · exact .inr ⟨e1.trans e2, hle _ _ _ h1 h2⟩

/-- the order of `StructMapEntry_byName.Less` -/
def ByName : AField → AField → Prop :=
  LexOn (·.name) (fun a b => bytesLt a b = true) <| LexOn (·.route.length) (· < ·) <|
    LexOn (·.tagged) (fun a b => a = true ∧ b = false) fun x y => routeLe x.route y.route = true

theorem byNameLe_iff (x y : AField) : byNameLe x y = true ↔ ByName x y := by
  obtain ⟨xn, xr, xty, xt, xo⟩ := x
  obtain ⟨yn, yr, yty, yt, yo⟩ := y
  unfold byNameLe ByName LexOn
  simp only
  by_cases hn : xn = yn
  · subst hn
    simp only [bne_self_eq_false, Bool.false_eq_true, if_false, bytesLt_irrefl, false_or, true_and]
    by_cases hl : xr.length = yr.length
    · simp only [hl, bne_self_eq_false, Bool.false_eq_true, if_false, Nat.lt_irrefl, false_or, true_and]
      cases xt <;> cases yt <;> simp [routeLe]
    · have hl1 : (xr.length != yr.length) = true := by simp [hl]
      simp only [hl1, if_true, decide_eq_true_eq, hl, false_and, or_false]
  · have hn1 : (xn != yn) = true := by simp [hn]
    simp [hn1, hn]

theorem byNameLe_total (x y : AField) : byNameLe x y = true ∨ byNameLe y x = true := by
  rw [byNameLe_iff, byNameLe_iff]
  exact LexOn.total bytesLt_trichotomy (LexOn.total Nat.lt_trichotomy
    (LexOn.total (by decide) (fun x y => routeLe_total x.route y.route))) x y

theorem byNameLe_trans (x y z : AField) (h1 : byNameLe x y = true) (h2 : byNameLe y z = true) :
    byNameLe x z = true := by
  rw [byNameLe_iff] at *
  -- `lt` is named where its transitivity proof alone would not tell the elaborator which order is meant
  exact LexOn.trans bytesLt_trans (LexOn.trans (lt := (· < ·)) (fun _ _ _ => Nat.lt_trans)
    (LexOn.trans (lt := fun a b => a = true ∧ b = false) (fun _ _ _ h1 h2 => ⟨h1.1, h2.2⟩)
      (fun x y z => routeLe_trans x.route y.route z.route))) x y z h1 h2

theorem byNameLe_name (x y : AField) (h : byNameLe x y = true) : bytesLe x.name y.name = true := by
  simp only [byNameLe_iff, ByName, LexOn] at h
  rcases h with h | ⟨e, _⟩
  · simp [bytesLe, bytesLt_asymm _ _ h]
  · rw [e]; exact bytesLe_refl _

theorem byNameLe_depth (x y : AField) (hn : x.name = y.name) (h : byNameLe x y = true) :
    x.route.length ≤ y.route.length := by
  simp only [byNameLe_iff, ByName, LexOn] at h
  rcases h with h | ⟨e, h⟩
  · rw [hn, bytesLt_irrefl] at h; cases h
  · rcases h with h | ⟨h, _⟩ <;> omega

theorem rfcLe_eq_keyLe (x y : AField) : rfcLe x y = keyLe .rfc7049 x.name y.name := by
  unfold rfcLe keyLe
  by_cases h : x.name.length = y.name.length <;> simp [h]

theorem rfcLe_total (x y : AField) : rfcLe x y = true ∨ rfcLe y x = true := by
  rw [rfcLe_eq_keyLe, rfcLe_eq_keyLe]
  exact keyLe_total .rfc7049 x.name y.name

theorem rfcLe_trans (x y z : AField) (h1 : rfcLe x y = true) (h2 : rfcLe y z = true) : rfcLe x z = true := by
  rw [rfcLe_eq_keyLe] at *
  exact keyLe_trans .rfc7049 _ _ _ h1 h2

def sel (tg top : List AField) : Option AField :=
  match tg with
  | [t] => some t
  | _ :: _ :: _ => none
  | [] => (match top with | [x] => some x | _ => none)

def MinDepth (cs : List AField) (d : Nat) : Prop :=
  (∀ f ∈ cs, d ≤ f.route.length) ∧ ∃ f ∈ cs, f.route.length = d

theorem MinDepth.unique {cs : List AField} {d d' : Nat} (h : MinDepth cs d) (h' : MinDepth cs d') : d = d' := by
  obtain ⟨f, hf, e⟩ := h.2
  obtain ⟨f', hf', e'⟩ := h'.2
  have := h.1 f' hf'
  have := h'.1 f hf
  omega

theorem MinDepth.foldl_min (a : AField) (r : List AField) :
    MinDepth (a :: r) ((r.map (·.route.length)).foldl min a.route.length) := by
  have h := (List.min?_eq_some_iff (xs := (a :: r).map (·.route.length))).mp List.min?_cons'
  obtain ⟨y, hy, hyd⟩ := List.mem_map.mp h.1
  exact ⟨fun f hf => h.2 _ (List.mem_map.mpr ⟨f, hf, rfl⟩), y, hy, hyd⟩

theorem MinDepth.exists (cs : List AField) (h : cs ≠ []) : ∃ d, MinDepth cs d := by
  cases cs with
  | nil => exact absurd rfl h
  | cons a r => exact ⟨_, MinDepth.foldl_min a r⟩

theorem MinDepth.congr {cs cs' : List AField} {d : Nat} (h : ∀ f, f ∈ cs ↔ f ∈ cs') (hd : MinDepth cs d) :
    MinDepth cs' d :=
  ⟨fun f hf => hd.1 f ((h f).mpr hf), let ⟨f, hf, e⟩ := hd.2; ⟨f, (h f).mp hf, e⟩⟩

/-- `selectName l n` looks at nothing else of `l` (`selectName_congr`) -/
def cls (l : List AField) (n : Bytes) : List AField := l.filter (fun x => x.name == n)

theorem mem_cls {l : List AField} {n : Bytes} {f : AField} : f ∈ cls l n ↔ f ∈ l ∧ f.name = n := by
  rw [cls, List.mem_filter, beq_iff_eq]

theorem cls_append (A B : List AField) (n : Bytes) : cls (A ++ B) n = cls A n ++ cls B n :=
  List.filter_append ..

theorem cls_perm {l l' : List AField} (h : l.Perm l') (n : Bytes) : (cls l n).Perm (cls l' n) := h.filter _

theorem cls_cls (l : List AField) (n : Bytes) : cls (cls l n) n = cls l n := by
  unfold cls
  rw [List.filter_filter]
  simp only [Bool.and_self]

theorem selectName_congr {l l' : List AField} (n : Bytes) (h : cls l n = cls l' n) :
    selectName l n = selectName l' n := by
  unfold cls at h
  unfold selectName
  simp only [h]

theorem selectName_nil (cands : List AField) (name : Bytes) (h : cls cands name = []) :
    selectName cands name = none :=
  selectName_congr (l' := []) name h

theorem selectName_of_min (cands : List AField) (name : Bytes) (d : Nat) (hd : MinDepth (cls cands name) d) :
    selectName cands name =
      sel (((cls cands name).filter (·.route.length == d)).filter (·.tagged))
        ((cls cands name).filter (·.route.length == d)) := by
  unfold cls at hd ⊢
  unfold selectName
  cases hcs : cands.filter (fun x => x.name == name) with
  | nil => rw [hcs] at hd; obtain ⟨_, g, hg, _⟩ := hd; cases hg
  | cons a r =>
    rw [hcs] at hd
    simp only [List.map_cons, (MinDepth.foldl_min a r).unique hd]
    rfl

/-- `X` and `Y` agree in all that `sel` looks at -/
inductive Cap2 : List AField → List AField → Prop
  | nil : Cap2 [] []
  | one (t : AField) : Cap2 [t] [t]
  | many (x y : AField) (r : List AField) (x' y' : AField) (r' : List AField) : Cap2 (x :: y :: r) (x' :: y' :: r')

theorem sel_cap2 {a a' b b' : List AField} (h1 : Cap2 a a') (h2 : Cap2 b b') : sel a b = sel a' b' := by
  cases h1 with
  | nil => cases h2 <;> rfl
  | one t => rfl
  | many => rfl

theorem Cap2.nil_iff {X Y : List AField} (h : Cap2 X Y) : X = [] ↔ Y = [] := by
  cases h <;> simp

theorem Cap2.refl : ∀ X : List AField, Cap2 X X
  | [] => .nil
  | [t] => .one t
  | x :: y :: r => .many x y r x y r

theorem Cap2.of_two_le {X Y : List AField} (hX : 2 ≤ X.length) (hY : 2 ≤ Y.length) : Cap2 X Y := by
  obtain ⟨x, y, r, rfl⟩ := exists_cons_cons_of_two_le X hX
  obtain ⟨x', y', r', rfl⟩ := exists_cons_cons_of_two_le Y hY
  exact .many x y r x' y' r'

theorem Cap2.perm_right {X Y Y' : List AField} (h : Cap2 X Y) (hp : Y.Perm Y') : Cap2 X Y' := by
  cases h with
  | nil => rw [hp.symm.eq_nil]; exact .nil
  | one t => rw [List.perm_singleton.mp hp.symm]; exact .one t
  | many x y r x' y' r' => exact Cap2.of_two_le (Nat.le_add_left 2 _) (by rw [← hp.length_eq]; exact Nat.le_add_left 2 _)

theorem Cap2.of_perm {X Y : List AField} (h : X.Perm Y) : Cap2 X Y := (Cap2.refl X).perm_right h

theorem Cap2.append {X Y X' Y' : List AField} (h : Cap2 X Y) (h' : Cap2 X' Y') : Cap2 (X ++ X') (Y ++ Y') := by
  cases h with
  | nil => exact h'
  | one t =>
    cases h' with
    | nil => exact .one t
    | one t' => exact .many ..
    | many => exact .many ..
  | many => exact .many ..

theorem Cap2.flatMap {α : Type} (f g : α → List AField) : ∀ (l : List α), (∀ c ∈ l, Cap2 (f c) (g c)) →
    Cap2 (l.flatMap f) (l.flatMap g) := by
  intro l
  induction l with
  | nil => intro _; exact .nil
  | cons c l ih =>
    intro h
    rw [List.flatMap_cons, List.flatMap_cons]
    exact (h c (by simp)).append (ih (fun c hc => h c (by simp [hc])))

theorem selectName_perm {l l' : List AField} (h : l.Perm l') (n : Bytes) : selectName l n = selectName l' n := by
  have hcs := cls_perm h n
  by_cases hnil : cls l n = []
  · rw [selectName_nil l n hnil, selectName_nil l' n (by rw [hnil] at hcs; exact hcs.symm.eq_nil)]
  · obtain ⟨d, hd⟩ := MinDepth.exists _ hnil
    rw [selectName_of_min l n d hd, selectName_of_min l' n d (hd.congr (fun f => hcs.mem_iff))]
    exact sel_cap2 (Cap2.of_perm ((hcs.filter _).filter _)) (Cap2.of_perm (hcs.filter _))

theorem sel_mem (tg top : List AField) (hsub : ∀ x ∈ tg, x ∈ top) (f : AField) (h : sel tg top = some f) : f ∈ top := by
  unfold sel at h
  split at h
  · simp only [Option.some.injEq] at h; subst h; exact hsub _ (by simp)
  · cases h
  · split at h
    · simp only [Option.some.injEq] at h; subst h; simp
    · cases h

theorem selectName_some (l : List AField) (n : Bytes) (f : AField) (h : selectName l n = some f) :
    f ∈ l ∧ f.name = n := by
  by_cases hnil : cls l n = []
  · rw [selectName_nil l n hnil] at h; cases h
  · obtain ⟨d, hd⟩ := MinDepth.exists _ hnil
    rw [selectName_of_min l n d hd] at h
    exact mem_cls.mp (List.mem_filter.mp (sel_mem _ _ (fun x hx => (List.mem_filter.mp hx).1) f h)).1

theorem selectName_same_depth (B : List AField) (n : Bytes) (d : Nat) (hd : ∀ f ∈ cls B n, f.route.length = d) :
    selectName B n = sel ((cls B n).filter (·.tagged)) (cls B n) := by
  by_cases hnil : cls B n = []
  · rw [selectName_nil B n hnil, hnil]; rfl
  · obtain ⟨f, hf⟩ := List.exists_mem_of_ne_nil _ hnil
    have hself : (cls B n).filter (fun x => x.route.length == d) = cls B n :=
      List.filter_eq_self.mpr (fun f hf => by simp [hd f hf])
    rw [selectName_of_min B n d ⟨fun f hf => Nat.le_of_eq (hd f hf).symm, f, hf, hd f hf⟩, hself]

theorem selectName_append_shallow (A B : List AField) (n : Bytes) (k : Nat) (hne : cls A n ≠ [])
    (hA : ∀ f ∈ A, f.route.length ≤ k) (hB : ∀ f ∈ B, k < f.route.length) :
    selectName (A ++ B) n = selectName A n := by
  obtain ⟨d, hd⟩ := MinDepth.exists _ hne
  have hB' : ∀ f ∈ cls B n, d < f.route.length := by
    intro f hf
    obtain ⟨g, hg, e⟩ := hd.2
    have := hA g (mem_cls.mp hg).1
    have := hB f (mem_cls.mp hf).1
    omega
  have hd' : MinDepth (cls (A ++ B) n) d := by
    rw [cls_append]
    refine ⟨fun f hf => ?_, let ⟨f, hf, e⟩ := hd.2; ⟨f, List.mem_append_left _ hf, e⟩⟩
    rcases List.mem_append.mp hf with h | h
    · exact hd.1 f h
    · exact Nat.le_of_lt (hB' f h)
  have hBnil : (cls B n).filter (fun x => x.route.length == d) = [] := by
    rw [List.filter_eq_nil_iff]
    intro f hf
    have := hB' f hf
    simp only [beq_iff_eq]
    omega
  rw [selectName_of_min _ n d hd', selectName_of_min A n d hd, cls_append, List.filter_append, hBnil,
    List.append_nil]

/-- the first clause is what lets a deeper level be put behind both lists (`Agree.append`) -/
def Agree (A B : List AField) (n : Bytes) : Prop :=
  (cls A n = [] ↔ cls B n = []) ∧ selectName A n = selectName B n

theorem Agree.nil (n : Bytes) : Agree [] [] n := ⟨Iff.rfl, rfl⟩

theorem Agree.congr {A A' B B' : List AField} {n : Bytes} (h : Agree A B n)
    (hA : cls A n = cls A' n) (hB : cls B n = cls B' n) : Agree A' B' n :=
  ⟨hA ▸ hB ▸ h.1, (selectName_congr n hA).symm.trans (h.2.trans (selectName_congr n hB))⟩

theorem Agree.of_cap2 {L R : List AField} {n : Bytes} (d : Nat) (hL : ∀ f ∈ L, f.route.length = d)
    (hR : ∀ f ∈ R, f.route.length = d) (hcap : Cap2 (cls L n) (cls R n))
    (hcapt : Cap2 (L.filter (fun x => x.name == n && x.tagged)) (R.filter (fun x => x.name == n && x.tagged))) :
    Agree L R n := by
  refine ⟨hcap.nil_iff, ?_⟩
  rw [selectName_same_depth L n d (fun f hf => hL f (mem_cls.mp hf).1),
    selectName_same_depth R n d (fun f hf => hR f (mem_cls.mp hf).1)]
  have htag : ∀ l : List AField, (cls l n).filter (·.tagged) = l.filter (fun x => x.name == n && x.tagged) :=
    fun l => by
      rw [cls, List.filter_filter]; exact List.filter_congr (fun x _ => Bool.and_comm _ _)
  rw [htag, htag]
  exact sel_cap2 hcapt hcap

theorem Agree.append {A A' B B' : List AField} {n : Bytes} (k : Nat)
    (hA : ∀ f ∈ A, f.route.length ≤ k) (hA' : ∀ f ∈ A', f.route.length ≤ k)
    (hB : ∀ f ∈ B, k < f.route.length) (hB' : ∀ f ∈ B', k < f.route.length)
    (h : Agree A A' n) (hdeep : cls A n = [] → Agree B B' n) :
    Agree (A ++ B) (A' ++ B') n := by
  by_cases hn : cls A n = []
  · exact (hdeep hn).congr (by rw [cls_append, hn, List.nil_append]) (by rw [cls_append, h.1.mp hn, List.nil_append])
  · have hn' : cls A' n ≠ [] := fun e => hn (h.1.mpr e)
    constructor
    · rw [cls_append, cls_append]
      exact ⟨fun e => absurd (List.append_eq_nil_iff.mp e).1 hn, fun e => absurd (List.append_eq_nil_iff.mp e).1 hn'⟩
    · rw [selectName_append_shallow A B n k hn hA hB, selectName_append_shallow A' B' n k hn' hA' hB']
      exact h.2

theorem dominantField_cons (f0 : AField) (tl : List AField) :
    dominantField (f0 :: tl) =
      sel (((f0 :: tl).takeWhile fun f => f.route.length == f0.route.length).filter (·.tagged))
        ((f0 :: tl).takeWhile fun f => f.route.length == f0.route.length) := rfl

theorem dominantField_mem (g : List AField) (x : AField) (h : dominantField g = some x) : x ∈ g := by
  cases g with
  | nil => cases h
  | cons f0 tl =>
    rw [dominantField_cons] at h
    exact (List.takeWhile_sublist _).subset (sel_mem _ _ (fun y hy => (List.mem_filter.mp hy).1) x h)

theorem dominant_eq_select (g : List AField) (name : Bytes) (hn : ∀ f ∈ g, f.name = name)
    (hs : g.Pairwise (fun x y => byNameLe x y = true)) :
    dominantField g = selectName g name := by
  cases g with
  | nil => rfl
  | cons f0 tl =>
    have hfilt : cls (f0 :: tl) name = f0 :: tl := by
      rw [cls, List.filter_eq_self]
      intro a ha
      simp [hn a ha]
    have hdepth : (f0 :: tl).Pairwise (fun x y => x.route.length ≤ y.route.length) := by
      refine List.Pairwise.imp_of_mem ?_ hs
      intro a b ha hb hab
      exact byNameLe_depth a b ((hn a ha).trans (hn b hb).symm) hab
    -- the group is sorted by depth first, so its head is at the least depth
    have hmin : ∀ x ∈ f0 :: tl, f0.route.length ≤ x.route.length := by
      intro x hx
      rw [List.mem_cons] at hx
      rcases hx with rfl | hx
      · exact Nat.le_refl _
      · exact (List.pairwise_cons.mp hdepth).1 x hx
    rw [selectName_of_min _ name f0.route.length (by rw [hfilt]; exact ⟨hmin, f0, by simp, rfl⟩), hfilt,
      dominantField_cons, (takeWhile_dropWhile_eq_filter _ _ (hdepth.imp_of_mem (fun {a b} ha _ hab hb => by
        have := hmin a ha
        simp only [beq_iff_eq] at hb ⊢
        omega))).1]

-- `hne` is not needed (`dominant_eq_select`)
set_option linter.unusedVariables false in
theorem dominant_is_select (g : List AField) (name : Bytes) (hn : ∀ f ∈ g, f.name = name) (hne : g ≠ [])
    (hs : g.Pairwise (fun x y => byNameLe x y = true)) :
    dominantField g = selectName g name :=
  dominant_eq_select g name hn hs

def pick (g : List AField) : Option AField :=
  match g with
  | [x] => some x
  | _ => dominantField g

def NameSorted (l : List AField) : Prop := l.Pairwise (fun x y => bytesLe x.name y.name = true)

theorem NameSorted.of_byNameLe {l : List AField} (h : l.Pairwise (fun x y => byNameLe x y = true)) : NameSorted l :=
  List.Pairwise.imp (fun {a b} hab => byNameLe_name a b hab) h

theorem pick_eq_dominant (g : List AField) : pick g = dominantField g := by
  unfold pick
  split
  · rename_i x
    unfold dominantField
    cases hx : x.tagged <;> simp [hx]
  · rfl

def names (l : List AField) : List Bytes := (l.map (·.name)).eraseDups

theorem mem_names {l : List AField} {n : Bytes} : n ∈ names l ↔ ∃ x ∈ l, x.name = n := by
  rw [names, List.mem_eraseDups, List.mem_map]

theorem names_cons (f : AField) (rest : List AField) :
    names (f :: rest) = f.name :: names (rest.filter (fun x => !(x.name == f.name))) := by
  rw [names, List.map_cons, List.eraseDups_cons, List.filter_map]
  rfl

theorem NameSorted.class_prefix {f : AField} {rest : List AField} (hs : NameSorted (f :: rest)) :
    rest.Pairwise (fun a b => (b.name == f.name) = true → (a.name == f.name) = true) := by
  obtain ⟨h1, h2⟩ := List.pairwise_cons.mp hs
  refine h2.imp_of_mem (fun {a b} ha _ hab hb => ?_)
  simp only [beq_iff_eq] at hb ⊢
  exact bytesLe_antisymm _ _ (hb ▸ hab) (h1 a ha)

theorem groupByName_cons (fuel : Nat) (f : AField) (rest : List AField) (hs : NameSorted (f :: rest)) :
    groupByName (fuel + 1) (f :: rest) =
      cls (f :: rest) f.name :: groupByName fuel (rest.filter (fun x => !(x.name == f.name))) := by
  rw [groupByName, (takeWhile_dropWhile_eq_filter _ rest hs.class_prefix).1,
    (takeWhile_dropWhile_eq_filter _ rest hs.class_prefix).2, cls, List.filter_cons]
  simp

theorem groupByName_eq : ∀ (fuel : Nat) (l : List AField), NameSorted l → l.length < fuel →
    groupByName fuel l = (names l).map (cls l) := by
  intro fuel
  induction fuel with
  | zero => intro l _ h; omega
  | succ fuel ih =>
    intro l hs hlen
    cases l with
    | nil => rfl
    | cons f rest =>
      have hlen' : (rest.filter (fun x => !(x.name == f.name))).length < fuel :=
        Nat.lt_of_le_of_lt (List.length_filter_le _ _) (Nat.lt_of_succ_lt_succ hlen)
      rw [groupByName_cons fuel f rest hs, names_cons, List.map_cons,
        ih _ (List.Pairwise.sublist ((List.filter_sublist).trans (List.sublist_cons_self f rest)) hs) hlen']
      congr 1
      apply List.map_congr_left
      intro n hn
      -- a later name is not the name of `f`, so its class lies in the rest of the list
      obtain ⟨x, hx, rfl⟩ := mem_names.mp hn
      have hne : ¬ x.name = f.name := by simpa using (List.mem_filter.mp hx).2
      have hf : (f.name == x.name) = false := by simp; exact fun e => hne e.symm
      rw [cls, cls, List.filter_filter, List.filter_cons, hf]
      apply List.filter_congr
      intro y _
      by_cases e : y.name = x.name <;> simp [e, hne]

theorem names_strict : ∀ (k : Nat) (l : List AField), l.length ≤ k → NameSorted l →
    (names l).Pairwise (fun a b => bytesLe a b = true ∧ a ≠ b) := by
  intro k
  induction k with
  | zero => intro l h _; rw [List.eq_nil_of_length_eq_zero (Nat.le_zero.mp h)]; exact List.Pairwise.nil
  | succ k ih =>
    intro l hlen hs
    cases l with
    | nil => exact List.Pairwise.nil
    | cons f rest =>
      rw [names_cons, List.pairwise_cons]
      refine ⟨fun b hb => ?_, ih _ (Nat.le_trans (List.length_filter_le _ _) (Nat.le_of_succ_le_succ hlen))
        (List.Pairwise.sublist ((List.filter_sublist).trans (List.sublist_cons_self f rest)) hs)⟩
      obtain ⟨x, hx, rfl⟩ := mem_names.mp hb
      obtain ⟨hxr, hxn⟩ := List.mem_filter.mp hx
      exact ⟨(List.pairwise_cons.mp hs).1 x hxr, fun e => by simp [e] at hxn⟩

theorem mergeSort_byNameLe_sorted (raw : List AField) :
    (raw.mergeSort byNameLe).Pairwise (fun x y => byNameLe x y = true) :=
  List.pairwise_mergeSort (le := byNameLe) byNameLe_trans (fun x y => by simpa using byNameLe_total x y) _

theorem pick_class (l : List AField) (hs : l.Pairwise (fun x y => byNameLe x y = true)) (n : Bytes) :
    pick (cls l n) = selectName l n := by
  rw [pick_eq_dominant, dominant_eq_select _ n (fun a ha => (mem_cls.mp ha).2) (hs.sublist List.filter_sublist)]
  exact selectName_congr n (cls_cls l n)

/-- what `exploreFields` makes of the raw list of the BFS, before the final sort -/
def picks (raw : List AField) : List AField :=
  (groupByName ((raw.mergeSort byNameLe).length + 1) (raw.mergeSort byNameLe)).filterMap pick

theorem picks_eq (raw : List AField) :
    picks raw = (names (raw.mergeSort byNameLe)).filterMap (selectName raw) := by
  have hs := mergeSort_byNameLe_sorted raw
  rw [picks, groupByName_eq _ _ (NameSorted.of_byNameLe hs) (Nat.lt_succ_self _), List.filterMap_map]
  congr 1
  funext n
  rw [Function.comp_apply, pick_class _ hs n, selectName_perm (List.mergeSort_perm raw byNameLe)]

theorem mem_filterMap_selectName (ns : List Bytes) (l : List AField) (h : ∀ x ∈ l, x.name ∈ ns) (f : AField) :
    f ∈ ns.filterMap (selectName l) ↔ ∃ n, selectName l n = some f := by
  rw [List.mem_filterMap]
  refine ⟨fun ⟨n, _, hn⟩ => ⟨n, hn⟩, fun ⟨n, hn⟩ => ⟨n, ?_, hn⟩⟩
  obtain ⟨hm, hname⟩ := selectName_some l n f hn
  exact hname ▸ h f hm

theorem mem_picks_iff (raw : List AField) (f : AField) : f ∈ picks raw ↔ ∃ n, selectName raw n = some f := by
  rw [picks_eq]
  exact mem_filterMap_selectName _ raw (fun x hx => mem_names.mpr ⟨x, List.mem_mergeSort.mpr hx, rfl⟩) f

theorem picks_strict (raw : List AField) :
    (picks raw).Pairwise (fun x y => bytesLe x.name y.name = true ∧ x.name ≠ y.name) := by
  rw [picks_eq]
  refine List.Pairwise.filterMap _ (fun a a' h b hb b' hb' => ?_)
    (names_strict _ _ (Nat.le_refl _) (NameSorted.of_byNameLe (mergeSort_byNameLe_sorted raw)))
  rw [(selectName_some raw a b hb).2, (selectName_some raw a' b' hb').2]
  exact h

def rawFields (ts : Types) (u : UTab) (root : Nat) : List AField := bfs ts u 64 [([], root)] [] [] []

theorem exploreFields_eq (ts : Types) (u : UTab) (root : Nat) (mode : KeySort) :
    exploreFields ts u root mode =
      match mode with
      | .default => (picks (rawFields ts u root)).mergeSort fun x y => routeLe x.route y.route
      | .strings => picks (rawFields ts u root)
      | .rfc7049 => (picks (rawFields ts u root)).mergeSort rfcLe := by
  cases mode <;> rfl

theorem exploreFields_perm (ts : Types) (u : UTab) (root : Nat) (mode : KeySort) :
    (exploreFields ts u root mode).Perm (picks (rawFields ts u root)) := by
  rw [exploreFields_eq]
  cases mode
  · exact List.mergeSort_perm _ _
  · exact List.Perm.refl _
  · exact List.mergeSort_perm _ _

theorem mem_exploreFields_iff (ts : Types) (u : UTab) (root : Nat) (mode : KeySort) (f : AField) :
    f ∈ exploreFields ts u root mode ↔ ∃ n, selectName (rawFields ts u root) n = some f := by
  rw [(exploreFields_perm ts u root mode).mem_iff, mem_picks_iff]

theorem mem_promoted_iff (ts : Types) (u : UTab) (root : Nat) (f : AField) :
    f ∈ promoted ts u root ↔ ∃ n, selectName (candidates ts u 64 [] [] root) n = some f :=
  mem_filterMap_selectName _ _ (fun x hx => by
    rw [List.mem_mergeSort, List.mem_eraseDups, List.mem_map]
    exact ⟨x, hx, rfl⟩) f

end Refmt.Autogen
