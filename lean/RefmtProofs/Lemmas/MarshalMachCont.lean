/-
  Simulation lemmas for the machines that `Recurse` into children: slice / array, map, struct.  Each opens, runs
  through its elements from a position on (`slice_run`, `map_run`, `struct_run`, by induction on the elements that are
  left: a key Step where there are keys, then `Steps.child` for the trip into the child) and closes.
-/
import RefmtProofs.Lemmas.MarshalMachWrap
open Refmt Refmt.Obj Refmt.Obj.MM

namespace Refmt.MachL

variable {ts : Types} {a : Atlas} {trs : Trs}

variable (ts a trs) in
/-- `Sim` for every configured machine at functional fuel `f`: what `simV_all` proves by induction on `f`, and the
    induction hypothesis (`∀ f' ≤ f, SimV f'`) that the lemmas of this file take for the children; it stands here
    because they are its first users. -/
def SimV (f : Nat) : Prop :=
  ∀ id v L row hi k, CfgV ts a id k row → Clean (row :: hi) →
    (marshalV ts a trs f id v).fail ≠ some .panic →
    Sim ts a trs FFF FFF (CfgV ts a id k) L row hi k id v (marshalV ts a trs f id v)

def srow (row : Row) (v : Val) (e : Nat) (d : MRef) (i : Int) (n : Nat) : Row :=
  { row with slice := { target_rv := v, value_rt := e, valueMach := some d, index := i, length := n } }

theorem srow_ptr (row v e d i n) : (srow row v e d i n).ptr = row.ptr := rfl
theorem srow_incr (row v e d i n) : SliceM.incr (srow row v e d i n) = srow row v e d (i + 1) n := rfl
theorem setWm_srow (vm : Mask) (w : WVal) (row v e d i n) :
    setWm vm w (srow row v e d i n) = srow (setWm vm w row) v e d i n := rfl
theorem agreeW_srow (mk : Mask) (row v e d i n) : agreeW mk row (srow row v e d i n) := .of_getW rfl

theorem stepSlice_elem {rc : RecurseF} {lo row hi v e d n k st cur be es x} {i : Nat}
    (hes : elemsOf (k == .slice) v = some es) (hx : es[i]? = some x) (hi' : i < n) :
    stepSlice rc ⟨lo.length, k⟩ (srow row v e d i n) ⟨lo ++ srow row v e d i n :: hi, st, cur, be⟩ =
      rc ⟨lo ++ srow row v e d (i + 1) n :: hi, st, cur, be⟩ x e d := by
  obtain ⟨h1, h2, h3⟩ := idx_mid hi'
  simp only [stepSlice, srow, h1, h2, h3, hes, decide_false, Bool.and_false, Bool.false_and, if_false]
  simp [hx, upd_at, SliceM.incr]

theorem stepM_slice {n lo row hi k st cur be} (hk : k = .slice ∨ k = .array) :
    stepM ts a trs (n+1) ⟨lo.length, k⟩ ⟨lo ++ row :: hi, st, cur, be⟩ =
      stepSlice (recurse ts a trs n) ⟨lo.length, k⟩ row ⟨lo ++ row :: hi, st, cur, be⟩ := by
  cases hk with
  | inl h => subst h; simp only [stepM_kind]
  | inr h => subst h; simp only [stepM_kind]

theorem stepSlice_open {rc : RecurseF} {lo row hi v e d n k st cur be es}
    (hes : elemsOf (k == .slice) v = some es) :
    stepSlice rc ⟨lo.length, k⟩ (srow row v e d (-1) n) ⟨lo ++ srow row v e d (-1) n :: hi, st, cur, be⟩ =
      .ok ⟨⟨.arrOpen es.length, none⟩, false, ⟨lo ++ srow row v e d (0 : Nat) n :: hi, st, cur, be⟩⟩ := by
  have hnil := notNil_of_elemsOf hes
  simp only [stepSlice, srow, lenOf_of_elemsOf hes]
  simp [hnil, upd_at, SliceM.incr, tk]

theorem stepSlice_nil {rc : RecurseF} {lo row hi e d n st cur be} :
    stepSlice rc ⟨lo.length, .slice⟩ (srow row (.slice none) e d (-1) n)
        ⟨lo ++ srow row (.slice none) e d (-1) n :: hi, st, cur, be⟩ =
      .ok ⟨⟨.null, none⟩, true, ⟨lo ++ srow row (.slice none) e d (-1) n :: hi, st, cur, be⟩⟩ := by
  simp [stepSlice, srow, isNilSlice, tk]

theorem stepSlice_close {rc : RecurseF} {lo row hi v e d n k st cur be} (hhi : hi ≠ []) :
    stepSlice rc ⟨lo.length, k⟩ (srow row v e d (n : Nat) n) ⟨lo ++ srow row v e d (n : Nat) n :: hi, st, cur, be⟩ =
      .ok ⟨⟨.arrClose, none⟩, true, ⟨lo ++ srow row v e d ((n : Nat) + 1) n :: hi.dropLast, st, cur, be⟩⟩ := by
  have h1 : ¬ ((n : Int) < 0) := by omega
  simp only [stepSlice, srow, h1, decide_false, Bool.and_false, Bool.false_and, if_false, if_true]
  simp [updRow_at, SliceM.incr, tk, release_at _ _ _ hhi]

theorem reset_slice {n lo row hi rt v e k drow kd len} (hk : k = .slice ∨ k = .array)
    (helem : elemOf ts rt = some e) (hy : yieldM ts a n Row.zero e = .ok (drow, kd))
    (hlen : lenOf (k == .slice) v = some len) :
    resetM ts a trs (n+1) ⟨lo.length, k⟩ rt v (lo ++ row :: hi) =
      .ok (lo ++ srow row v e ⟨lo.length + 1 + hi.length, kd⟩ (-1) len :: (hi ++ [drow])) := by
  have : resetM ts a trs (n+1) ⟨lo.length, k⟩ rt v (lo ++ row :: hi) =
      resetSlice ts a n ⟨lo.length, k⟩ rt v (lo ++ row :: hi) := by
    cases hk with
    | inl h => subst h; simp only [resetM_kind]
    | inr h => subst h; simp only [resetM_kind]
  rw [this]
  simp only [resetSlice, helem, requisition_at hy, hlen, RowL.reassoc, updRow_at, RowL.len_at, srow]

theorem slice_run {mk vm : Mask} {lo hi : List Row} {v e kd k st cur be es}
    (hk : k = .slice ∨ k = .array) (hes : elemsOf (k == .slice) v = some es) (hhi : Clean hi) :
    ∀ (xs : List Val) (f i : Nat) (row drow : Row) (dhi : List Row), (∀ f', f' ≤ f → SimV ts a trs f') →
      i ≤ es.length → es.drop i = xs → CfgV ts a e kd drow → Clean (drow :: dhi) → row.map.value = false →
      (marshalList ts a trs f e xs).fail ≠ some .panic →
      Steps ts a trs ⟨lo.length, k⟩ cur st be lo mk vm (fun _ => True) true
        (srow row v e ⟨lo.length + 1 + hi.length, kd⟩ i es.length)
        (hi ++ drow :: dhi)
        ((marshalList ts a trs f e xs).seq fun _ => MOut.ok [⟨.arrClose, none⟩]).toks
        ((marshalList ts a trs f e xs).seq fun _ => MOut.ok [⟨.arrClose, none⟩]).fail := by
  intro xs
  induction xs with
  | nil =>
    intro f i row drow dhi hih hle hdrop _ hcl hval hnp
    obtain ⟨f, rfl⟩ := marshalList_fuel_pos hnp
    have hi_n : i = es.length := by have := List.drop_eq_nil_iff.mp hdrop; omega
    subst hi_n
    rw [marshalList_nil]
    refine .fin (n := 1) (t := ⟨.arrClose, none⟩)
      (row' := srow row v e ⟨lo.length + 1 + hi.length, kd⟩ ((es.length : Nat) + 1) es.length)
      (hi' := (hi ++ drow :: dhi).dropLast) ?_ (.of_getW rfl) trivial
      (Clean.cons hval (Clean.dropLast (Clean.append hhi hcl)))
    rw [stepM_slice hk, stepSlice_close (by simp)]
  | cons x xs ih =>
    intro f i row drow dhi hih _ hdrop hcfg hcl hval hnp
    obtain ⟨f, rfl⟩ := marshalList_fuel_pos hnp
    rw [marshalList_cons] at hnp ⊢
    rw [seq_assoc]
    obtain ⟨hx, hlt, hrest⟩ := drop_cons_inv hdrop
    refine Steps.child (hi0 := hi) (prow' := srow row v e ⟨lo.length + 1 + hi.length, kd⟩ (i + 1 : Nat) es.length)
      (hih f (Nat.le_succ f) e x _ drow dhi kd hcfg hcl (seq_fail_left hnp)) (.of_getW rfl)
      (fun n' res hrec hns => ⟨n' + 1, ?_⟩) (fun hnone w drow2 dhi2 hq hc => ?_)
    · rw [← hrec, stepM_slice hk, stepSlice_elem hes hx hlt]
      rfl
    · rw [setWm_srow]
      exact ih f (i + 1) _ drow2 dhi2 (fun f' hf' => hih f' (Nat.le_succ_of_le hf')) hlt hrest hq hc
        hval (seq_fail_right hnp hnone)

theorem sim_slice_elems {mk vm : Mask} {L row hi rt v e kd ny drow k f es}
    (hk : k = .slice ∨ k = .array) (helem : elemOf ts rt = some e)
    (hes : elemsOf (k == .slice) v = some es)
    (hy : yieldM ts a ny Row.zero e = .ok (drow, kd)) (hcfgd : CfgV ts a e kd drow) (hdc : Clean [drow])
    (hcl : Clean (row :: hi)) (hih : ∀ f', f' ≤ f → SimV ts a trs f')
    (hnp : (marshalList ts a trs f e es).fail ≠ some .panic) :
    Sim ts a trs mk vm (fun _ => True) L row hi k rt v
      ((MOut.ok [⟨.arrOpen es.length, none⟩]).seq fun _ =>
        (marshalList ts a trs f e es).seq fun _ => MOut.ok [⟨.arrClose, none⟩]) := by
  refine Sim.run (by simp [MOut.seq, MOut.ok]) (ny+1) (srow row v e ⟨L + 1 + hi.length, kd⟩ (-1) es.length) (hi ++ [drow])
    (fun lo hl => by subst hl; exact reset_slice hk helem hy (lenOf_of_elemsOf hes)) (agreeW_srow ..) trivial
    (Clean.cons hcl.head (Clean.append hcl.tail hdc)) fun lo hl w cur st be => ?_
  subst hl
  refine .tok (n := 1) (hiA := hi ++ [drow])
    (rowA := srow (setWm vm w row) v e ⟨lo.length + 1 + hi.length, kd⟩ (0 : Nat) es.length) ?_ (.of_getW rfl) (fun w' => ?_)
  · rw [setWm_srow, stepM_slice hk, stepSlice_open hes]
  · rw [setWm_srow]
    exact slice_run hk hes hcl.tail es f 0 _ drow [] hih (Nat.zero_le _) rfl hcfgd hdc
      hcl.head hnp

theorem sim_slice_nil {mk vm : Mask} {L row hi rt e kd ny drow}
    (helem : elemOf ts rt = some e)
    (hy : yieldM ts a ny Row.zero e = .ok (drow, kd)) (hdc : Clean [drow])
    (hcl : Clean (row :: hi)) :
    Sim ts a trs mk vm (fun _ => True) L row hi .slice rt (.slice none) (MOut.ok [⟨.null, none⟩]) := by
  have hcl1 : ∀ r : Row, r.map.value = false → Clean (r :: (hi ++ [drow])) :=
    fun r hr => Clean.cons hr (Clean.append hcl.tail hdc)
  refine Sim.run (by simp [MOut.ok]) (ny+1) (srow row (.slice none) e ⟨L + 1 + hi.length, kd⟩ (-1) 0) (hi ++ [drow])
    (fun lo hl => by subst hl; exact reset_slice (Or.inl rfl) helem hy rfl) (agreeW_srow ..) trivial (hcl1 _ hcl.head)
    fun lo hl w cur st be => ?_
  subst hl
  refine .fin (n := 1) (hi' := hi ++ [drow]) ?_ (agreeW.refl _ _) trivial (hcl1 _ hcl.head)
  rw [setWm_srow, stepM_slice (Or.inl rfl), stepSlice_nil]

def mrow (row : Row) (v : Val) (vt : Nat) (d : MRef) (kf : Option Nat) (keys : List (Bytes × Val)) (i : Int) (b : Bool) :
    Row :=
  { row with map := { morphism := row.map.morphism, target_rv := v, value_rt := vt, keyStringer := kf,
                      valueMach := some d, keys := keys, index := i, value := b } }

theorem mrow_ptr (row v vt d kf keys i b) : (mrow row v vt d kf keys i b).ptr = row.ptr := rfl
theorem setWm_mrow (vm : Mask) (w : WVal) (row v vt d kf keys i b) :
    setWm vm w (mrow row v vt d kf keys i b) = mrow (setWm vm w row) v vt d kf keys i b := rfl
theorem agreeW_mrow (mk : Mask) (row v vt d kf keys i b) : agreeW mk row (mrow row v vt d kf keys i b) :=
  .of_getW rfl

theorem stepM_map {n lo row hi st cur be} :
    stepM ts a trs (n+1) ⟨lo.length, .map⟩ ⟨lo ++ row :: hi, st, cur, be⟩ =
      stepMap (recurse ts a trs n) ⟨lo.length, .map⟩ row ⟨lo ++ row :: hi, st, cur, be⟩ := by
  simp only [stepM_kind]

theorem stepMap_open {rc : RecurseF} {lo row hi es vt d kf keys b st cur be} :
    stepMap rc ⟨lo.length, .map⟩ (mrow row (.map (some es)) vt d kf keys (-1) b)
        ⟨lo ++ mrow row (.map (some es)) vt d kf keys (-1) b :: hi, st, cur, be⟩ =
      .ok ⟨⟨.mapOpen es.length, none⟩, false,
        ⟨lo ++ mrow row (.map (some es)) vt d kf keys (0 : Nat) b :: hi, st, cur, be⟩⟩ := by
  simp [stepMap, mrow, upd_at, MapM.incr, tk]

theorem stepMap_nil {rc : RecurseF} {lo row hi vt d kf keys b st cur be} :
    stepMap rc ⟨lo.length, .map⟩ (mrow row (.map none) vt d kf keys (-1) b)
        ⟨lo ++ mrow row (.map none) vt d kf keys (-1) b :: hi, st, cur, be⟩ =
      .ok ⟨⟨.null, none⟩, true, ⟨lo ++ mrow row (.map none) vt d kf keys (0 : Nat) b :: hi, st, cur, be⟩⟩ := by
  simp [stepMap, mrow, upd_at, MapM.incr, tk]

theorem stepMap_key {rc : RecurseF} {lo row hi v vt d kf keys st cur be k x} {i : Nat}
    (hk : keys[i]? = some (k, x)) :
    stepMap rc ⟨lo.length, .map⟩ (mrow row v vt d kf keys i false)
        ⟨lo ++ mrow row v vt d kf keys i false :: hi, st, cur, be⟩ =
      .ok ⟨⟨.str k, none⟩, false, ⟨lo ++ mrow row v vt d kf keys i true :: hi, st, cur, be⟩⟩ := by
  obtain ⟨h1, h2, h3⟩ := idx_mid (RowL.lt_of_getElem? hk)
  simp only [stepMap, mrow, h1, h2, h3, if_false]
  simp [hk, upd_at, tk]

theorem stepMap_value {rc : RecurseF} {lo row hi v vt d kf keys st cur be k x} {i : Nat}
    (hk : keys[i]? = some (k, x)) :
    stepMap rc ⟨lo.length, .map⟩ (mrow row v vt d kf keys i true)
        ⟨lo ++ mrow row v vt d kf keys i true :: hi, st, cur, be⟩ =
      rc ⟨lo ++ mrow row v vt d kf keys (i + 1 : Nat) false :: hi, st, cur, be⟩ x vt d := by
  obtain ⟨h1, h2, h3⟩ := idx_mid (RowL.lt_of_getElem? hk)
  simp only [stepMap, mrow, h1, h2, h3, if_false]
  simp [hk, upd_at]

theorem stepMap_close {rc : RecurseF} {lo row hi v vt d kf keys st cur be} (hhi : hi ≠ []) :
    stepMap rc ⟨lo.length, .map⟩ (mrow row v vt d kf keys (keys.length : Nat) false)
        ⟨lo ++ mrow row v vt d kf keys (keys.length : Nat) false :: hi, st, cur, be⟩ =
      .ok ⟨⟨.mapClose, none⟩, true,
        ⟨lo ++ mrow row v vt d kf keys ((keys.length : Nat) + 1) false :: hi.dropLast, st, cur, be⟩⟩ := by
  have h1 : ¬ ((keys.length : Int) < 0) := by omega
  simp only [stepMap, mrow, h1, if_false, if_true]
  simp [updRow_at, MapM.incr, tk, release_at _ _ _ hhi]

theorem map_run {mk vm : Mask} {lo hi : List Row} {v vt kd kf keys mode st cur be} (hhi : Clean hi) :
    ∀ (xs : List (Bytes × Val)) (f i : Nat) (row drow : Row) (dhi : List Row), (∀ f', f' ≤ f → SimV ts a trs f') →
      i ≤ keys.length → keys.drop i = xs → CfgV ts a vt kd drow → Clean (drow :: dhi) → row.map.morphism = mode →
      (marshalEntries ts a trs f vt xs).fail ≠ some .panic →
      Steps ts a trs ⟨lo.length, .map⟩ cur st be lo mk vm (fun r => r.map.morphism = mode) true
        (mrow row v vt ⟨lo.length + 1 + hi.length, kd⟩ kf keys i false) (hi ++ drow :: dhi)
        ((marshalEntries ts a trs f vt xs).seq fun _ => MOut.ok [⟨.mapClose, none⟩]).toks
        ((marshalEntries ts a trs f vt xs).seq fun _ => MOut.ok [⟨.mapClose, none⟩]).fail := by
  intro xs
  induction xs with
  | nil =>
    intro f i row drow dhi hih hle hdrop _ hcl hmor hnp
    obtain ⟨f, rfl⟩ := marshalEntries_fuel_pos hnp
    have hi_n : i = keys.length := by have := List.drop_eq_nil_iff.mp hdrop; omega
    subst hi_n
    rw [marshalEntries_nil]
    refine .fin (n := 1) (t := ⟨.mapClose, none⟩)
      (row' := mrow row v vt ⟨lo.length + 1 + hi.length, kd⟩ kf keys ((keys.length : Nat) + 1) false)
      (hi' := (hi ++ drow :: dhi).dropLast) ?_ (.of_getW rfl) hmor
      (Clean.cons rfl (Clean.dropLast (Clean.append hhi hcl)))
    rw [stepM_map, stepMap_close (by simp)]
  | cons kx xs ih =>
    intro f i row drow dhi hih _ hdrop hcfg hcl hmor hnp
    obtain ⟨k, x⟩ := kx
    obtain ⟨f, rfl⟩ := marshalEntries_fuel_pos hnp
    rw [marshalEntries_cons] at hnp ⊢
    have hnp2 := seq_fail_right hnp rfl
    rw [seq_assoc, seq_tok, seq_assoc]
    obtain ⟨hx, hlt, hrest⟩ := drop_cons_inv hdrop
    refine .tok (n := 1) (hiA := hi ++ drow :: dhi)
      (rowA := mrow row v vt ⟨lo.length + 1 + hi.length, kd⟩ kf keys i true) ?_ (.of_getW rfl) fun w => ?_
    · rw [stepM_map, stepMap_key hx]
    · rw [setWm_mrow]
      refine Steps.child (hi0 := hi)
        (prow' := mrow (setWm vm w row) v vt ⟨lo.length + 1 + hi.length, kd⟩ kf keys (i + 1 : Nat) false)
        (hih f (Nat.le_succ f) vt x _ drow dhi kd hcfg hcl (seq_fail_left hnp2)) (.of_getW rfl)
        (fun n' res hrec hns => ⟨n' + 1, ?_⟩) (fun hnone w' drow2 dhi2 hq hc => ?_)
      · rw [← hrec, stepM_map, stepMap_value hx]
      · rw [setWm_mrow]
        exact ih f (i + 1) _ drow2 dhi2 (fun f' hf' => hih f' (Nat.le_succ_of_le hf')) hlt hrest hq hc
          hmor (seq_fail_right hnp2 hnone)

theorem resetM_map {n lo row hi rt v} :
    resetM ts a trs (n+1) ⟨lo.length, .map⟩ rt v (lo ++ row :: hi) =
      resetMap ts a trs n ⟨lo.length, .map⟩ rt v (lo ++ row :: hi) := by
  simp only [resetM_kind]

theorem reset_map {n lo row hi rt es kt vt kf kvs drow kd} (hty : ts.get rt = .map kt vt)
    (hy : yieldM ts a n Row.zero vt = .ok (drow, kd)) (hkf : keyFnOf ts a kt = some kf)
    (hs : stringify trs kf (es.getD []) = some kvs) (hval : row.map.value = false) :
    resetM ts a trs (n+1) ⟨lo.length, .map⟩ rt (.map es) (lo ++ row :: hi) =
      .ok (lo ++ mrow row (.map es) vt ⟨lo.length + 1 + hi.length, kd⟩ kf (sortKeys row.map.morphism kvs) (-1) false ::
        (hi ++ [drow])) := by
  rw [resetM_map]
  simp only [resetMap, hty, requisition_at hy, hkf, hs, RowL.reassoc, updRow_at, RowL.len_at, mrow, hval]

theorem sim_map {mk vm : Mask} {L row hi rt v kt vt mode f id ny drow kd}
    (hty : ts.get rt = .map kt vt) (hmode : row.map.morphism = mode)
    (hy : yieldM ts a ny Row.zero vt = .ok (drow, kd)) (hcfgd : CfgV ts a vt kd drow) (hdc : Clean [drow])
    (hcl : Clean (row :: hi)) (hih : ∀ f', f' ≤ f → SimV ts a trs f')
    (hnp : (marshalBare ts a trs (f+1) id (.map kt vt mode) v).fail ≠ some .panic) :
    Sim ts a trs mk vm (fun r => r.map.morphism = mode) L row hi .map rt v
      (marshalBare ts a trs (f+1) id (.map kt vt mode) v) := by
  rw [marshalBare_map] at hnp ⊢
  cases hkf : keyFnOf ts a kt with
  | none =>
    refine Sim.bad rfl (ny+1) fun lo hl => ?_
    subst hl
    rw [resetM_map]
    simp only [resetMap, hty, requisition_at hy, hkf]
  | some kf =>
    cases v with
    | map es =>
      simp only [hkf] at hnp ⊢
      cases hs : stringify trs kf (es.getD []) with
      | none =>
        refine Sim.bad rfl (ny+1) fun lo hl => ?_
        subst hl
        rw [resetM_map]
        simp only [resetMap, hty, requisition_at hy, hkf, hs]
      | some kvs =>
        simp only [hs] at hnp ⊢
        cases es with
        | none =>
          refine Sim.run (by simp [MOut.ok]) (ny+1)
            (mrow row (.map none) vt ⟨L + 1 + hi.length, kd⟩ kf (sortKeys row.map.morphism kvs) (-1) false) (hi ++ [drow])
            (fun lo hl => by subst hl; exact reset_map hty hy hkf hs hcl.head) (agreeW_mrow ..) hmode
            (Clean.cons rfl (Clean.append hcl.tail hdc)) fun lo hl w cur st be => ?_
          subst hl
          refine .fin (n := 1) (hi' := hi ++ [drow])
            (row' := mrow (setWm vm w row) (.map none) vt ⟨lo.length + 1 + hi.length, kd⟩ kf
              (sortKeys row.map.morphism kvs) (0 : Nat) false) ?_ (.of_getW rfl) hmode
            (Clean.cons rfl (Clean.append hcl.tail hdc))
          rw [setWm_mrow, stepM_map, stepMap_nil]
        | some es' =>
          simp only [Option.isNone_some, Bool.false_eq_true, if_false, Option.getD_some] at hnp ⊢
          refine Sim.run (by simp [MOut.seq, MOut.ok]) (ny+1)
            (mrow row (.map (some es')) vt ⟨L + 1 + hi.length, kd⟩ kf (sortKeys row.map.morphism kvs) (-1) false)
            (hi ++ [drow]) (fun lo hl => by subst hl; exact reset_map hty hy hkf hs hcl.head) (agreeW_mrow ..) hmode
            (Clean.cons rfl (Clean.append hcl.tail hdc)) fun lo hl w cur st be => ?_
          subst hl
          rw [seq_tok, setWm_mrow, hmode]
          refine .tok (n := 1) (hiA := hi ++ [drow])
            (rowA := mrow (setWm vm w row) (.map (some es')) vt ⟨lo.length + 1 + hi.length, kd⟩ kf (sortKeys mode kvs)
              (0 : Nat) false) ?_ (.of_getW rfl) fun w' => ?_
          · rw [stepM_map, stepMap_open]
          · rw [setWm_mrow]
            exact map_run hcl.tail _ f 0 _ drow [] hih (Nat.zero_le _) rfl hcfgd
              hdc hmode (seq_fail_left (seq_fail_right hnp rfl))
    | _ => simp [hkf, MOut.bad] at hnp

def strow (row : Row) (v : Val) (i : Int) (vr : Option Val) : Row :=
  { row with struct := { cfg := row.struct.cfg, fields := row.struct.fields, target_rv := v, index := i, value_rv := vr } }

theorem strow_ptr (row v i vr) : (strow row v i vr).ptr = row.ptr := rfl
theorem setWm_strow (vm : Mask) (w : WVal) (row v i vr) :
    setWm vm w (strow row v i vr) = strow (setWm vm w row) v i vr := rfl
theorem agreeW_strow (mk : Mask) (row v i vr) : agreeW mk row (strow row v i vr) :=
  .of_getW rfl

theorem stepM_struct {n lo row hi st cur be} :
    stepM ts a trs (n+1) ⟨lo.length, .struct⟩ ⟨lo ++ row :: hi, st, cur, be⟩ =
      stepStruct ts a n (recurse ts a trs n) ⟨lo.length, .struct⟩ row ⟨lo ++ row :: hi, st, cur, be⟩ := by
  simp only [stepM_kind]

theorem reset_struct {n lo row hi rt v} :
    resetM ts a trs (n+1) ⟨lo.length, .struct⟩ rt v (lo ++ row :: hi) =
      .ok (lo ++ strow row v (-1) none :: (hi ++ [Row.zero])) := by
  simp only [resetM_kind, resetStruct, updRow_at, grow, RowL.reassoc, strow]

theorem stepStruct_open {n} {rc : RecurseF} {lo row hi v st cur be} :
    stepStruct ts a n rc ⟨lo.length, .struct⟩ (strow row v (-1) none)
        ⟨lo ++ strow row v (-1) none :: hi, st, cur, be⟩ =
      .ok ⟨⟨.mapOpen (row.struct.fields.filter (emittable v)).length, row.struct.cfg.tag⟩, false,
        ⟨lo ++ strow row v (0 : Nat) none :: hi, st, cur, be⟩⟩ := by
  simp [stepStruct, strow, upd_at, StructM.incr]

theorem seekField_cons (v : Val) (g : SMField) (l : List SMField) (i : Nat) :
    seekField v (g :: l) i =
      if emittable v g then (traverse g.route v).map fun fv => (i, g, fv) else seekField v l (i + 1) := by
  unfold emittable
  cases hig : g.ignore
  · cases htr : traverse g.route v with
    | none => simp [seekField, hig, htr]
    | some fv => cases hoe : (g.omitEmpty && isEmpty 1000 fv) <;> simp [seekField, hig, htr, hoe]
  · simp [seekField, hig]

theorem emittable_traverse {v : Val} {g : SMField} (h : emittable v g = true) : ∃ fv, traverse g.route v = some fv := by
  unfold emittable at h
  cases htr : traverse g.route v with
  | none => simp [htr] at h
  | some fv => exact ⟨fv, rfl⟩

theorem seekField_none (v : Val) : ∀ (l : List SMField) (i : Nat), l.filter (emittable v) = [] → seekField v l i = none
  | [], _, _ => rfl
  | g :: l, i, h => by
    cases hem : emittable v g
    · rw [seekField_cons, hem]
      exact seekField_none v l (i + 1) (by simpa [List.filter, hem] using h)
    · simp [List.filter, hem] at h

theorem seekField_some (v : Val) : ∀ (l : List SMField) (i : Nat) (fe : SMField) (rest : List SMField),
    l.filter (emittable v) = fe :: rest →
    ∃ j fv, seekField v l i = some (i + j, fe, fv) ∧ l[j]? = some fe ∧
      (l.drop (j + 1)).filter (emittable v) = rest ∧ traverse fe.route v = some fv
  | [], _, _, _, h => by simp at h
  | g :: l, i, fe, rest, h => by
    cases hem : emittable v g
    · obtain ⟨j, fv, h1, h2, h3, h4⟩ := seekField_some v l (i + 1) fe rest (by simpa [List.filter, hem] using h)
      refine ⟨j + 1, fv, ?_, by simpa using h2, by simpa using h3, h4⟩
      rw [seekField_cons, hem, Nat.add_comm j 1, ← Nat.add_assoc]
      exact h1
    · obtain ⟨rfl, hrest⟩ : g = fe ∧ l.filter (emittable v) = rest := by simpa [List.filter, hem] using h
      obtain ⟨fv, htr⟩ := emittable_traverse hem
      exact ⟨0, fv, by rw [seekField_cons, hem, htr]; rfl, by simp, by simpa using hrest, htr⟩

theorem stepStruct_close {n} {rc : RecurseF} {lo row hi v st cur be} {i : Nat} (hhi : hi ≠ [])
    (hle : i ≤ row.struct.fields.length)
    (hnil : (row.struct.fields.drop i).filter (emittable v) = []) :
    stepStruct ts a n rc ⟨lo.length, .struct⟩ (strow row v i none) ⟨lo ++ strow row v i none :: hi, st, cur, be⟩ =
      .ok ⟨⟨.mapClose, none⟩, true,
        ⟨lo ++ strow row v ((row.struct.fields.length : Nat) + 1) none :: hi.dropLast, st, cur, be⟩⟩ := by
  have h1 : ¬ ((i : Int) < 0) := by omega
  by_cases heq : i = row.struct.fields.length
  · have h2 : ((i : Int) = (row.struct.fields.length : Int)) := by omega
    simp only [stepStruct, strow, h2, if_true]
    simp [updRow_at, StructM.incr, tk, release_at _ _ _ hhi]
  · have h2 : ¬ ((i : Int) = (row.struct.fields.length : Int)) := by omega
    have h3 : ¬ ((i : Int) > (row.struct.fields.length : Int)) := by omega
    simp only [stepStruct, strow, h1, h2, h3, if_false, Int.toNat_natCast, seekField_none v _ i hnil]
    simp [updRow_at, tk, release_at _ _ _ hhi]

theorem seekField_drop {v : Val} {fields : List SMField} {fe rest} {i : Nat}
    (hcons : (fields.drop i).filter (emittable v) = fe :: rest) :
    i < fields.length ∧ ∃ j fv, seekField v (fields.drop i) i = some (i + j, fe, fv) ∧ fields[i + j]? = some fe ∧
      (fields.drop (i + j + 1)).filter (emittable v) = rest ∧ traverse fe.route v = some fv := by
  obtain ⟨j, fv, h1, h2, h3, h4⟩ := seekField_some v _ i fe rest hcons
  refine ⟨?_, j, fv, h1, by simpa using h2, by simpa [Nat.add_assoc] using h3, h4⟩
  rcases Nat.lt_or_ge i fields.length with h | h
  · exact h
  · rw [List.drop_eq_nil_of_le h] at hcons; simp at hcons

theorem stepStruct_key {n} {rc : RecurseF} {lo row hi v st cur be fe fv} {i j : Nat} (hlt : i < row.struct.fields.length)
    (hs : seekField v (row.struct.fields.drop i) i = some (i + j, fe, fv)) :
    stepStruct ts a n rc ⟨lo.length, .struct⟩ (strow row v i none) ⟨lo ++ strow row v i none :: hi, st, cur, be⟩ =
      .ok ⟨⟨.str fe.name, none⟩, false, ⟨lo ++ strow row v ((i + j : Nat)) (some fv) :: hi, st, cur, be⟩⟩ := by
  obtain ⟨g1, g2, g3⟩ := idx_mid hlt
  simp only [stepStruct, strow, g1, g2, g3, if_false, Int.toNat_natCast, hs]
  simp [upd_at, tk]

theorem stepStruct_value {n} {rc : RecurseF} {lo row hi0 trow trow' kd v st cur be fe fv} {j : Nat}
    (hfe : row.struct.fields[j]? = some fe)
    (hy : yieldM ts a n trow fe.ty = .ok (trow', kd)) :
    stepStruct ts a n rc ⟨lo.length, .struct⟩ (strow row v j (some fv))
        ⟨lo ++ strow row v j (some fv) :: (hi0 ++ [trow]), st, cur, be⟩ =
      rc ⟨lo ++ strow row v ((j : Int) + 1) none :: (hi0 ++ [trow']), st, cur, be⟩ fv fe.ty
        ⟨lo.length + 1 + hi0.length, kd⟩ := by
  obtain ⟨g1, g2, g3⟩ := idx_mid (RowL.lt_of_getElem? hfe)
  have hy' : yieldTip ts a n (lo ++ strow row v ((j : Int) + 1) none :: (hi0 ++ [trow])) fe.ty =
      .ok (lo ++ strow row v ((j : Int) + 1) none :: (hi0 ++ [trow']), ⟨lo.length + 1 + hi0.length, kd⟩) := by
    have := yieldTip_snoc (R := lo ++ strow row v ((j : Int) + 1) none :: hi0) hy
    rw [RowL.len_at, RowL.reassoc, RowL.reassoc] at this
    exact this
  simp only [strow] at hy'
  simp only [stepStruct, strow, g1, g2, g3, if_false, Int.toNat_natCast, hfe, upd_at, StructM.take, hy']

theorem struct_run {mk vm : Mask} {lo hi : List Row} {v e fs st cur be} (hyo : YieldOK ts a) (hhi : Clean hi) :
    ∀ (xs : List SMField) (f i : Nat) (row : Row) (T : List Row), (∀ f', f' ≤ f → SimV ts a trs f') →
      i ≤ row.struct.fields.length → (row.struct.fields.drop i).filter (emittable v) = xs → T ≠ [] → Clean T →
      row.struct.cfg = e → row.struct.fields = fs → row.map.value = false →
      (marshalFields ts a trs f xs v).fail ≠ some .panic →
      Steps ts a trs ⟨lo.length, .struct⟩ cur st be lo mk vm (fun r => r.struct.cfg = e ∧ r.struct.fields = fs) true
        (strow row v i none) (hi ++ T)
        ((marshalFields ts a trs f xs v).seq fun _ => MOut.ok [⟨.mapClose, none⟩]).toks
        ((marshalFields ts a trs f xs v).seq fun _ => MOut.ok [⟨.mapClose, none⟩]).fail := by
  intro xs
  induction xs with
  | nil =>
    intro f i row T hih hle hdrop hT hcl hce hcf hval hnp
    obtain ⟨f, rfl⟩ := marshalFields_fuel_pos hnp
    rw [marshalFields_nil]
    refine .fin (n := 1) (t := ⟨.mapClose, none⟩) (row' := strow row v ((row.struct.fields.length : Nat) + 1) none)
      (hi' := (hi ++ T).dropLast) ?_ (.of_getW rfl) ⟨hce, hcf⟩
      (Clean.cons hval (Clean.dropLast (Clean.append hhi hcl)))
    rw [stepM_struct, stepStruct_close (by simp [hT]) hle hdrop]
  | cons fe rest ih =>
    intro f i row T hih _ hdrop hT hcl hce hcf hval hnp
    obtain ⟨f, rfl⟩ := marshalFields_fuel_pos hnp
    obtain ⟨hlt, j, fv, hseek, hfe, hrest, htr⟩ := seekField_drop hdrop
    rw [marshalFields_cons, htr] at hnp ⊢
    have hnp2 := seq_fail_right hnp rfl
    rw [seq_assoc, seq_tok, seq_assoc]
    obtain ⟨T0, trow, rfl⟩ := RowL.snoc_of_ne_nil _ hT
    obtain ⟨n0, trow', kd, hy, hcfg, hvalt⟩ := hyo fe.ty trow
    refine .tok (n := 1) (hiA := hi ++ (T0 ++ [trow])) (rowA := strow row v (i + j : Nat) (some fv)) ?_ (.of_getW rfl)
      fun w => ?_
    · rw [stepM_struct, stepStruct_key hlt hseek]
    · rw [setWm_strow]
      -- the child is configured in the tip row `trow`, as it is
      refine Steps.child (hi0 := hi ++ T0) (dhi := [])
        (prow' := strow (setWm vm w row) v (((i + j : Nat) : Int) + 1) none)
        (hih f (Nat.le_succ f) fe.ty fv _ trow' [] kd hcfg
          (Clean.single (by rw [hvalt]; exact hcl.right.head)) (seq_fail_left hnp2)) (.of_getW rfl)
        (fun n' res hrec hns => ⟨max n' n0 + 1, ?_⟩) (fun hnone w' drow2 dhi2 _ hc => ?_)
      · rw [stepM_struct, ← List.append_assoc hi T0,
          stepStruct_value (row := setWm vm w row) hfe (yieldM_le hy NS.ok (Nat.le_max_right n' n0)),
          recurse_le hrec hns (Nat.le_max_left _ _)]
      · have := ih f (i + j + 1) (setWm vm w' (setWm vm w row)) (T0 ++ drow2 :: dhi2)
          (fun f' hf' => hih f' (Nat.le_succ_of_le hf')) (RowL.lt_of_getElem? hfe) hrest (by simp)
          (Clean.append hcl.left hc) hce hcf hval (seq_fail_right hnp2 hnone)
        rw [setWm_strow, List.append_assoc]
        rwa [Int.natCast_succ] at this

theorem sim_struct {mk vm : Mask} {L row hi rt v f id e fs} (hyo : YieldOK ts a)
    (hcfg : row.struct.cfg = e) (hfs : row.struct.fields = fs)
    (hcl : Clean (row :: hi)) (hih : ∀ f', f' ≤ f → SimV ts a trs f')
    (hnp : (marshalBare ts a trs (f+1) id (.structMap e fs) v).fail ≠ some .panic) :
    Sim ts a trs mk vm (fun r => r.struct.cfg = e ∧ r.struct.fields = fs) L row hi .struct rt v
      (marshalBare ts a trs (f+1) id (.structMap e fs) v) := by
  subst hcfg hfs
  rw [marshalBare_struct] at hnp ⊢
  refine Sim.run (by simp [MOut.seq, MOut.ok]) 1 (strow row v (-1) none) (hi ++ [Row.zero])
    (fun lo hl => by subst hl; exact reset_struct) (agreeW_strow ..) ⟨rfl, rfl⟩
    (Clean.cons hcl.head (Clean.append hcl.tail zero_clean)) fun lo hl w cur st be => ?_
  subst hl
  rw [seq_tok, setWm_strow]
  refine .tok (n := 1) (hiA := hi ++ [Row.zero]) (rowA := strow (setWm vm w row) v (0 : Nat) none) ?_ (.of_getW rfl)
    fun w' => ?_
  · rw [stepM_struct, stepStruct_open]
    rfl
  · rw [setWm_strow]
    exact struct_run hyo hcl.tail _ f 0 _ [Row.zero] hih (Nat.zero_le _) rfl (by simp) zero_clean rfl rfl hcl.head
      (seq_fail_left (seq_fail_right hnp rfl))

end Refmt.MachL
