/-
  C12, first part: the values an untyped slot holds natively (`isU`) and what the marshaller makes of them: it emits the
  flattening of `treeU` at every fuel from `length + 3 * n` on (`marshal_tree`; `n` is the index of `isU`, nesting depth
  plus one) and nothing else at any fuel (`marshal_ok_tree`), and sorting the entries does not change what is marshalled
  (`marshal_sortU_all`).  Facts about
  every native value go by `isU_induct` (the six scalars are one case, `Leaf`), facts about every token of `treeU` by
  `tree_forall`.  The one-step equations of the marshaller at a predeclared scalar type (`Predeclared`, `mV_prim`,
  `pick_prim`) and at the slot and container ids of `it` (`mV_*`, `peel_*`, `pick_*`) are used outside this chain as well.
-/
import RefmtModel
import RefmtProofs.Props.C07
import RefmtProofs.Props.C08
import RefmtProofs.Lemmas.ObjMarshal
import RefmtProofs.Lemmas.Untyped
namespace Refmt.C12
open Refmt Refmt.Obj Refmt.C12L

/-- The untyped universe as the harness (and Go) sets it up: the ids in `it` name the predeclared types, which
    the atlas cannot override, and the two untyped container types, which have no atlas entry. -/
structure UEnv (ts : Types) (a : Atlas) (it : IfaceTys) : Prop where
  iface : ts.get it.iface = .iface false
  str : ts.get it.str = .prim .string true
  bytes : ts.get it.bytes = .bytes true
  bool : ts.get it.bool = .prim .bool true
  int : ts.get it.int = .prim .int true
  uint64 : ts.get it.uint64 = .prim .uint64 true
  f64 : ts.get it.f64 = .prim .f64 true
  mapSI : ts.get it.mapSI = .map it.str it.iface
  sliceI : ts.get it.sliceI = .slice it.iface
  noMap : a.get it.mapSI = none
  noSlice : a.get it.sliceI = none
  noIface : a.get it.iface = none

def keyOf : Val → Bytes
  | .str s => s
  | _ => []

theorem keyOf_eq_keyStr : keyOf = keyStr := rfl

/-- the values an untyped slot holds natively; map keys are strings and pairwise distinct -/
def isU (it : IfaceTys) : Nat → Val → Bool
  | 0, _ => false
  | _+1, .iface none => true
  | f+1, .iface (some (d, x)) =>
    (match x with
     | .str _ => d == it.str
     | .bytes (some _) => d == it.bytes
     | .bool _ => d == it.bool
     | .int i => d == it.int && decide (-(two63 : Int) ≤ i) && decide (i < (two63 : Int))
     | .uint n => d == it.uint64 && decide (two63 ≤ n) && decide (n < two64)
     | .float b => d == it.f64 && decide (b < two64)
     | .slice (some vs) => d == it.sliceI && vs.all (isU it f)
     | .map (some es) => d == it.mapSI && es.all (fun (k, y) => (match k with | .str _ => true | _ => false) && isU it f y)
                         && decide ((es.map fun (k, _) => keyOf k).Nodup)
     | _ => false)
  | _, _ => false

def sortU (mode : KeySort) : Nat → Val → Val
  | 0, v => v
  | f+1, .iface (some (d, .slice (some vs))) => .iface (some (d, .slice (some (vs.map (sortU mode f)))))
  | f+1, .iface (some (d, .map (some es))) =>
    .iface (some (d, .map (some ((sortKeys mode (es.map fun (k, y) => (keyOf k, sortU mode f y))).map fun (k, y) => (Val.str k, y)))))
  | _, v => v

/-- untagged (no registered tagged types are involved), numbers in the ranges of the Go types -/
def tokPlain (t : Tok) : Bool :=
  t.tag.isNone &&
  (match t.body with
   | .uint n => decide (n < two64)
   | .int i => decide (-(two63 : Int) ≤ i) && decide (i < (two63 : Int))
   | .float b => decide (b < two64)
   | _ => true)

/-- the token tree the marshaller emits for a native untyped value (exact lengths, keys in marshalling order) -/
def treeU (mode : KeySort) : Nat → Val → TV
  | 0, _ => .scalar ⟨.null, none⟩
  | f+1, .iface (some (_, x)) =>
    (match x with
     | .str s => .scalar ⟨.str s, none⟩
     | .bytes (some b) => .scalar ⟨.bytes b, none⟩
     | .bool b => .scalar ⟨.bool b, none⟩
     | .int i => .scalar ⟨.int i, none⟩
     | .uint n => .scalar ⟨.uint n, none⟩
     | .float b => .scalar ⟨.float b, none⟩
     | .slice (some vs) => .arr none vs.length (vs.map (treeU mode f))
     | .map (some es) =>
       .map none es.length ((sortKeys mode (es.map fun p => (keyOf p.1, p.2))).map fun p =>
         (TV.scalar ⟨.str p.1, none⟩, treeU mode f p.2))
     | _ => .scalar ⟨.null, none⟩)
  | _, _ => .scalar ⟨.null, none⟩

theorem treeU_nil (mode : KeySort) (f : Nat) : treeU mode (f+1) (.iface none) = .scalar ⟨.null, none⟩ := rfl

theorem treeU_slice (mode : KeySort) (f d : Nat) (vs : List Val) :
    treeU mode (f+1) (.iface (some (d, .slice (some vs)))) = .arr none vs.length (vs.map (treeU mode f)) := rfl

theorem treeU_map (mode : KeySort) (f d : Nat) (es : List (Val × Val)) :
    treeU mode (f+1) (.iface (some (d, .map (some es)))) =
      .map none es.length ((sortKeys mode (es.map fun p => (keyOf p.1, p.2))).map fun p =>
        (TV.scalar ⟨.str p.1, none⟩, treeU mode f p.2)) := rfl

theorem sortU_slice (mode : KeySort) (f d : Nat) (vs : List Val) :
    sortU mode (f+1) (.iface (some (d, .slice (some vs)))) = .iface (some (d, .slice (some (vs.map (sortU mode f))))) := rfl

theorem sortU_map (mode : KeySort) (f d : Nat) (es : List (Val × Val)) :
    sortU mode (f+1) (.iface (some (d, .map (some es)))) =
      .iface (some (d, .map (some ((sortKeys mode (es.map fun p => (keyOf p.1, p.2))).map fun p =>
        (Val.str p.1, sortU mode f p.2))))) := by
  have e : (es.map fun p => (keyOf p.1, sortU mode f p.2)) =
      (es.map fun p => (keyOf p.1, p.2)).map fun p => (p.1, sortU mode f p.2) := by
    simp [List.map_map]
  show Val.iface (some (d, .map (some ((sortKeys mode (es.map fun p => (keyOf p.1, sortU mode f p.2))).map fun p =>
    (Val.str p.1, p.2))))) = _
  rw [e, sortKeys_mapVal, List.map_map]
  rfl

/-- the native scalars: token body, and the dynamic type and value an untyped slot holds it as -/
inductive Leaf (it : IfaceTys) : Body → Nat → Val → Prop
  | str (s : Bytes) : Leaf it (.str s) it.str (.str s)
  | bytes (b : Bytes) : Leaf it (.bytes b) it.bytes (.bytes (some b))
  | bool (b : Bool) : Leaf it (.bool b) it.bool (.bool b)
  | int (i : Int) (h1 : -(two63 : Int) ≤ i) (h2 : i < (two63 : Int)) : Leaf it (.int i) it.int (.int i)
  | uint (n : Nat) (h1 : two63 ≤ n) (h2 : n < two64) : Leaf it (.uint n) it.uint64 (.uint n)
  | float (b : Nat) (h : b < two64) : Leaf it (.float b) it.f64 (.float b)

inductive UV (it : IfaceTys) : Nat → Val → Prop
  | nil (f : Nat) : UV it (f+1) (.iface none)
  | leaf (f : Nat) {b : Body} {d : Nat} {x : Val} (h : Leaf it b d x) : UV it (f+1) (.iface (some (d, x)))
  | slice (f : Nat) (vs : List Val) (h : ∀ x ∈ vs, isU it f x = true) :
      UV it (f+1) (.iface (some (it.sliceI, .slice (some vs))))
  | map (f : Nat) (es : List (Val × Val)) (hk : ∀ p ∈ es, ∃ s, p.1 = .str s) (hv : ∀ p ∈ es, isU it f p.2 = true)
      (hd : (es.map fun p => keyOf p.1).Nodup) :
      UV it (f+1) (.iface (some (it.mapSI, .map (some es))))

theorem isU_UV {it : IfaceTys} {n : Nat} {u : Val} (h : isU it n u = true) : UV it n u := by
  cases n with
  | zero => simp [isU] at h
  | succ f =>
    cases u with
    | iface o =>
      cases o with
      | none => exact .nil f
      | some p =>
        obtain ⟨d, x⟩ := p
        simp only [isU] at h
        cases x with
        | str s => simp only [beq_iff_eq] at h; subst h; exact .leaf f (.str s)
        | bool b => simp only [beq_iff_eq] at h; subst h; exact .leaf f (.bool b)
        | int i =>
          simp only [Bool.and_eq_true, beq_iff_eq, decide_eq_true_eq] at h
          obtain ⟨⟨rfl, h1⟩, h2⟩ := h
          exact .leaf f (.int i h1 h2)
        | uint m =>
          simp only [Bool.and_eq_true, beq_iff_eq, decide_eq_true_eq] at h
          obtain ⟨⟨rfl, h1⟩, h2⟩ := h
          exact .leaf f (.uint m h1 h2)
        | float b =>
          simp only [Bool.and_eq_true, beq_iff_eq, decide_eq_true_eq] at h
          obtain ⟨rfl, h1⟩ := h
          exact .leaf f (.float b h1)
        | bytes o =>
          cases o with
          | none => cases h
          | some b => simp only [beq_iff_eq] at h; subst h; exact .leaf f (.bytes b)
        | slice o =>
          cases o with
          | none => cases h
          | some vs =>
            simp only [Bool.and_eq_true, beq_iff_eq, List.all_eq_true] at h
            obtain ⟨rfl, h1⟩ := h
            exact .slice f vs h1
        | map o =>
          cases o with
          | none => cases h
          | some es =>
            simp only [Bool.and_eq_true, beq_iff_eq, decide_eq_true_eq, List.all_eq_true] at h
            obtain ⟨⟨rfl, h1⟩, h2⟩ := h
            refine .map f es (fun p hp => ?_) (fun p hp => (h1 p hp).2) h2
            have := (h1 p hp).1
            obtain ⟨k, y⟩ := p
            cases k <;> simp at this
            exact ⟨_, rfl⟩
        | _ => cases h
    | _ => cases h

theorem Leaf.isU {it : IfaceTys} {b : Body} {d : Nat} {x : Val} (h : Leaf it b d x) (f : Nat) :
    isU it (f+1) (.iface (some (d, x))) = true := by
  cases h <;> simp [C12.isU, *]

theorem UV_isU {it : IfaceTys} {n : Nat} {u : Val} (h : UV it n u) : isU it n u = true := by
  cases h with
  | nil f => rfl
  | leaf f h => exact h.isU f
  | slice f vs h => simp only [isU, beq_self_eq_true, Bool.true_and, List.all_eq_true]; exact h
  | map f es hk hv hd =>
    simp only [isU, beq_self_eq_true, Bool.true_and, Bool.and_eq_true, List.all_eq_true, decide_eq_true_eq]
    refine ⟨fun p hp => ?_, hd⟩
    obtain ⟨s, hs⟩ := hk p hp
    obtain ⟨k, y⟩ := p
    cases hs
    exact ⟨rfl, hv _ hp⟩

theorem isU_induct {it : IfaceTys} {P : Nat → Val → Prop} (nil : ∀ f, P (f+1) (.iface none))
    (leaf : ∀ f b d x, Leaf it b d x → P (f+1) (.iface (some (d, x))))
    (slice : ∀ f vs, (∀ x ∈ vs, isU it f x = true) → (∀ x ∈ vs, P f x) →
      P (f+1) (.iface (some (it.sliceI, .slice (some vs)))))
    (map : ∀ f es, (∀ p ∈ es, ∃ s, p.1 = .str s) → (∀ p ∈ es, isU it f p.2 = true) →
      (es.map fun p => keyOf p.1).Nodup → (∀ p ∈ es, P f p.2) → P (f+1) (.iface (some (it.mapSI, .map (some es))))) :
    ∀ n u, isU it n u = true → P n u := by
  intro n
  induction n with
  | zero => intro u hu; simp [isU] at hu
  | succ f ih =>
    intro u hu
    cases isU_UV hu with
    | nil => exact nil f
    | leaf _ hl => exact leaf f _ _ _ hl
    | slice _ vs h => exact slice f vs h (fun x hx => ih x (h x hx))
    | map _ es hk hv hd => exact map f es hk hv hd (fun p hp => ih p.2 (hv p hp))

theorem isU_mono_succ (it : IfaceTys) : ∀ (f : Nat) (v : Val), isU it f v = true → isU it (f+1) v = true :=
  isU_induct (fun _ => rfl) (fun f _ _ _ hl => hl.isU (f+1)) (fun _ _ _ ih => UV_isU (.slice _ _ ih))
    (fun _ _ hk _ hd ih => UV_isU (.map _ _ hk ih hd))

theorem isU_mono (it : IfaceTys) {f g : Nat} (h : f ≤ g) (v : Val) (hv : isU it f v = true) : isU it g v = true := by
  induction h with
  | refl => exact hv
  | step _ ih => exact isU_mono_succ it _ v ih

theorem Leaf.tree {it : IfaceTys} {b : Body} {d : Nat} {x : Val} (h : Leaf it b d x) (mode : KeySort) (f : Nat) :
    treeU mode (f+1) (.iface (some (d, x))) = .scalar ⟨b, none⟩ := by
  cases h <;> rfl

theorem Leaf.sortU {it : IfaceTys} {b : Body} {d : Nat} {x : Val} (h : Leaf it b d x) (mode : KeySort) (f : Nat) :
    sortU mode (f+1) (.iface (some (d, x))) = .iface (some (d, x)) := by
  cases h <;> rfl

theorem Leaf.plain {it : IfaceTys} {b : Body} {d : Nat} {x : Val} (h : Leaf it b d x) : tokPlain ⟨b, none⟩ = true := by
  cases h <;> simp [tokPlain, *]

theorem sorted_mem (mode : KeySort) (es : List (Val × Val)) (P : Bytes → Val → Prop)
    (h : ∀ p ∈ es, P (keyOf p.1) p.2) : ∀ p ∈ sortKeys mode (es.map fun p => (keyOf p.1, p.2)), P p.1 p.2 := by
  intro p hp
  have := (C08.sortKeys_perm mode _).mem_iff.mp hp
  simp only [List.mem_map] at this
  obtain ⟨q, hq, rfl⟩ := this
  exact h q hq

/-- `H` is what is assumed of the value; `slice` and `map` say that it is handed down to the items. -/
theorem tree_forall {it : IfaceTys} (mode : KeySort) {P : Tok → Prop} {H : Nat → Val → Prop}
    (null : P ⟨.null, none⟩) (aclose : P ⟨.arrClose, none⟩) (mclose : P ⟨.mapClose, none⟩)
    (leaf : ∀ f b d x, Leaf it b d x → H (f+1) (.iface (some (d, x))) → P ⟨b, none⟩)
    (slice : ∀ f d vs, H (f+1) (.iface (some (d, .slice (some vs)))) → P ⟨.arrOpen vs.length, none⟩ ∧ ∀ x ∈ vs, H f x)
    (map : ∀ f d es, H (f+1) (.iface (some (d, .map (some es)))) →
      P ⟨.mapOpen es.length, none⟩ ∧ ∀ p ∈ es, P ⟨.str (keyOf p.1), none⟩ ∧ H f p.2) :
    ∀ (n : Nat) (u : Val), isU it n u = true → H n u → ∀ t ∈ (treeU mode n u).flatten, P t := by
  refine isU_induct (fun f _ t ht => ?_) (fun f b d x hl hH t ht => ?_) (fun f vs h ih hH t ht => ?_)
    (fun f es hk hv hd ih hH t ht => ?_)
  · simp only [treeU_nil, TV.flatten, List.mem_singleton] at ht; subst ht; exact null
  · rw [hl.tree] at ht
    simp only [TV.flatten, List.mem_singleton] at ht; subst ht; exact leaf f b d x hl hH
  · obtain ⟨ho, hi⟩ := slice f _ vs hH
    simp only [treeU_slice, TV.flatten, flattenList_map, List.mem_cons, List.mem_append, List.mem_flatMap,
      List.not_mem_nil, or_false] at ht
    rcases ht with rfl | ⟨x, hx, ht⟩ | rfl
    · exact ho
    · exact ih x hx (hi x hx) t ht
    · exact aclose
  · obtain ⟨ho, hi⟩ := map f _ es hH
    simp only [treeU_map, TV.flatten, flattenEntries_map (fun p : Bytes × Val => p.1) (fun p => treeU mode f p.2),
      List.mem_cons, List.mem_append, List.mem_flatMap, List.not_mem_nil, or_false] at ht
    rcases ht with rfl | ⟨q, hq, ht⟩ | rfl
    · exact ho
    · have hq' := sorted_mem mode es (fun k y => P ⟨.str k, none⟩ ∧ ∀ t ∈ (treeU mode f y).flatten, P t)
        (fun p hp => ⟨(hi p hp).1, ih p hp (hi p hp).2⟩) q hq
      rcases ht with rfl | ht
      · exact hq'.1
      · exact hq'.2 t ht
    · exact mclose

theorem tree_plain (it : IfaceTys) (mode : KeySort) (n : Nat) (u : Val) (hu : isU it n u = true) :
    ∀ t ∈ (treeU mode n u).flatten, tokPlain t = true :=
  tree_forall (P := fun t => tokPlain t = true) (H := fun _ _ => True) mode rfl rfl rfl (fun _ _ _ _ hl _ => hl.plain) (fun _ _ _ _ => ⟨rfl, fun _ _ => trivial⟩)
    (fun _ _ _ _ => ⟨rfl, fun _ _ => ⟨rfl, trivial⟩⟩) n u hu trivial

/-- a predeclared scalar type: not a pointer, and the primitive machine whatever the atlas says -/
def Predeclared (ts : Types) (d : Nat) : Prop := (∃ k, ts.get d = .prim k true) ∨ ts.get d = .bytes true

theorem pick_prim {ts : Types} (a : Atlas) {d : Nat} (hd : Predeclared ts d) : pickBare ts a d = .prim := by
  rcases hd with ⟨k, h⟩ | h <;> simp [pickBare, h]

theorem mV_prim {ts : Types} {a : Atlas} (trs : Trs) {d : Nat} (hd : Predeclared ts d) (f : Nat) (x : Val) :
    marshalV ts a trs (f+2) d x = primTok ts d x := by
  have hp : peel ts 64 0 d = (0, d) := ObjL.peel_nonptr ts 64 0 _ (by rcases hd with ⟨k, h⟩ | h <;> simp [h])
  rw [MachL.marshalV_succ, hp, if_pos rfl, pick_prim a hd, MachL.marshalBare_prim]

variable {ts : Types} {a : Atlas} {it : IfaceTys} (trs : Trs)

theorem mList_congr (g : Val → Val) (e : Nat) : ∀ (vs : List Val),
    (∀ x ∈ vs, ∀ F, marshalV ts a trs F e (g x) = marshalV ts a trs F e x) →
    ∀ F, marshalList ts a trs F e (vs.map g) = marshalList ts a trs F e vs := by
  intro vs
  induction vs with
  | nil => intro _ F; rfl
  | cons x xs ih =>
    intro h F
    cases F with
    | zero => simp [marshalList]
    | succ F =>
      simp only [List.map_cons, marshalList]
      rw [h x (by simp) F, ih (fun y hy => h y (by simp [hy])) F]

theorem mEntries_congr (g : Val → Val) (e : Nat) : ∀ (L : List (Bytes × Val)),
    (∀ p ∈ L, ∀ F, marshalV ts a trs F e (g p.2) = marshalV ts a trs F e p.2) →
    ∀ F, marshalEntries ts a trs F e (L.map fun p => (p.1, g p.2)) = marshalEntries ts a trs F e L := by
  intro L
  induction L with
  | nil => intro _ F; rfl
  | cons x xs ih =>
    intro h F
    obtain ⟨k, x⟩ := x
    cases F with
    | zero => simp [marshalEntries]
    | succ F =>
      simp only [List.map_cons, marshalEntries]
      rw [h (k, x) (by simp) F, ih (fun y hy => h y (by simp [hy])) F]

variable (ts a it) in
def MTree (f : Nat) (u : Val) : Prop := ∀ fuel, (treeU a.defaultSort f u).flatten.length + 3 * f ≤ fuel →
    marshalV ts a trs fuel it.iface u = ⟨(treeU a.defaultSort f u).flatten, none⟩

theorem mList_tree (f : Nat) : ∀ (vs : List Val) (F : Nat), (∀ x ∈ vs, MTree ts a it trs f x) →
    (TV.flattenList (vs.map (treeU a.defaultSort f))).length + 1 + 3 * f ≤ F →
    marshalList ts a trs F it.iface vs = ⟨TV.flattenList (vs.map (treeU a.defaultSort f)), none⟩ := by
  intro vs
  induction vs with
  | nil =>
    intro F _ hF
    obtain ⟨F', rfl⟩ : ∃ F', F = F' + 1 := ⟨F - 1, by omega⟩
    simp [marshalList, TV.flattenList, MOut.ok]
  | cons x xs ihl =>
    intro F ih hF
    obtain ⟨F', rfl⟩ : ∃ F', F = F' + 1 := ⟨F - 1, by omega⟩
    simp only [List.map_cons, TV.flattenList, List.length_append] at hF ⊢
    have hp := (treeU a.defaultSort f x).flatten_pos
    rw [marshalList, ih x (by simp) F' (by omega), ihl F' (fun y hy => ih y (by simp [hy])) (by omega)]
    simp [MOut.seq]

theorem mEntries_tree (f : Nat) : ∀ (L : List (Bytes × Val)) (F : Nat), (∀ p ∈ L, MTree ts a it trs f p.2) →
    (TV.flattenEntries (L.map fun p => (TV.scalar ⟨.str p.1, none⟩, treeU a.defaultSort f p.2))).length + 1 + 3 * f ≤ F →
    marshalEntries ts a trs F it.iface L =
      ⟨TV.flattenEntries (L.map fun p => (TV.scalar ⟨.str p.1, none⟩, treeU a.defaultSort f p.2)), none⟩ := by
  intro L
  induction L with
  | nil =>
    intro F _ hF
    obtain ⟨F', rfl⟩ : ∃ F', F = F' + 1 := ⟨F - 1, by omega⟩
    simp [marshalEntries, TV.flattenEntries, MOut.ok]
  | cons p xs ihl =>
    intro F ih hF
    obtain ⟨k, x⟩ := p
    obtain ⟨F', rfl⟩ : ∃ F', F = F' + 1 := ⟨F - 1, by omega⟩
    simp only [List.map_cons, TV.flattenEntries, TV.flatten, List.length_append, List.length_cons, List.length_nil] at hF ⊢
    have hp := (treeU a.defaultSort f x).flatten_pos
    have hx : (treeU a.defaultSort f x).flatten.length + 3 * f ≤ F' := by omega
    rw [marshalEntries, ih (k, x) (by simp) F' hx, ihl F' (fun y hy => ih y (by simp [hy])) (by omega)]
    simp [MOut.seq, MOut.ok]

section env
variable (he : UEnv ts a it)
include he

theorem peel_iface : peel ts 64 0 it.iface = (0, it.iface) := ObjL.peel_nonptr ts 64 0 _ (by simp [he.iface])
theorem peel_mapSI : peel ts 64 0 it.mapSI = (0, it.mapSI) := ObjL.peel_nonptr ts 64 0 _ (by simp [he.mapSI])
theorem peel_sliceI : peel ts 64 0 it.sliceI = (0, it.sliceI) := ObjL.peel_nonptr ts 64 0 _ (by simp [he.sliceI])

theorem zeroVal_iface : zeroVal ts 64 it.iface = .iface none := by rw [zeroVal, he.iface]

theorem pick_iface : pickBare ts a it.iface = .wildcard := (pick_wild he.iface he.noIface).1
theorem pick_mapSI : pickBare ts a it.mapSI = .map it.str it.iface a.defaultSort := (C13.pick_map he.mapSI he.noMap).1
theorem pick_sliceI : pickBare ts a it.sliceI = .slice it.iface := (C13.pick_slice he.sliceI he.noSlice).1

theorem mV_nil (f : Nat) : marshalV ts a trs (f+2) it.iface (.iface none) = ⟨[⟨.null, none⟩], none⟩ := by
  rw [MachL.marshalV_succ, peel_iface he, if_pos rfl, pick_iface he, MachL.marshalBare_wild]; rfl

theorem mV_some (f d : Nat) (x : Val) :
    marshalV ts a trs (f+2) it.iface (.iface (some (d, x))) = marshalV ts a trs f d x := by
  rw [MachL.marshalV_succ, peel_iface he, if_pos rfl, pick_iface he, MachL.marshalBare_wild]

theorem mV_slice (f : Nat) (vs : List Val) :
    marshalV ts a trs (f+2) it.sliceI (.slice (some vs)) =
      (MOut.ok [⟨.arrOpen vs.length, none⟩]).seq fun _ =>
        (marshalList ts a trs f it.iface vs).seq fun _ => .ok [⟨.arrClose, none⟩] := by
  rw [MachL.marshalV_succ, peel_sliceI he, if_pos rfl, pick_sliceI he, MachL.marshalBare_slice]

theorem mV_map (f : Nat) (es : List (Val × Val)) (hk : ∀ p ∈ es, ∃ s, p.1 = .str s) :
    marshalV ts a trs (f+2) it.mapSI (.map (some es)) =
      (MOut.ok [⟨.mapOpen es.length, none⟩]).seq fun _ =>
        (marshalEntries ts a trs f it.iface (sortKeys a.defaultSort (es.map fun p => (keyOf p.1, p.2)))).seq
          fun _ => .ok [⟨.mapClose, none⟩] := by
  rw [MachL.marshalV_succ, peel_mapSI he, if_pos rfl, pick_mapSI he, MachL.marshalBare_map, ObjL.keyFnOf_string he.str]
  simp only [Option.getD_some, C13.stringify_strKeys es hk]
  rfl

theorem Leaf.predeclared {b : Body} {d : Nat} {x : Val} (h : Leaf it b d x) : Predeclared ts d := by
  cases h with
  | str => exact .inl ⟨_, he.str⟩
  | bytes => exact .inr he.bytes
  | bool => exact .inl ⟨_, he.bool⟩
  | int => exact .inl ⟨_, he.int⟩
  | uint => exact .inl ⟨_, he.uint64⟩
  | float => exact .inl ⟨_, he.f64⟩

theorem Leaf.marshal {b : Body} {d : Nat} {x : Val} (h : Leaf it b d x) (f : Nat) :
    marshalV ts a trs (f+2) d x = ⟨[⟨b, none⟩], none⟩ := by
  rw [mV_prim trs (h.predeclared he) f x]
  cases h <;> rfl

theorem marshal_tree : ∀ (n : Nat) (u : Val), isU it n u = true → MTree ts a it trs n u := by
  refine isU_induct (fun f fuel hF => ?_) (fun f b d x hl fuel hF => ?_) (fun f vs h ih fuel hF => ?_)
    (fun f es hk hv hd ih fuel hF => ?_)
  · simp only [treeU_nil, TV.flatten, List.length_cons, List.length_nil] at hF ⊢
    obtain ⟨F', rfl⟩ : ∃ F', fuel = F' + 2 := ⟨fuel - 2, by omega⟩
    exact mV_nil trs he F'
  · rw [hl.tree] at hF ⊢
    simp only [TV.flatten, List.length_cons, List.length_nil] at hF ⊢
    obtain ⟨F', rfl⟩ : ∃ F', fuel = F' + 4 := ⟨fuel - 4, by omega⟩
    rw [mV_some trs he, hl.marshal trs he]
  · simp only [treeU_slice, TV.flatten, List.length_cons, List.length_append, List.length_nil] at hF ⊢
    obtain ⟨F', rfl⟩ : ∃ F', fuel = F' + 4 := ⟨fuel - 4, by omega⟩
    rw [mV_some trs he, mV_slice trs he, mList_tree trs f vs F' ih (by omega)]
    simp [MOut.seq, MOut.ok]
  · simp only [treeU_map, TV.flatten, List.length_cons, List.length_append, List.length_nil] at hF ⊢
    obtain ⟨F', rfl⟩ : ∃ F', fuel = F' + 4 := ⟨fuel - 4, by omega⟩
    rw [mV_some trs he, mV_map trs he _ es hk,
      mEntries_tree trs f _ F' (sorted_mem a.defaultSort es (fun _ => MTree ts a it trs f) ih) (by omega)]
    simp [MOut.seq, MOut.ok]

theorem marshal_ok_tree (n : Nat) (u : Val) (fuel : Nat) (toks : List Tok) (hu : isU it n u = true)
    (hm : marshalV ts a trs fuel it.iface u = ⟨toks, none⟩) : toks = (treeU a.defaultSort n u).flatten := by
  have h1 := C07.marshal_fuel_mono_le ts a trs fuel (max fuel ((treeU a.defaultSort n u).flatten.length + 3 * n)) it.iface u _ hm
    (by simp) (Nat.le_max_left _ _)
  rw [marshal_tree trs he n u hu _ (Nat.le_max_right _ _)] at h1
  simpa using h1.symm

/-- a boxed value needs two units of fuel for the slot and two for what it holds -/
theorem mV_small (fuel d : Nat) (x : Val) (hf : fuel < 4) (hd : peel ts 64 0 d = (0, d)) :
    marshalV ts a trs fuel it.iface (.iface (some (d, x))) = .bad .panic := by
  match fuel, hf with
  | 0, _ => exact MachL.marshalV_zero _ _
  | 1, _ => rw [MachL.marshalV_succ, peel_iface he, if_pos rfl, MachL.marshalBare_zero]
  | 2, _ => rw [mV_some trs he, MachL.marshalV_zero]
  | 3, _ => rw [mV_some trs he, MachL.marshalV_succ, hd, if_pos rfl, MachL.marshalBare_zero]

theorem marshal_sortU_all : ∀ (n : Nat) (u : Val), isU it n u = true → ∀ fuel,
    marshalV ts a trs fuel it.iface (sortU a.defaultSort n u) = marshalV ts a trs fuel it.iface u := by
  refine isU_induct (fun f fuel => rfl) (fun f b d x hl fuel => by rw [hl.sortU]) (fun f vs h ih fuel => ?_)
    (fun f es hk hv hd ih fuel => ?_)
  · rw [sortU_slice]
    by_cases hf : fuel < 4
    · rw [mV_small trs he fuel _ _ hf (peel_sliceI he), mV_small trs he fuel _ _ hf (peel_sliceI he)]
    · obtain ⟨F, rfl⟩ : ∃ F, fuel = F + 4 := ⟨fuel - 4, by omega⟩
      rw [mV_some trs he, mV_some trs he, mV_slice trs he, mV_slice trs he,
        mList_congr trs (sortU a.defaultSort f) it.iface vs ih]
      simp
  · rw [sortU_map]
    by_cases hf : fuel < 4
    · rw [mV_small trs he fuel _ _ hf (peel_mapSI he), mV_small trs he fuel _ _ hf (peel_mapSI he)]
    · obtain ⟨F, rfl⟩ : ∃ F, fuel = F + 4 := ⟨fuel - 4, by omega⟩
      rw [mV_some trs he, mV_some trs he, mV_map trs he _ es hk, mV_map trs he _ _ (by
        intro p hp
        simp only [List.mem_map] at hp
        obtain ⟨q, _, rfl⟩ := hp
        exact ⟨_, rfl⟩)]
      simp only [List.map_map, List.length_map, ObjL.sortKeys_length]
      have e2 : ((fun (p : Val × Val) => (keyOf p.1, p.2)) ∘
          fun (p : Bytes × Val) => (Val.str p.1, sortU a.defaultSort f p.2)) = fun p => (p.1, sortU a.defaultSort f p.2) := by
        funext p; rfl
      rw [e2, sortKeys_mapVal, sortKeys_idem,
        mEntries_congr trs (sortU a.defaultSort f) it.iface _ (sorted_mem a.defaultSort es
          (fun _ y => ∀ F, marshalV ts a trs F it.iface (sortU a.defaultSort f y) = marshalV ts a trs F it.iface y) ih)]

end env

end Refmt.C12
