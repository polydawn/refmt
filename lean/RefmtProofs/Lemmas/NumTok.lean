/-
  What `numTok` reads from a number text given by its parts (`NumSyntax`): the integer, in one of three ranges, when
  the text is plain digits (`numTokCore_digits`), and otherwise the decimal it hands to `parseDecimal`
  (`numTok_parts`); whatever the text, an integer or a finite float in the token ranges (`numTok_ok`).
  `natDigits` and `intDigits` type back as the number they were written from.
-/
import RefmtProofs.Lemmas.NumSyntax
namespace Refmt.FloatL
open Refmt Refmt.FloatText Refmt.JsonDec Refmt.C03L

def expVal (ex : Bytes) : Int :=
  let edig := if ex.head? == some 45 || ex.head? == some 43 then ex.drop 1 else ex
  if ex.head? == some 45 then -(digitsVal edig : Int) else (digitsVal edig : Int)

def floatRes (neg : Bool) (pr : Nat × Bool) : Except Err Body :=
  if pr.2 then .error .range else .ok (.float (if neg then pr.1 + 9223372036854775808 else pr.1))

theorem floatRes_ok (neg : Bool) (abs : Nat) :
    floatRes neg (abs, false) = .ok (.float (if neg then abs + 9223372036854775808 else abs)) := rfl

def floatTok (neg : Bool) (mant ex : Bytes) : Except Err Body :=
  let fp := (mant.dropWhile notDot).drop 1
  floatRes neg (parseDecimal (digitsVal (mant.takeWhile notDot ++ fp)) (expVal ex - (fp.length : Int)))

def intTok (neg : Bool) (v : Nat) : Except Err Body :=
  if neg then (if v ≤ two63 then .ok (.int (-(v : Int))) else .error .range)
  else if v < two63 then .ok (.int v)
  else if v < two64 then .ok (.uint v)
  else .error .range

theorem intTok_small (neg : Bool) {v : Nat} (hv : v < two63) :
    intTok neg v = .ok (.int (if neg then -(v : Int) else (v : Int))) := by
  unfold intTok
  rw [if_pos hv, if_pos (Nat.le_of_lt hv)]
  cases neg <;> rfl

def numTokCore (neg : Bool) (body : Bytes) : Except Err Body :=
  if !(body.any fun c => c == 46 || c == 101 || c == 69) then intTok neg (digitsVal body)
  else floatTok neg (body.takeWhile notE) ((body.dropWhile notE).drop 1)

theorem numTok_core (text : Bytes) :
    numTok text = numTokCore (text.head? == some 45) (if text.head? == some 45 then text.drop 1 else text) := by
  have ha : (text.any fun c => c == 46 || c == 101 || c == 69) =
      ((if text.head? == some 45 then text.drop 1 else text).any fun c => c == 46 || c == 101 || c == 69) := by
    cases text with
    | nil => rfl
    | cons c r =>
      by_cases h : c = 45
      · subst h; rfl
      · simp [h]
  unfold numTok
  simp only [ha]
  rfl

theorem numTok_signed (neg : Bool) (f : Nat) (rest : Bytes) (hf : isDigit f = true) :
    numTok ((if neg then [45] else []) ++ f :: rest) = numTokCore neg (f :: rest) := by
  rw [numTok_core]
  cases neg
  · have h45 : ¬ f = 45 := by have := isDigit_iff.1 hf; omega
    have hh : ((f :: rest).head? == some 45) = false := by simp [h45]
    simp only [Bool.false_eq_true, if_false, List.nil_append, hh]
  · rfl

theorem digits_noexp (l : Bytes) (h : Digs l) : l.any (fun c => c == 46 || c == 101 || c == 69) = false := by
  rw [List.any_eq_false]
  intro x hx
  have := isDigit_iff.1 (h x hx)
  simp only [Bool.or_eq_true, beq_iff_eq]
  omega

theorem numTokCore_digits (neg : Bool) (body : Bytes) (hd : Digs body) :
    numTokCore neg body = intTok neg (digitsVal body) := by
  unfold numTokCore
  simp only [digits_noexp body hd, Bool.not_false, if_true]

theorem numTok_natDigits (neg : Bool) (n : Nat) :
    numTok ((if neg then [45] else []) ++ natDigits n) = intTok neg n := by
  obtain ⟨b, r, e, hd, _⟩ := natDigits_form n
  rw [e, numTok_signed neg b r hd.head, numTokCore_digits neg _ hd, ← e, digitsVal_natDigits]

theorem ExpPart.expVal {E : Bytes} {ev : Int} (h : ExpPart E ev) : expVal (E.drop 1) = ev := by
  rcases h with ⟨rfl, rfl⟩ | ⟨ed, _, _, ⟨rfl, rfl⟩ | ⟨rfl, rfl⟩⟩ <;> rfl

theorem floatTok_parts (neg : Bool) {ip F fp : Bytes} (ex : Bytes) (hip : Digs ip) (hF : FracPart F fp) :
    floatTok neg (ip ++ F) ex =
      floatRes neg (parseDecimal (digitsVal (ip ++ fp)) (expVal ex - (fp.length : Int))) := by
  have hfp : F.drop 1 = fp := by
    rcases hF with ⟨rfl, rfl⟩ | ⟨rfl, _⟩ <;> rfl
  obtain ⟨h1, h2⟩ := parts_spanDot hip hF
  unfold floatTok
  simp only [h1, h2, hfp]

theorem numTokCore_parts (neg : Bool) {ip F fp E : Bytes} {ev : Int} (hip : Digs ip) (hF : FracPart F fp)
    (hE : ExpPart E ev) (hne : F ≠ [] ∨ E ≠ []) :
    numTokCore neg (ip ++ F ++ E) =
      floatRes neg (parseDecimal (digitsVal (ip ++ fp)) (ev - (fp.length : Int))) := by
  obtain ⟨h1, h2⟩ := parts_spanE hip hF hE
  have hany : (ip ++ F ++ E).any (fun c => c == 46 || c == 101 || c == 69) = true := by
    rw [List.any_eq_true]
    rcases hne with h | h
    · rcases hF with ⟨rfl, _⟩ | ⟨rfl, _⟩
      · exact absurd rfl h
      · exact ⟨46, by simp, by decide⟩
    · rcases hE with ⟨rfl, _⟩ | ⟨ed, _, _, ⟨rfl, _⟩ | ⟨rfl, _⟩⟩
      · exact absurd rfl h
      · exact ⟨101, by simp, by decide⟩
      · exact ⟨101, by simp, by decide⟩
  unfold numTokCore
  rw [hany, h1, h2, floatTok_parts neg _ hip hF, hE.expVal]
  rfl

theorem numTok_parts (neg : Bool) (b : Nat) (r : Bytes) (hd : Digs (b :: r)) {F fp E : Bytes} {ev : Int}
    (hF : FracPart F fp) (hE : ExpPart E ev) (hne : F ≠ [] ∨ E ≠ []) :
    numTok ((if neg then [45] else []) ++ b :: (r ++ F ++ E)) =
      floatRes neg (parseDecimal (digitsVal (b :: r ++ fp)) (ev - (fp.length : Int))) := by
  rw [numTok_signed neg b _ hd.head]
  exact numTokCore_parts neg hd hF hE hne

def NumBody (b : Body) : Prop :=
  (∃ i : Int, b = .int i ∧ -(two63 : Int) ≤ i ∧ i < (two63 : Int)) ∨ (∃ n, b = .uint n ∧ two63 ≤ n ∧ n < two64) ∨
  (∃ bits, bits < 0x7ff0000000000000 ∧ (b = .float bits ∨ b = .float (bits + 9223372036854775808)))

theorem roundRat_lt (num den : Nat) :
    (roundRat num den).2 = false → (roundRat num den).1 < 0x7ff0000000000000 := by
  unfold roundRat
  split
  · intro _; decide
  · -- the last line of `roundRat` raises the flag exactly when the bits reach the exponent of infinity
    extract_lets g ge e sh n2 d2 q r q' bits
    split
    · intro h; cases h
    · intro _; simp only; omega

theorem parseDecimal_lt (d : Nat) (e : Int) :
    (parseDecimal d e).2 = false → (parseDecimal d e).1 < 0x7ff0000000000000 := by
  unfold parseDecimal
  split
  · intro _; decide
  · split
    · split
      · intro h; cases h
      · exact roundRat_lt _ _
    · split
      · intro _; decide
      · exact roundRat_lt _ _

theorem floatRes_body {neg : Bool} {pr : Nat × Bool} {b : Body} (hpr : pr.2 = false → pr.1 < 0x7ff0000000000000)
    (h : floatRes neg pr = .ok b) : NumBody b := by
  unfold floatRes at h
  cases hov : pr.2
  · rw [hov] at h
    cases h
    refine .inr (.inr ⟨pr.1, hpr hov, ?_⟩)
    cases neg
    · exact .inl rfl
    · exact .inr rfl
  · rw [hov] at h; cases h

theorem intTok_body {neg : Bool} {v : Nat} {b : Body} (h : intTok neg v = .ok b) : NumBody b := by
  unfold intTok at h
  cases neg
  · simp only [Bool.false_eq_true, if_false] at h
    split at h
    · rename_i h1; cases h; exact .inl ⟨_, rfl, by unfold two63 at h1 ⊢; omega⟩
    rename_i h1
    split at h
    · rename_i h2; cases h; exact .inr (.inl ⟨_, rfl, Nat.le_of_not_lt h1, h2⟩)
    · cases h
  · simp only [if_true] at h
    split at h
    · rename_i h1; cases h; exact .inl ⟨_, rfl, by unfold two63 at h1 ⊢; omega⟩
    · cases h

theorem numTokCore_body {neg : Bool} {body : Bytes} {b : Body} (h : numTokCore neg body = .ok b) : NumBody b := by
  unfold numTokCore at h
  split at h
  · exact intTok_body h
  · exact floatRes_body (parseDecimal_lt _ _) h

theorem numTok_ok (text : Bytes) (b : Body) (h : numTok text = .ok b) : NumBody b :=
  numTokCore_body (numTok_core text ▸ h)

end Refmt.FloatL

namespace Refmt.C03L
open Refmt Refmt.JsonEnc Refmt.JsonDec Refmt.Spec.Json

theorem numTok_nat (n : Nat) (h : n < two64) :
    numTok (natDigits n) = .ok (if n < two63 then .int n else .uint n) := by
  have := FloatL.numTok_natDigits false n
  simp only [Bool.false_eq_true, if_false, List.nil_append, FloatL.intTok, h, if_true] at this
  rw [this]
  split <;> rfl

theorem numTok_int (i : Int) (h1 : -(two63 : Int) ≤ i) (h2 : i < (two63 : Int)) :
    numTok (intDigits i) = .ok (.int i) := by
  unfold intDigits
  by_cases hneg : i < 0
  · have := FloatL.numTok_natDigits true (-i).toNat
    simp only [if_true, List.singleton_append, FloatL.intTok] at this
    rw [if_pos hneg, this, if_pos (by omega), show -(((-i).toNat : Nat) : Int) = i by omega]
  · have := FloatL.numTok_natDigits false i.toNat
    simp only [Bool.false_eq_true, if_false, List.nil_append, FloatL.intTok] at this
    rw [if_neg hneg, this, if_pos (by omega), show ((i.toNat : Nat) : Int) = i by omega]

end Refmt.C03L
