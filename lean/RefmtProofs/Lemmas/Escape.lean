/-
  The JSON string escaper (`escLoop`) as a relation `Esc` (`escLoop_Esc`: behind the pending bytes the loop
  writes an escaped form of the rest), and what follows from it: unquoting gives `toValidUtf8`, the output
  is a string body (`SBody`) and valid UTF-8.
-/
import RefmtProofs.Lemmas.JsonStr
namespace Refmt.C03L
open Refmt Refmt.JsonEnc Refmt.JsonDec

theorem flush_flat (pend : Bytes) : (if pend.isEmpty then ([] : List Bytes) else [pend]).flatten = pend := by
  cases pend <;> simp

def escAscii (b : Nat) : Bytes := (escBytes b).flatten

theorem escAscii_flat (b : Nat) :
    (if (b == 92 || b == 34) = true then [[92], [b]]
      else if (b == 10) = true then [[92], [110]]
      else if (b == 13) = true then [[92], [114]]
      else if (b == 9) = true then [[92], [116]]
      else [[92, 117, 48, 48], [hexDigit (b / 16)], [hexDigit (b % 16)]] : List Bytes).flatten = escAscii b := rfl

def esc (s : Bytes) : Bytes := (escLoop s []).flatten

def shortEsc (b y : Nat) : Prop :=
  (b = 92 ∧ y = 92) ∨ (b = 34 ∧ y = 34) ∨ (b = 10 ∧ y = 110) ∨ (b = 13 ∧ y = 114) ∨ (b = 9 ∧ y = 116)

/-- `e` is an escaped form of `s`.  In `uni`, `src` is what `toValidUtf8` reads as the rune `r`: a control byte,
    an invalid byte (`r` = U+FFFD), a line separator. -/
inductive Esc : Bytes → Bytes → Prop
  | nil : Esc [] []
  | plain (b : Nat) (rest e : Bytes) : b < 0x80 → 0x20 ≤ b → b ≠ 92 → b ≠ 34 → Esc rest e → Esc (b :: rest) (b :: e)
  | short (b y : Nat) (rest e : Bytes) : shortEsc b y → Esc rest e → Esc (b :: rest) (92 :: y :: e)
  | uni (src : Bytes) (a b c d r : Nat) (rest e : Bytes) : hex4 a b c d = true → u4val a b c d = r →
      isSurrogate r = false → toValidUtf8 (src ++ rest) = encodeRune r ++ toValidUtf8 rest → Esc rest e →
      Esc (src ++ rest) (92 :: 117 :: a :: b :: c :: d :: e)
  | multi (u : Bytes) (r : Nat) (rest e : Bytes) : MB u r → Esc rest e → Esc (u ++ rest) (u ++ e)

theorem hex_ok : ∀ n, n < 16 → isHex (hexDigit n) = true ∧ hexNib (hexDigit n) = n := by decide

theorem lineSep_hex {r : Nat} (h : r = 0x2028 ∨ r = 0x2029) :
    hex4 50 48 50 (hexDigit (r % 16)) = true ∧ u4val 50 48 50 (hexDigit (r % 16)) = r ∧ isSurrogate r = false := by
  rcases h with rfl | rfl <;> decide

theorem escAscii_cases (b : Nat) (h2 : ¬ (0x20 ≤ b ∧ b ≠ 92 ∧ b ≠ 34)) :
    (∃ y, shortEsc b y ∧ escAscii b = [92, y]) ∨
    (b < 0x20 ∧ escAscii b = [92, 117, 48, 48, hexDigit (b / 16), hexDigit (b % 16)]) := by
  unfold escAscii escBytes
  by_cases e1 : b = 92
  · subst e1; exact .inl ⟨92, .inl ⟨rfl, rfl⟩, rfl⟩
  by_cases e2 : b = 34
  · subst e2; exact .inl ⟨34, .inr (.inl ⟨rfl, rfl⟩), rfl⟩
  by_cases e3 : b = 10
  · subst e3; exact .inl ⟨110, .inr (.inr (.inl ⟨rfl, rfl⟩)), rfl⟩
  by_cases e4 : b = 13
  · subst e4; exact .inl ⟨114, .inr (.inr (.inr (.inl ⟨rfl, rfl⟩))), rfl⟩
  by_cases e5 : b = 9
  · subst e5; exact .inl ⟨116, .inr (.inr (.inr (.inr ⟨rfl, rfl⟩))), rfl⟩
  have : b < 0x20 := by omega
  exact .inr ⟨this, by simp [e1, e2, e3, e4, e5]⟩

theorem escLoop_Esc : ∀ (s pend : Bytes), ∃ e, (escLoop s pend).flatten = pend ++ e ∧ Esc s e
  | [], pend => ⟨[], by cases pend <;> simp [escLoop], .nil⟩
  | b :: rest, pend => by
    rw [escLoop]
    by_cases h1 : b < 0x80
    · by_cases h2 : (0x20 ≤ b && b != 92 && b != 34) = true
      · obtain ⟨e, he, hE⟩ := escLoop_Esc rest (pend ++ [b])
        simp only [h1, h2, if_true]
        simp only [Bool.and_eq_true, decide_eq_true_eq, bne_iff_ne, ne_eq] at h2
        exact ⟨b :: e, by rw [he, List.append_assoc]; rfl, .plain b rest e h1 h2.1.1 h2.1.2 h2.2 hE⟩
      · obtain ⟨e, he, hE⟩ := escLoop_Esc rest []
        simp only [h1, h2, if_true, if_false, List.flatten_append, flush_flat, escAscii_flat, Bool.false_eq_true]
        simp only [Bool.and_eq_true, decide_eq_true_eq, bne_iff_ne, ne_eq] at h2
        refine ⟨escAscii b ++ e, by rw [he, List.nil_append, List.append_assoc], ?_⟩
        rcases escAscii_cases b (fun h => h2 ⟨⟨h.1, h.2.1⟩, h.2.2⟩) with ⟨y, hy, hb⟩ | ⟨hlt, hb⟩
        · rw [hb]; exact .short b y rest e hy hE
        · -- `\u00XX`: the two hex digits are those of `b`, and `b` is its own rune
          rw [hb]
          have hq := hex_ok (b / 16) (by omega)
          have hr := hex_ok (b % 16) (by omega)
          refine .uni [b] 48 48 _ _ b rest e (by simp [hex4, hq.1, hr.1, show isHex 48 = true by decide]) ?_
            (by simp [isSurrogate]; omega) ?_ hE
          · rw [u4val, show hexNib 48 = 0 by decide, hq.2, hr.2]; omega
          · rw [List.singleton_append, tv_ascii b rest h1, show encodeRune b = [b] by simp [encodeRune, h1]]; rfl
    · by_cases h3 : (decodeRune (b :: rest)).2 ≤ 1
      · obtain ⟨e, he, hE⟩ := escLoop_Esc rest []
        simp only [h1, h3, if_false, dite_true, List.flatten_append, flush_flat]
        exact ⟨[92, 117, 102, 102, 102, 100] ++ e, by simp [he],
          show Esc ([b] ++ rest) _ from
            .uni [b] 102 102 102 100 0xFFFD rest e (by decide) (by decide) (by decide) (tv_bad b rest h1 h3) hE⟩
      · have hmb := (decodeRune_cons b rest).resolve_left (by omega)
        have hsplit : b :: rest = (b :: rest).take (decodeRune (b :: rest)).2 ++ (b :: rest).drop (decodeRune (b :: rest)).2 :=
          (List.take_append_drop _ _).symm
        by_cases h4 : ((decodeRune (b :: rest)).1 == 0x2028 || (decodeRune (b :: rest)).1 == 0x2029) = true
        · obtain ⟨e, he, hE⟩ := escLoop_Esc ((b :: rest).drop (decodeRune (b :: rest)).2) []
          simp only [h1, h3, h4, if_true, if_false, dite_false, List.flatten_append, flush_flat]
          simp only [Bool.or_eq_true, beq_iff_eq] at h4
          refine ⟨[92, 117, 50, 48, 50, hexDigit ((decodeRune (b :: rest)).1 % 16)] ++ e, by simp [he], ?_⟩
          -- the bytes taken are the encoding of the rune (`hmb.enc`), which `\u202X` names
          obtain ⟨k1, k2, k3⟩ := lineSep_hex h4
          generalize (decodeRune (b :: rest)).1 = r at hmb k1 k2 k3 ⊢
          rw [hsplit]
          exact .uni _ 50 48 50 _ _ _ e k1 k2 k3 (by rw [tv_mb _ _ _ hmb, hmb.enc]) hE
        · obtain ⟨e, he, hE⟩ := escLoop_Esc ((b :: rest).drop (decodeRune (b :: rest)).2)
            (pend ++ (b :: rest).take (decodeRune (b :: rest)).2)
          simp only [h1, h3, h4, if_false, dite_false, Bool.false_eq_true]
          refine ⟨(b :: rest).take (decodeRune (b :: rest)).2 ++ e, by rw [he, List.append_assoc], ?_⟩
          have := Esc.multi _ _ _ e hmb hE
          rwa [← hsplit] at this
termination_by s => s.length
decreasing_by
  all_goals simp only [List.length_drop, List.length_cons]
  all_goals omega

theorem esc_Esc (s : Bytes) : Esc s (esc s) := by
  obtain ⟨e, he, hE⟩ := escLoop_Esc s []
  rw [esc, he]
  exact hE

theorem shortEsc.spec {b y : Nat} (h : shortEsc b y) :
    unescape y = some b ∧ y ≠ 117 ∧ b < 0x80 ∧ y < 0x80 ∧ isEscLetter y := by
  rcases h with ⟨rfl, rfl⟩ | ⟨rfl, rfl⟩ | ⟨rfl, rfl⟩ | ⟨rfl, rfl⟩ | ⟨rfl, rfl⟩ <;>
    exact ⟨rfl, by decide, by decide, by decide, by simp [isEscLetter]⟩

theorem Esc.unquote {s e : Bytes} (h : Esc s e) : ∀ fuel, e.length < fuel → parseString fuel e = some (toValidUtf8 s) := by
  induction h with
  | nil => intro fuel hf; obtain ⟨k, rfl⟩ : ∃ k, fuel = k + 1 := ⟨fuel - 1, by omega⟩; rw [ps_nil, tv_nil]
  | plain b rest e h1 h2 h3 h4 _ ih =>
    intro fuel hf
    obtain ⟨k, rfl⟩ : ∃ k, fuel = k + 1 := ⟨fuel - 1, by omega⟩
    simp only [List.length_cons] at hf
    rw [ps_plain k b e h2 h3 h4 h1, ih k (by omega), tv_ascii b rest h1]; rfl
  | short b y rest e hy _ ih =>
    intro fuel hf
    obtain ⟨k, rfl⟩ : ∃ k, fuel = k + 1 := ⟨fuel - 1, by omega⟩
    simp only [List.length_cons] at hf
    obtain ⟨hu, h117, hb, -, -⟩ := hy.spec
    rw [ps_esc k y e h117, hu, ih k (by omega), tv_ascii b rest hb]; rfl
  | uni src a b c d r rest e hh hv hs htv _ ih =>
    intro fuel hf
    obtain ⟨k, rfl⟩ : ∃ k, fuel = k + 1 := ⟨fuel - 1, by omega⟩
    simp only [List.length_cons] at hf
    rw [ps_u4 k a b c d e hh hv hs, ih k (by omega), htv]; rfl
  | multi u r rest e hmb _ ih =>
    intro fuel hf
    obtain ⟨k, rfl⟩ : ∃ k, fuel = k + 1 := ⟨fuel - 1, by omega⟩
    have := hmb.len
    simp only [List.length_append] at hf
    rw [ps_mb k u r e hmb, ih k (by omega), tv_mb u r rest hmb]; rfl

theorem Esc.body {s e : Bytes} (h : Esc s e) : SBody e := by
  induction h with
  | nil => exact .nil
  | plain b rest e h1 h2 h3 h4 _ ih => exact .plain b e h2 h4 h3 ih
  | short b y rest e hy _ ih =>
    exact .esc y e hy.spec.2.2.2.2 ih
  | uni src a b c d r rest e hh _ _ _ _ ih =>
    obtain ⟨ha, hb, hc, hd⟩ := hex4_each hh
    exact .uni a b c d e ha hb hc hd ih
  | multi u r rest e hmb _ ih =>
    exact SBody.plains u (fun x hx => by have := hmb.hi x hx; omega) ih

theorem Esc.valid {s e : Bytes} (h : Esc s e) : toValidUtf8 e = e := by
  induction h with
  | nil => exact tv_nil
  | plain b rest e h1 h2 h3 h4 _ ih => rw [tv_ascii b e h1, ih]
  | short b y rest e hy _ ih =>
    rw [tv_ascii 92 _ (by decide), tv_ascii y e hy.spec.2.2.2.1, ih]
  | uni src a b c d r rest e hh _ _ _ _ ih =>
    obtain ⟨ha, hb, hc, hd⟩ := hex4_each hh
    rw [tv_ascii 92 _ (by decide), tv_ascii 117 _ (by decide), tv_ascii a _ (isHex_ascii ha), tv_ascii b _ (isHex_ascii hb),
      tv_ascii c _ (isHex_ascii hc), tv_ascii d _ (isHex_ascii hd), ih]
  | multi u r rest e hmb _ ih => rw [tv_mb u r e hmb, ih]

end Refmt.C03L
