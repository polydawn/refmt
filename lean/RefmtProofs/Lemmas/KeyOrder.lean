/-
  Order lemmas for the map-key comparators of the object marshaller (`bytesLt`, `bytesLe`, `keyLe` in
  RefmtModel/Model/Obj/Marshal.lean): `bytesLt` is the lexicographic order of `List Nat`, and the order facts are the
  library's.
-/
import RefmtModel
namespace Refmt.KeyOrder
open Refmt Refmt.Obj

theorem bytesLt_iff : ∀ a b : Bytes, bytesLt a b = true ↔ a < b := by
  intro a
  induction a with
  | nil => intro b; cases b <;> simp [bytesLt]
  | cons x xs ih =>
    intro b
    cases b with
    | nil => simp [bytesLt]
    | cons y ys =>
      rw [bytesLt, List.cons_lt_cons_iff, ← ih]
      simp

theorem bytesLe_iff (a b : Bytes) : bytesLe a b = true ↔ a ≤ b := by
  rw [bytesLe, Bool.not_eq_true', ← Bool.not_eq_true, bytesLt_iff, List.not_lt]

theorem bytesLt_irrefl (a : Bytes) : bytesLt a a = false := by
  rw [← Bool.not_eq_true, bytesLt_iff]; exact List.lt_irrefl a

theorem bytesLt_trichotomy (a b : Bytes) : bytesLt a b = true ∨ a = b ∨ bytesLt b a = true := by
  rw [bytesLt_iff, bytesLt_iff]
  rcases Decidable.em (a < b) with h | h
  · exact Or.inl h
  · rcases Decidable.em (b < a) with h' | h'
    · exact Or.inr (Or.inr h')
    · exact Or.inr (Or.inl (List.le_antisymm (List.not_lt.mp h') (List.not_lt.mp h)))

theorem bytesLt_asymm (a b : Bytes) (h : bytesLt a b = true) : bytesLt b a = false := by
  rw [← Bool.not_eq_true, bytesLt_iff]
  exact List.lt_asymm ((bytesLt_iff a b).mp h)

theorem bytesLt_trans (a b c : Bytes) (h1 : bytesLt a b = true) (h2 : bytesLt b c = true) : bytesLt a c = true := by
  rw [bytesLt_iff] at *
  exact List.lt_trans h1 h2

theorem bytesLe_total (a b : Bytes) : bytesLe a b = true ∨ bytesLe b a = true := by
  rw [bytesLe_iff, bytesLe_iff]
  exact List.le_total a b

theorem bytesLe_trans (a b c : Bytes) (h1 : bytesLe a b = true) (h2 : bytesLe b c = true) :
    bytesLe a c = true := by
  rw [bytesLe_iff] at *
  exact List.le_trans h1 h2

theorem bytesLe_antisymm (a b : Bytes) (h1 : bytesLe a b = true) (h2 : bytesLe b a = true) : a = b := by
  rw [bytesLe_iff] at *
  exact List.le_antisymm h1 h2

theorem bytesLe_refl (a : Bytes) : bytesLe a a = true := by
  rw [bytesLe_iff]; exact List.le_refl a

theorem keyLe_rfc7049 (a b : Bytes) :
    keyLe .rfc7049 a b = true ↔ a.length < b.length ∨ (a.length = b.length ∧ bytesLe a b = true) := by
  simp only [keyLe]
  by_cases h : a.length = b.length
  · simp [h]
  · simp [h]

theorem keyLe_total (mode : KeySort) (a b : Bytes) : keyLe mode a b = true ∨ keyLe mode b a = true := by
  cases mode
  · exact bytesLe_total a b
  · exact bytesLe_total a b
  · rw [keyLe_rfc7049, keyLe_rfc7049]
    rcases Nat.lt_trichotomy a.length b.length with h | h | h
    · exact .inl (.inl h)
    · exact (bytesLe_total a b).imp (fun x => .inr ⟨h, x⟩) (fun x => .inr ⟨h.symm, x⟩)
    · exact .inr (.inl h)

theorem keyLe_trans (mode : KeySort) (a b c : Bytes) (h1 : keyLe mode a b = true) (h2 : keyLe mode b c = true) :
    keyLe mode a c = true := by
  cases mode
  · exact bytesLe_trans a b c h1 h2
  · exact bytesLe_trans a b c h1 h2
  · rw [keyLe_rfc7049] at *
    rcases h1 with h1 | ⟨e1, h1⟩ <;> rcases h2 with h2 | ⟨e2, h2⟩
    · exact .inl (by omega)
    · exact .inl (by omega)
    · exact .inl (by omega)
    · exact .inr ⟨by omega, bytesLe_trans a b c h1 h2⟩

theorem keyLe_antisymm (mode : KeySort) (a b : Bytes) (h1 : keyLe mode a b = true) (h2 : keyLe mode b a = true) :
    a = b := by
  cases mode
  · exact bytesLe_antisymm a b h1 h2
  · exact bytesLe_antisymm a b h1 h2
  · rw [keyLe_rfc7049] at *
    rcases h1 with h1 | ⟨_, h1⟩ <;> rcases h2 with h2 | ⟨_, h2⟩
    · omega
    · omega
    · omega
    · exact bytesLe_antisymm a b h1 h2

end Refmt.KeyOrder
