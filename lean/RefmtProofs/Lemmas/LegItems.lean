/-
  C12, claim (ii) — what the two inductions (`IDM`, `LEGT`) share, kind by kind: the marshaller's run on a value, cut
  into the runs on its parts, with the round-trip value; and the writing and the reading of a re-rendering assembled
  from those of the parts' re-renderings.  See RefmtProofs/Props/C12Tagged.lean.
-/
import RefmtProofs.Lemmas.LegStruct
import RefmtProofs.Lemmas.LegUP
namespace Refmt.Obj
open Refmt Refmt.C13 Refmt.C11 Refmt.C12 Refmt.C12L
open Refmt.MachL

variable {ts : Types} {a : Atlas} {trs : Trs} {it : IfaceTys}

/-! In `items_list` .. `struct_items`, `P` is what an induction knows about one item (`IdmJ` or `LegJ` at the jobs of the
  item's type), and `step` its hypothesis at the element type(s). -/

theorem items_list {P : Item → Prop} {f k e g : Nat}
    (step : ∀ x tx, hasTy ts k e x = true → fullVal ts a trs it g e x = true → MRun.Writes ts a trs f (.v e x) tx →
      ∃ u tk2, P ⟨tx, u, tk2, rtF ts a trs it g e x⟩) :
    ∀ (vs : List Val) (toks : List Tok), MRun.Writes ts a trs (f+1) (.list e vs) toks → (∀ x ∈ vs, hasTy ts k e x = true) →
    (∀ x ∈ vs, fullVal ts a trs it g e x = true) →
    ∃ items : List Item, toks = items.flatMap (·.tk) ∧ items.map (·.r) = vs.map (rtF ts a trs it g e) ∧ ∀ i ∈ items, P i := by
  intro vs
  induction vs with
  | nil => intro toks hm _ _; cases hm; exact ⟨[], rfl, rfl, fun _ hq => nomatch hq⟩
  | cons x xs ihl =>
    intro toks hm hv hfv
    cases hm with
    | @listCons _ _ _ _ tx _ h1 h2 =>
      obtain ⟨u, tk2, hgood⟩ := step x tx (hv x (by simp)) (hfv x (by simp)) h1
      obtain ⟨items, rfl, hr, hall⟩ := ihl _ h2.succ (fun y hy => hv y (by simp [hy])) (fun y hy => hfv y (by simp [hy]))
      refine ⟨⟨tx, u, tk2, rtF ts a trs it g e x⟩ :: items, by simp [List.flatMap_cons], by simp [hr], ?_⟩
      intro i hi
      rcases List.mem_cons.mp hi with rfl | hi
      · exact hgood
      · exact hall i hi

theorem items_entries {P : Item → Prop} {f k vt g : Nat}
    (step : ∀ x tx, hasTy ts k vt x = true → fullVal ts a trs it g vt x = true → MRun.Writes ts a trs f (.v vt x) tx →
      ∃ u tk2, P ⟨tx, u, tk2, rtF ts a trs it g vt x⟩) :
    ∀ (kvs : List (Bytes × Val)) (toks : List Tok), MRun.Writes ts a trs (f+1) (.entries vt kvs) toks →
    (∀ q ∈ kvs, hasTy ts k vt q.2 = true) → (∀ q ∈ kvs, fullVal ts a trs it g vt q.2 = true) →
    ∃ kitems : List (Bytes × Item), toks = kitems.flatMap (fun q => ⟨.str q.1, none⟩ :: q.2.tk) ∧
      (kitems.map fun q => (q.1, q.2.r)) = (kvs.map fun q => (q.1, rtF ts a trs it g vt q.2)) ∧
      ∀ q ∈ kitems, P q.2 := by
  intro kvs
  induction kvs with
  | nil => intro toks hm _ _; cases hm; exact ⟨[], rfl, rfl, fun _ hq => nomatch hq⟩
  | cons q qs ihl =>
    intro toks hm hv hfv
    cases hm with
    | @entriesCons _ _ s x _ tx _ h1 h2 =>
      obtain ⟨u, tk2, hgood⟩ := step x tx (hv (s, x) (by simp)) (hfv (s, x) (by simp)) h1
      obtain ⟨kitems, rfl, hr, hall⟩ := ihl _ h2.succ (fun y hy => hv y (by simp [hy])) (fun y hy => hfv y (by simp [hy]))
      refine ⟨(s, ⟨tx, u, tk2, rtF ts a trs it g vt x⟩) :: kitems, by simp [List.flatMap_cons], by simp [hr], ?_⟩
      intro i hi
      rcases List.mem_cons.mp hi with rfl | hi
      · exact hgood
      · exact hall i hi

theorem items_fields {P : Nat → Item → Prop} {f p k g : Nat} (fds : List FieldDesc) (vs : List Val)
    (hv : ∀ (i : Nat) fd x, fds[i]? = some fd → vs[i]? = some x → hasTy ts k fd.ty x = true) :
    ∀ (fl : List SMField) (toks : List Tok), MRun.Writes ts a trs (f+1) (.fields fl (.struct vs)) toks →
    (∀ fld ∈ fl, FOKF ts a p fds fld) →
    (∀ fld ∈ fl, ∀ x tx, hasTy ts k fld.ty x = true → fullVal ts a trs it g fld.ty x = true →
      MRun.Writes ts a trs f (.v fld.ty x) tx → ∃ u tk2, P fld.ty ⟨tx, u, tk2, rtF ts a trs it g fld.ty x⟩) →
    (∀ fld ∈ fl, ∀ fv, traverse fld.route (.struct vs) = some fv → fullVal ts a trs it g fld.ty fv = true) →
    ∃ fitems : List (SMField × Item), toks = fitems.flatMap (fun q => ⟨.str q.1.name, none⟩ :: q.2.tk) ∧
      fitems.map (·.1) = fl ∧
      ∀ q ∈ fitems, P q.1.ty q.2 ∧
        ∃ i fd fv, q.1.route = [i] ∧ fds[i]? = some fd ∧ vs[i]? = some fv ∧ q.2.r = rtF ts a trs it g q.1.ty fv := by
  intro fl
  induction fl with
  | nil => intro toks hm _ _ _; cases hm; exact ⟨[], rfl, rfl, fun _ hq => nomatch hq⟩
  | cons fld fl' ihl =>
    intro toks hm hfl step hfv
    cases hm with
    | @fieldsCons _ _ _ _ fv tx _ hfvx h1 h2 =>
      obtain ⟨hign, ⟨i, fd, hroute, hfd, hty⟩, hst⟩ := hfl fld (by simp)
      have hvi : vs[i]? = some fv := by rwa [hroute, traverse_one] at hfvx
      have hvfv : hasTy ts k fld.ty fv = true := by rw [← hty]; exact hv i fd fv hfd hvi
      obtain ⟨u, tk2, hgood⟩ := step fld (by simp) fv tx hvfv (hfv fld (by simp) fv hfvx) h1
      obtain ⟨fitems, rfl, hr, hall⟩ := ihl _ h2.succ (fun y hy => hfl y (by simp [hy]))
        (fun y hy => step y (by simp [hy])) (fun y hy => hfv y (by simp [hy]))
      refine ⟨(fld, ⟨tx, u, tk2, rtF ts a trs it g fld.ty fv⟩) :: fitems, by simp [List.flatMap_cons], by simp [hr], ?_⟩
      intro q hq
      rcases List.mem_cons.mp hq with rfl | hq
      · exact ⟨hgood, i, fd, fv, hroute, hfd, hvi, rfl⟩
      · exact hall q hq

theorem slice_items {P : Item → Prop} {f k g id e : Nat} {v : Val} {toks : List Tok} (hd : ts.get id = .slice e)
    (step : ∀ k' x tx, hasTy ts k' e x = true → fullVal ts a trs it g e x = true → MRun.Writes ts a trs f (.v e x) tx →
      ∃ u tk2, P ⟨tx, u, tk2, rtF ts a trs it g e x⟩)
    (hv : hasTy ts k id v = true) (hs : fullValB ts a trs it (g+1) id (.slice e) v = true)
    (hm : MRun.Writes ts a trs (f+1) (.bare id (.slice e) v) toks) :
    (v = .slice none ∧ toks = [⟨.null, none⟩]) ∨
    ∃ (es : List Val) (items : List Item), v = .slice (some es) ∧ items.length = es.length ∧
      toks = ⟨.arrOpen es.length, none⟩ :: (items.flatMap (·.tk) ++ [⟨.arrClose, none⟩]) ∧
      rtFB ts a trs it (g+1) id (.slice e) v = .slice (some (items.map (·.r))) ∧ ∀ i ∈ items, P i := by
  cases hm with
  | sliceNil => exact Or.inl ⟨rfl, rfl⟩
  | @slice _ _ _ es tl h2 =>
    obtain ⟨o, ho, hv'⟩ := hasTy_slice ts hd hv
    cases ho
    rw [fullValB_slice] at hs
    have hs' : ∀ x ∈ es, fullVal ts a trs it g e x = true := by simpa using hs
    obtain ⟨items, rfl, hr, hall⟩ := items_list (P := P) (step (k - 1)) es tl h2.succ (hv' es rfl) hs'
    refine Or.inr ⟨es, items, rfl, by simpa using congrArg List.length hr, rfl, ?_, hall⟩
    rw [rtFB_slice, hr]

theorem arr_items {P : Item → Prop} {f k g id n e : Nat} {v : Val} {toks : List Tok} (hd : ts.get id = .arr n e)
    (step : ∀ k' x tx, hasTy ts k' e x = true → fullVal ts a trs it g e x = true → MRun.Writes ts a trs f (.v e x) tx →
      ∃ u tk2, P ⟨tx, u, tk2, rtF ts a trs it g e x⟩)
    (hv : hasTy ts k id v = true) (hs : fullValB ts a trs it (g+1) id (.array e) v = true)
    (hm : MRun.Writes ts a trs (f+1) (.bare id (.array e) v) toks) :
    ∃ (es : List Val) (items : List Item), v = .arr es ∧ es.length = n ∧ items.length = n ∧
      toks = ⟨.arrOpen es.length, none⟩ :: (items.flatMap (·.tk) ++ [⟨.arrClose, none⟩]) ∧
      rtFB ts a trs it (g+1) id (.array e) v = .arr (items.map (·.r)) ∧ ∀ i ∈ items, P i := by
  cases hm with
  | @array _ _ _ es tl h2 =>
    obtain ⟨es', he', hn, hv'⟩ := hasTy_arr ts hd hv
    cases he'
    rw [fullValB_array] at hs
    have hs' : ∀ x ∈ es, fullVal ts a trs it g e x = true := by simpa using hs
    obtain ⟨items, rfl, hr, hall⟩ := items_list (P := P) (step (k - 1)) es tl h2.succ hv' hs'
    have hlen : items.length = es.length := by simpa using congrArg List.length hr
    refine ⟨es, items, rfl, hn, by omega, rfl, ?_, hall⟩
    rw [rtFB_array, hr]

theorem reads_arr {id n e : Nat} (l : Int) (items : List Item) (cur : Val) (hlen : items.length = n)
    (h : ∀ i ∈ items, ∃ f, Reads ts a trs it f (.v e (zeroVal ts 64 e)) i.tk2 i.r) :
    ∃ f, Reads ts a trs it f (.bare id (.array n e) cur)
      (⟨.arrOpen l, none⟩ :: (items.flatMap (·.tk2) ++ [⟨.arrClose, none⟩])) (.arr (items.map (·.r))) := by
  obtain ⟨f, hf⟩ := reads_elems (·.tk2) (·.r) e (some n) items h (by simp [hlen])
  have := Reads.array (id := id) (cur := cur) (t := ⟨.arrOpen l, none⟩) rfl hf
  exact ⟨_, by simpa [arrFix, hlen] using this⟩

theorem map_items {P : Item → Prop} {f k g id kt vt : Nat} {bk : Bool}
    {v : Val} {toks : List Tok} (hd : ts.get id = .map kt vt) (hkt : ts.get kt = .prim .string bk)
    (step : ∀ k' x tx, hasTy ts k' vt x = true → fullVal ts a trs it g vt x = true → MRun.Writes ts a trs f (.v vt x) tx →
      ∃ u tk2, P ⟨tx, u, tk2, rtF ts a trs it g vt x⟩)
    (hv : hasTy ts k id v = true) (hs : fullValB ts a trs it (g+1) id (.map kt vt a.defaultSort) v = true)
    (hm : MRun.Writes ts a trs (f+1) (.bare id (.map kt vt a.defaultSort) v) toks) :
    (v = .map none ∧ toks = [⟨.null, none⟩]) ∨
    ∃ (es : List (Val × Val)) (kitems : List (Bytes × Item)), v = .map (some es) ∧ kitems.length = es.length ∧
      (kitems.map (·.1)).Nodup ∧ sortI a.defaultSort (·.1) kitems = kitems ∧
      toks = ⟨.mapOpen es.length, none⟩ :: (kitems.flatMap (fun q => ⟨.str q.1, none⟩ :: q.2.tk) ++ [⟨.mapClose, none⟩]) ∧
      rtFB ts a trs it (g+1) id (.map kt vt a.defaultSort) v = .map (some (kitems.map fun x => (Val.str x.1, x.2.r))) ∧
      ∀ q ∈ kitems, P q.2 := by
  obtain ⟨o, rfl, hv'⟩ := hasTy_map ts hd hv
  cases o with
  | none => cases hm with | mapNil => exact Or.inl ⟨rfl, rfl⟩
  | some es =>
    rw [fullValB_map] at hs
    simp only [Bool.and_eq_true, List.all_eq_true] at hs
    obtain ⟨hkeys, hnd⟩ := strKeysB_inv hs.1
    -- string keys need no transform: the entries written are those of `v`, keys as bytes, sorted
    obtain ⟨tl, h2, rfl⟩ := hm.map_strKeys hkt hkeys
    obtain ⟨kitems, rfl, hr, hall⟩ := items_entries (P := P) (step (k - 1)) _ tl h2.succ
      (fun q hq => by obtain ⟨q', hq', he, -⟩ := mem_sortKeys_keyStr hq; rw [he]; exact (hv' es rfl q' hq').2)
      (fun q hq => by obtain ⟨q', hq', he, -⟩ := mem_sortKeys_keyStr hq; rw [he]; exact hs.2 q' hq')
    have hkeysEq : kitems.map (·.1) = (sortKeys a.defaultSort (es.map fun (k, x) => (keyStr k, x))).map (·.1) := by
      have := congrArg (List.map (·.1)) hr
      simpa [List.map_map, Function.comp_def] using this
    have hsorted : sortI a.defaultSort (·.1) kitems = kitems := by
      apply sortI_of_sorted
      rw [hkeysEq, List.pairwise_map]
      exact C08.sortKeys_sorted a.defaultSort _
    have hlen : kitems.length = es.length := by
      have := congrArg List.length hkeysEq
      simpa [ObjL.sortKeys_length] using this
    refine Or.inr ⟨es, kitems, rfl, hlen, hkeysEq ▸ nodup_sortKeys_keyStr hnd, hsorted, rfl, ?_, hall⟩
    have hres : (sortKeys a.defaultSort (es.map fun (k, x) => (keyStr k, x))).map
          (fun (q : Bytes × Val) => (Val.str q.1, rtF ts a trs it g vt q.2)) =
        (kitems.map fun x => (Val.str x.1, x.2.r)) := by
      have := congrArg (List.map fun (q : Bytes × Val) => (Val.str q.1, q.2)) hr
      simpa [List.map_map, Function.comp_def] using this.symm
    rw [rtFB_map]
    rw [← hres]

theorem reads_map {id kt vt : Nat} {bk : Bool} (hkt : ts.get kt = .prim .string bk) (l : Int) (kitems : List (Bytes × Item))
    (hnd : (kitems.map (·.1)).Nodup) (h : ∀ q ∈ kitems, ∃ f, Reads ts a trs it f (.v vt (zeroVal ts 64 vt)) q.2.tk2 q.2.r) :
    ∃ f, Reads ts a trs it f (.bare id (.map kt vt) (zeroVal ts 64 id))
      (⟨.mapOpen l, none⟩ :: (kitems.flatMap (fun q => ⟨.str q.1, none⟩ :: q.2.tk2) ++ [⟨.mapClose, none⟩]))
      (.map (some (kitems.map fun x => (Val.str x.1, x.2.r)))) := by
  obtain ⟨f, hf⟩ := reads_entries (·.1) (·.2.tk2) (·.2.r) vt kitems h hnd
  exact ⟨_, .map (kf := none) (keyFnOfU_string hkt a) rfl (by rwa [zeroVal_mapEntries])⟩

/-- `zeroVal ts 63 fd.ty`: the zero value of a struct at depth 64 holds its fields' zeros one level down
    (`zeroVal_struct`); `ZeroStable` is what lets 63 and 64 be exchanged. -/
theorem struct_items {P : Nat → Item → Prop} {f p k g id : Nat}
    {fds : List FieldDesc} {e : Entry} {fields : List SMField} {v : Val} {toks : List Tok}
    (hd : ts.get id = .struct fds) (hroutes : (fields.map (·.route)).Nodup) (hfok : ∀ fld ∈ fields, FOKF ts a p fds fld)
    (step : ∀ fld ∈ fields, ∀ k' x tx, hasTy ts k' fld.ty x = true → fullVal ts a trs it g fld.ty x = true →
      MRun.Writes ts a trs f (.v fld.ty x) tx → ∃ u tk2, P fld.ty ⟨tx, u, tk2, rtF ts a trs it g fld.ty x⟩)
    (hv : hasTy ts k id v = true) (hs : fullValB ts a trs it (g+1) id (.structMap e fields) v = true)
    (hm : MRun.Writes ts a trs (f+1) (.bare id (.structMap e fields) v) toks) :
    ∃ (k' : Nat) (vs : List Val) (fitems : List (SMField × Item)), v = .struct vs ∧ vs.length = fds.length ∧
      (∀ (i : Nat) fd x, fds[i]? = some fd → vs[i]? = some x → hasTy ts k' fd.ty x = true) ∧
      fitems.map (·.1) = fields.filter (emitP (.struct vs)) ∧
      toks = ⟨.mapOpen fitems.length, e.tag⟩ :: (fitems.flatMap (fun q => ⟨.str q.1.name, none⟩ :: q.2.tk) ++ [⟨.mapClose, none⟩]) ∧
      (fitems.map fun q => routeIdx q.1).Nodup ∧
      rtFB ts a trs it (g+1) id (.structMap e fields) v = .struct (fitems.foldl setStep (fds.map fun fd => zeroVal ts 63 fd.ty)) ∧
      ∀ q ∈ fitems, P q.1.ty q.2 ∧
        ∃ i fd fv, q.1.route = [i] ∧ fds[i]? = some fd ∧ vs[i]? = some fv ∧ q.2.r = rtF ts a trs it g q.1.ty fv := by
  rw [fullValB_structMap] at hs
  simp only [List.all_eq_true] at hs
  obtain ⟨vs, rfl, hvl, hv'⟩ := hasTy_struct ts hd hv
  cases hm with
  | @struct _ _ _ _ _ tl h2 =>
  rw [emittable_eq] at h2 ⊢
  obtain ⟨fitems, rfl, hfl, hall⟩ := items_fields (P := P) fds vs hv'
    (fields.filter (emitP (.struct vs))) tl h2.succ
    (fun fld hf => hfok fld (List.mem_filter.mp hf).1)
    (fun fld hf => step fld (List.mem_filter.mp hf).1 (k - 1))
    (fun fld hf fv ht => by
      have := hs fld (List.mem_filter.mp hf).1
      simpa [(List.mem_filter.mp hf).2, ht] using this)
  have hlen : fitems.length = (fields.filter (emitP (.struct vs))).length := by
    rw [← hfl]; simp
  have hrnd : (fitems.map fun q => routeIdx q.1).Nodup := by
    have hr0 : ((fitems.map (·.1)).map (·.route)).Nodup := by
      rw [hfl]; exact (List.filter_sublist.map _).nodup hroutes
    rw [List.map_map] at hr0
    unfold List.Nodup at hr0 ⊢
    rw [List.pairwise_map] at hr0 ⊢
    refine hr0.imp_of_mem ?_
    intro q q' hq hq' hne heq
    apply hne
    obtain ⟨_, i, _, _, hroute, _⟩ := hall q hq
    obtain ⟨_, i', _, _, hroute', _⟩ := hall q' hq'
    simp only [routeIdx, hroute, hroute', List.headD_cons] at heq
    simp [hroute, hroute', heq]
  refine ⟨k - 1, vs, fitems, rfl, hvl, hv', hfl, by rw [hlen], hrnd, ?_, hall⟩
  rw [rtFB_structMap, structFold_eq_filter, zeroVal_struct ts hd, ← hfl,
    fold_fieldStep id fds vs (rtF ts a trs it g) hd fitems _ (by simp)
      (fun q hq => by
        obtain ⟨_, i, fd, fv, hroute, hfd, hvi, hr⟩ := hall q hq
        exact ⟨i, fd, fv, hroute, hfd, hvi, hr⟩)]

theorem reads_structMap {id p : Nat} {fds : List FieldDesc} {fields : List SMField} (hz : ZeroStable ts)
    (hd : ts.get id = .struct fds) (hnames : (fields.map (·.name)).Nodup) (hfok : ∀ fld ∈ fields, FOKF ts a p fds fld)
    (tag : Option Int) (l : List (SMField × Item))
    (h : ∀ q ∈ l, q.1 ∈ fields ∧ ∃ f, Reads ts a trs it f (.v q.1.ty (zeroVal ts 64 q.1.ty)) q.2.tk2 q.2.r)
    (hrnd : (l.map fun q => routeIdx q.1).Nodup) :
    ∃ f, Reads ts a trs it f (.bare id (.structMap fields) (zeroVal ts 64 id))
      (⟨.mapOpen l.length, tag⟩ :: (l.flatMap (fun q => ⟨.str q.1.name, none⟩ :: q.2.tk2) ++ [⟨.mapClose, none⟩]))
      (.struct (l.foldl setStep (fds.map fun fd => zeroVal ts 63 fd.ty))) := by
  obtain ⟨f, hf⟩ := reads_struct (ts := ts) (a := a) (trs := trs) (it := it) id fds fields hd hnames l
    (fun q hq => by
      obtain ⟨hign, ⟨i, fd, hroute, hfd, -⟩, -⟩ := hfok q.1 (h q hq).1
      exact ⟨(h q hq).1, hign, ⟨i, fd, hroute, hfd⟩, (h q hq).2⟩)
    hrnd (fds.map fun fd => zeroVal ts 63 fd.ty) 0 (l.length : Nat) (by simp)
    (fun q hq => by
      obtain ⟨i, fd, hroute, hfd, hty⟩ := (hfok q.1 (h q hq).1).slot
      rw [show routeIdx q.1 = i by simp [routeIdx, hroute], List.getElem?_map, hfd, ← hty, ← hz fd.ty]; rfl)
    (by simp)
  exact ⟨_, .struct rfl (by rwa [zeroVal_struct ts hd])⟩

/-- a member `(nm, idx)` of the keyed union `id`, with entry `me`: what `fullTy` says of its type, and what the union's
    two machines make of any rendering `ti` of a value `w` of that type -/
structure UMember (ts : Types) (a : Atlas) (trs : Trs) (it : IfaceTys) (id : Nat) (e : Entry) (members : List (Bytes × Nat))
    (p : Nat) (nm : Bytes) (idx : Nat) (me : Entry) : Prop where
  mem : (nm, idx) ∈ members
  pool : a.pool[idx]? = some me
  full : fullTy ts a (p + 1) me.ty = true
  nonptr : ∀ x, ts.get me.ty ≠ .ptr x
  writes : ∀ {F w ti}, MRun.Writes ts a trs F (.bare me.ty (pickBare ts a me.ty) w) ti →
    MRun.Writes ts a trs (F+1) (.bare id (.union e members) (.iface (some (me.ty, w))))
      (⟨.mapOpen 1, none⟩ :: ⟨.str nm, none⟩ :: (ti ++ [⟨.mapClose, none⟩]))
  reads : ∀ {F w ti}, Reads ts a trs it F (.bare me.ty (upickBare ts a me.ty) (zeroVal ts 64 me.ty)) ti w →
    Reads ts a trs it (F+1) (.bare id (.union members) (zeroVal ts 64 id))
      (⟨.mapOpen 1, none⟩ :: ⟨.str nm, none⟩ :: (ti ++ [⟨.mapClose, none⟩])) (.iface (some (me.ty, w)))

theorem union_member {f p k g id : Nat} {m reg : Bool} {ty : Nat} {tag : Option Int} {members : List (Bytes × Nat)}
    {v : Val} {toks : List Tok}
    (hd : ts.get id = .iface m) (hnames : (members.map (·.1)).Nodup) (hmem : ∀ mem ∈ members, MOKF ts a p mem)
    (hv : hasTy ts k id v = true)
    (hs : fullValB ts a trs it (g+1) id (.union ⟨reg, ty, tag, .union members⟩ members) v = true)
    (hm : MRun.Writes ts a trs (f+1) (.bare id (.union ⟨reg, ty, tag, .union members⟩ members) v) toks) :
    ∃ (k' p' idx : Nat) (nm : Bytes) (me : Entry) (dv : Val) (ti : List Tok), p = p' + 1 ∧
      UMember ts a trs it id ⟨reg, ty, tag, .union members⟩ members p' nm idx me ∧
      v = .iface (some (me.ty, dv)) ∧ hasTy ts k' me.ty dv = true ∧
      fullValB ts a trs it g me.ty (pickBare ts a me.ty) dv = true ∧
      MRun.Writes ts a trs f (.bare me.ty (pickBare ts a me.ty) dv) ti ∧
      toks = ⟨.mapOpen 1, none⟩ :: ⟨.str nm, none⟩ :: (ti ++ [⟨.mapClose, none⟩]) ∧
      rtFB ts a trs it (g+1) id (.union ⟨reg, ty, tag, .union members⟩ members) v =
        .iface (some (me.ty, rtFB ts a trs it g me.ty (pickBare ts a me.ty) dv)) := by
  obtain ⟨nm, idx, me, dv, ti, fs, fds, rfl, hin, hfind, hme, hM, hinner, rfl⟩ := hm.union_member hmem
  cases k with
  | zero => simp [hasTy] at hv
  | succ k =>
  have hvd : hasTy ts k me.ty dv = true := by simpa [hasTy, hd] using hv
  rw [fullValB_union] at hs
  simp only [hfind, hme, hM.mach] at hs
  obtain ⟨p', rfl⟩ := fullTy_pos hM.full
  refine ⟨k, p', idx, nm, me, dv, ti, rfl, ⟨hin, hme, hM.full, by simp [hM.desc], ?_, ?_⟩, rfl, hvd, hs, hinner, rfl, ?_⟩
  · intro F w ti2 hmi
    exact .union hfind hme (hM.mach ▸ hmi)
  · intro F w ti2 hrd
    exact .union (l := 1) (k := ⟨.str nm, none⟩) (cl := ⟨.mapClose, none⟩) rfl rfl rfl
      (ObjL.find?_key (·.1) members hnames (nm, idx) hin) hme (by rw [hM.umach, hM.upick]; simp) (by rw [hM.umach, hM.upick]; simp)
      (hM.umach ▸ hrd) rfl
  · rw [rtFB_union]
    simp only [hfind, hme, hM.mach]

/-- `hasTy ts 1000`: the depth at which `fullValB` types a transform's result -/
theorem transform_inv {f p g id : Nat} {e : Entry} {fn mty : Nat} {v : Val} {toks : List Tok} (htr : TrsEqv trs)
    (he : UEnv ts a it) (hp64 : p ≤ 64) (hfm : fullTy ts a p mty = true)
    (hs : fullValB ts a trs it (g+1) id (.transform e fn mty) v = true)
    (hm : MRun.Writes ts a trs (f+1) (.bare id (.transform e fn mty) v) toks) :
    ∃ tv toks0 a', trs.m fn v = some tv ∧ hasTy ts 1000 mty tv = true ∧ fullVal ts a trs it g mty tv = true ∧
      MRun.Writes ts a trs f (.v mty tv) toks0 ∧ toks = MRun.retag e.tag toks0 ∧
      trs.u fn (rtF ts a trs it g mty tv) = some a' ∧ rtFB ts a trs it (g+1) id (.transform e fn mty) v = a' := by
  cases hm with
  | @transform _ _ _ _ _ _ tv toks0 htm ho =>
    obtain ⟨hvt, hfv, a', ha', hw⟩ := rtSpec_cbor.transform_inv htr he hp64 hfm hs htm
    exact ⟨tv, toks0, a', htm, hvt, hfv, ho, rfl, ha', hw⟩

/-- `hf`: `rtF` lets a pointer come back nil by `isNullSer`, which looks at the marshaller's run on fuel 1000; the run at
    hand has to be that run. -/
theorem ptr_cases {f k g id n base : Nat} {v : Val} {toks : List Tok} (hf : f ≤ 999) (hnp : ∀ e, ts.get base ≠ .ptr e)
    (hpeel : peel ts 64 0 id = (n, base)) (hch : chain ts n id base) (hv : hasTy ts k id v = true)
    (hfv : fullVal ts a trs it (g+1) id v = true) (hm : MRun.Writes ts a trs (f+1) (.v id v) toks) :
    (n ≠ 0 ∧ toks = [⟨.null, none⟩] ∧ rtF ts a trs it (g+1) id v = .ptr none) ∨
    ∃ (inner : Val) (k' : Nat), hasTy ts k' base inner = true ∧
      fullValB ts a trs it g base (pickBare ts a base) inner = true ∧
      MRun.Writes ts a trs f (.bare base (pickBare ts a base) inner) toks ∧
      ((n ≠ 0 ∧ (∃ tg, toks = [⟨.null, tg⟩]) ∧ rtF ts a trs it (g+1) id v = .ptr none) ∨
       ∃ t r, toks = t :: r ∧ (n = 0 ∨ t.body ≠ .null) ∧
         rtF ts a trs it (g+1) id v = wrapPtr n (rtFB ts a trs it g base (pickBare ts a base) inner)) := by
  rw [rtF_succ, hpeel]
  cases hm with
  | v_direct hp h =>
    cases hpeel.symm.trans hp
    cases hch
    obtain ⟨t, r, rfl⟩ := h.headSpec.head
    exact Or.inr ⟨v, k, hv, rtSpec_cbor.S_deref hpeel rfl hfv, h, Or.inr ⟨t, r, rfl, Or.inl rfl, by simp [wrapPtr]⟩⟩
  | v_nil hp hd =>
    cases hpeel.symm.trans hp
    exact Or.inl ⟨by simp, rfl, by simp [hd]⟩
  | @v_deref _ _ _ _ _ inner _ hp hd h =>
    cases hpeel.symm.trans hp
    rcases chain_hasTy ts _ id base k v hch hv with hdn | ⟨inner', k', hdn, hvi⟩
    · cases hd.symm.trans hdn
    · cases hd.symm.trans hdn
      refine Or.inr ⟨inner, k', hvi, rtSpec_cbor.S_deref hpeel hd hfv, h, ?_⟩
      rcases NullSpec.of_le ts a trs hnp h hf with ⟨htg, hnull⟩ | ⟨t, r, rfl, hnn, hnull⟩
      · exact Or.inl ⟨by simp, htg, by simp [hd, hnull]⟩
      · exact Or.inr ⟨t, r, rfl, Or.inr hnn, by simp [hd, hnull]⟩

theorem reads_ptr {id n base : Nat} (hpeel : peel ts 64 0 id = (n, base)) (hch : chain ts n id base) {t : Tok} {r tk2 : List Tok}
    {w : Val} {f : Nat} (hhd : Hd2T (t :: r) tk2) (hnn : n = 0 ∨ t.body ≠ .null)
    (hrd : Reads ts a trs it f (.bare base (upickBare ts a base) (zeroVal ts 64 base)) tk2 w) :
    Reads ts a trs it (f+1) (.v id (zeroVal ts 64 id)) tk2 (wrapPtr n w) := by
  obtain ⟨t', r', rfl⟩ := hhd.head2
  cases n with
  | zero =>
    cases hch
    exact .v_direct hpeel hrd
  | succ n =>
    exact .v_deref hpeel (hhd.nonnull (hnn.resolve_left (by simp))) (by rwa [innerCur_zeroVal ts (n + 1) id base hch])

theorem derefN_wrapPtr : ∀ (n : Nat) (x : Val), derefN n (wrapPtr n x) = some x
  | 0, _ => rfl
  | n+1, x => by simp only [wrapPtr, derefN]; exact derefN_wrapPtr n x

theorem derefN_succ_none (n : Nat) : derefN (n+1) (.ptr none) = none := rfl

theorem writes_ptr {id n base : Nat} (hpeel : peel ts 64 0 id = (n, base)) {f : Nat} {w : Val} {toks : List Tok}
    (h : MRun.Writes ts a trs f (.bare base (pickBare ts a base) w) toks) : MRun.Writes ts a trs (f+1) (.v id (wrapPtr n w)) toks := by
  cases n with
  | zero => exact .v_direct hpeel h
  | succ n => exact .v_deref hpeel (derefN_wrapPtr (n+1) w) h

end Refmt.Obj
