/-
  C12, claim (ii) — what tagged entries and untyped slots add, the re-marshal of the round-trip value (`IDM`): for a
  re-marshal stable type, `rtF v` marshals at its own type to a rendering of the head shape of `v`'s, which reads back
  as `rtF v`.  An induction over the marshaller's fuel.  The round trip (`rt_cbor`, FullCbor.lean) is used at an untyped slot only: what the slot holds
  afterwards is known from what it reads.  See RefmtProofs/Props/C12Tagged.lean.
-/
import RefmtProofs.Lemmas.LegItems
import RefmtProofs.Lemmas.FullCbor
import RefmtProofs.Lemmas.TagOmit
namespace Refmt.Obj
open Refmt Refmt.C13 Refmt.C11 Refmt.C12 Refmt.C12L
open Refmt.MachL

abbrev IDM (ts : Types) (a : Atlas) (trs : Trs) (it : IfaceTys) (f : Nat) : Prop :=
  Walk ts a trs it (StabTy ts a trs) (Idm ts a trs it) f

variable {ts : Types} {a : Atlas} {trs : Trs} {it : IfaceTys}

theorem idm_b_fix {f F id : Nat} {m : Mach} {um : UMach} {v : Val} {toks : List Tok}
    (hR : Reads ts a trs it F (.bare id um (zeroVal ts 64 id)) toks v) (hm : MRun.Writes ts a trs f (.bare id m v) toks) :
    Idm ts a trs it (.bare id m) (.bare id um (zeroVal ts 64 id)) toks v :=
  .intro (HeadSpec.hd2T hm.headSpec) hm hR

theorem idm_b_prim {f k id g : Nat} {v : Val} {toks : List Tok} (hv : hasTy ts k id v = true)
    (hm : MRun.Writes ts a trs (f+1) (.bare id .prim v) toks) :
    Idm ts a trs it (.bare id .prim) (.bare id .prim (zeroVal ts 64 id)) toks (rtFB ts a trs it (g+1) id .prim v) := by
  cases hm with
  | prim hp =>
  obtain ⟨tok, rfl, hs⟩ := prim_tok_rt ts k id v toks hv hp
  rw [rtFB_prim]
  exact idm_b_fix (F := 1) (.prim hs) (.prim (f := f) hp)

theorem idm_b_slice {f p k id e g : Nat} {v : Val} {toks : List Tok} (ih : IDM ts a trs it f) (hp64 : p + 1 ≤ 64)
    (hd : ts.get id = .slice e) (hpe : fullTy ts a p e = true) (hst : StabTy ts a trs p e)
    (hv : hasTy ts k id v = true) (hg : f ≤ g) (hs : fullValB ts a trs it (g+1) id (.slice e) v = true)
    (hm : MRun.Writes ts a trs (f+1) (.bare id (.slice e) v) toks) :
    Idm ts a trs it (.bare id (.slice e)) (.bare id (.slice e) (zeroVal ts 64 id)) toks (rtFB ts a trs it (g+1) id (.slice e) v) := by
  rcases slice_items (P := IdmJ ts a trs it (.v e) (.v e (zeroVal ts 64 e))) hd (ih.v (by omega) hpe hst hg) hv hs hm with
    ⟨rfl, rfl⟩ | ⟨es, items, rfl, hlen, rfl, hw, hall⟩
  · rw [rtFB_slice]
    exact idm_b_fix (F := 1) (.slice_null rfl) hm
  · obtain ⟨f1, h1⟩ := writes_list (·.r) (·.tk2) e items (fun i hi => (hall i hi).writes)
    obtain ⟨f2, h2⟩ := reads_elems (·.tk2) (·.r) e none items (fun i hi => (hall i hi).reads) (by simp)
    rw [hw]
    exact .intro (hd2T_arr _ _ _ _ _) (.slice h1) (.slice rfl h2)

theorem idm_b_arr {f p k id n e g : Nat} {v : Val} {toks : List Tok} (ih : IDM ts a trs it f) (hp64 : p + 1 ≤ 64)
    (hd : ts.get id = .arr n e) (hpe : fullTy ts a p e = true) (hst : StabTy ts a trs p e)
    (hv : hasTy ts k id v = true) (hg : f ≤ g) (hs : fullValB ts a trs it (g+1) id (.array e) v = true)
    (hm : MRun.Writes ts a trs (f+1) (.bare id (.array e) v) toks) :
    Idm ts a trs it (.bare id (.array e)) (.bare id (.array n e) (zeroVal ts 64 id)) toks
      (rtFB ts a trs it (g+1) id (.array e) v) := by
  obtain ⟨es, items, rfl, hn', hlen, rfl, hw, hall⟩ :=
    arr_items (P := IdmJ ts a trs it (.v e) (.v e (zeroVal ts 64 e))) hd (ih.v (by omega) hpe hst hg) hv hs hm
  obtain ⟨f1, h1⟩ := writes_list (·.r) (·.tk2) e items (fun i hi => (hall i hi).writes)
  obtain ⟨f2, h2⟩ := reads_arr (id := id) (items.map (·.r)).length items (zeroVal ts 64 id) hlen (fun i hi => (hall i hi).reads)
  rw [hw]
  exact .intro (hd2T_arr _ _ _ _ _) (.array h1) h2

theorem idm_b_map {f p k id kt vt g : Nat} {bk : Bool} {v : Val} {toks : List Tok} (ih : IDM ts a trs it f) (hp64 : p + 1 ≤ 64)
    (hd : ts.get id = .map kt vt) (hkt : ts.get kt = .prim .string bk) (hpe : fullTy ts a p vt = true)
    (hst : StabTy ts a trs p vt) (hv : hasTy ts k id v = true) (hg : f ≤ g)
    (hs : fullValB ts a trs it (g+1) id (.map kt vt a.defaultSort) v = true)
    (hm : MRun.Writes ts a trs (f+1) (.bare id (.map kt vt a.defaultSort) v) toks) :
    Idm ts a trs it (.bare id (.map kt vt a.defaultSort)) (.bare id (.map kt vt) (zeroVal ts 64 id)) toks
      (rtFB ts a trs it (g+1) id (.map kt vt a.defaultSort) v) := by
  rcases map_items (P := IdmJ ts a trs it (.v vt) (.v vt (zeroVal ts 64 vt))) hd hkt (ih.v (by omega) hpe hst hg) hv hs hm with
    ⟨rfl, rfl⟩ | ⟨es, kitems, rfl, hlen, hnd, hsorted, rfl, hw, hall⟩
  · rw [rtFB_map]
    exact idm_b_fix (F := 1) (.map_null (kf := none) (keyFnOfU_string hkt a) rfl) hm
  · -- the keys of the round-trip value are sorted already
    obtain ⟨f1, h1⟩ := writes_map (trs := trs) (id := id) hkt (·.1) (·.2.r) (·.2.tk2) kitems
      (fun q hq => (hall q hq).writes)
    obtain ⟨f2, h2⟩ := reads_map (id := id) hkt es.length kitems hnd (fun q hq => (hall q hq).reads)
    rw [hsorted, hlen] at h1
    rw [hw]
    exact .intro (hd2T_map _ _ _ _ _) h1 h2

theorem idm_b_struct {f p k id g : Nat} {fds : List FieldDesc} {reg : Bool} {ty : Nat} {tag : Option Int} {fields : List SMField}
    {v : Val} {toks : List Tok} (hz : ZeroStable ts) (ih : IDM ts a trs it f) (hp64 : p + 1 ≤ 64)
    (hd : ts.get id = .struct fds) (hnames : (fields.map (·.name)).Nodup) (hroutes : (fields.map (·.route)).Nodup)
    (hfok : ∀ fld ∈ fields, FOKF ts a p fds fld) (hstf : ∀ fld ∈ fields, OmitOk ts a fld ∧ StabTy ts a trs p fld.ty)
    (hv : hasTy ts k id v = true) (hg : f ≤ g)
    (hs : fullValB ts a trs it (g+1) id (.structMap ⟨reg, ty, tag, .structMap fields⟩ fields) v = true)
    (hm : MRun.Writes ts a trs (f+1) (.bare id (.structMap ⟨reg, ty, tag, .structMap fields⟩ fields) v) toks) :
    Idm ts a trs it (.bare id (.structMap ⟨reg, ty, tag, .structMap fields⟩ fields)) (.bare id (.structMap fields) (zeroVal ts 64 id))
      toks (rtFB ts a trs it (g+1) id (.structMap ⟨reg, ty, tag, .structMap fields⟩ fields) v) := by
  obtain ⟨k, vs, fitems, rfl, hvl, hv', hfl, rfl, hrnd, hfold, hall⟩ :=
    struct_items (P := fun ty => IdmJ ts a trs it (.v ty) (.v ty (zeroVal ts 64 ty))) hd hroutes hfok
      (fun fld hf => ih.v (by omega) (hfok fld hf).full (hstf fld hf).2 hg) hv hs hm
  -- of the fields emitted for `v`, those whose round-trip value is not left out now are emitted for the round-trip value
  obtain ⟨hget, hemit, hws⟩ := omit_items (trs := trs) (it := it) hp64 hroutes hfok (fun fld hf => (hstf fld hf).1) hvl hv' hfl hrnd
    (fun q hq => (hall q hq).2) _ rfl
  generalize fitems.foldl setStep (fds.map fun fd => zeroVal ts 63 fd.ty) = ws at hfold hget hemit hws
  have hsub : ∀ q ∈ fitems.filter (fun q => emitP (.struct ws) q.1), q ∈ fitems := fun q hq => (List.mem_filter.mp hq).1
  have hmemF : ∀ q ∈ fitems, q.1 ∈ fields := fun q hq => (mem_filter_of_map_eq hfl q hq).1
  obtain ⟨f1, h1⟩ := writes_fields (ts := ts) (a := a) (trs := trs) ws (fitems.filter fun q => emitP (.struct ws) q.1)
    (fun q hq => ⟨hget q (hsub q hq), (hall q (hsub q hq)).1.writes⟩)
  obtain ⟨f2, h2⟩ := reads_structMap (trs := trs) (it := it) hz hd hnames hfok tag (fitems.filter fun q => emitP (.struct ws) q.1)
    (fun q hq => ⟨hmemF q (hsub q hq), (hall q (hsub q hq)).1.reads⟩) ((List.filter_sublist.map _).nodup hrnd)
  rw [← hemit, ← emittable_eq] at h1
  have hw1 := MRun.Writes.struct (id := id) (e := ⟨reg, ty, tag, .structMap fields⟩) h1
  rw [emittable_eq, hemit, List.length_map] at hw1
  rw [← hws] at h2
  rw [hfold]
  exact .intro (hd2T_map _ _ _ _ _) hw1 h2

/-- the untyped slot `id` reads every rendering of the head shape of `toks` by boxing what type `dt` reads -/
def WBox (ts : Types) (a : Atlas) (trs : Trs) (it : IfaceTys) (id dt : Nat) (toks : List Tok) : Prop :=
  ∀ tk', Hd2T toks tk' → (∃ F' x, MRun.Writes ts a trs F' (.v dt x) tk') → ∀ (F : Nat) (R' : Val),
    Reads ts a trs it (F+1) (.v dt (zeroVal ts 64 dt)) tk' R' →
    Reads ts a trs it (F+2) (.bare id .wildcard (zeroVal ts 64 id)) tk' (.iface (some (dt, R')))

theorem wbox_tagged {id dt : Nat} {toks : List Tok} {e' : Entry} {tg : Int} (hmeth : UM.hasMethods ts id = false)
    (hnp : ∀ x, ts.get dt ≠ .ptr x) (hge : a.get dt = some e') (htg : a.getByTag tg = some e')
    (hpk : (∃ fs, pickBare ts a dt = .structMap e' fs) ∨ ∃ fn mty, pickBare ts a dt = .transform e' fn mty)
    (htag : e'.tag = some tg) : WBox ts a trs it id dt toks := by
  intro tk' hhd hmv F R' hrd
  obtain ⟨t', r', rfl⟩ := hhd.head2
  obtain ⟨F', x, hmx⟩ := hmv
  obtain ⟨F', rfl, hmb⟩ := hmx.v_nonptr hnp
  obtain rfl := ObjL.atlas_get_ty hge
  exact (reads_wildcard hmeth).2 (.wild_tag (hmb.tag_first hpk htag) htg ((reads_v_nonptr hnp).1 hrd))

theorem wbox_native {id dt : Nat} {b : Body} {r : List Tok} (he : UEnv ts a it) (hmeth : UM.hasMethods ts id = false)
    (hb : (dt = it.sliceI ∧ ∃ l, b = .arrOpen l) ∨ (dt = it.mapSI ∧ ∃ l, b = .mapOpen l)) :
    WBox ts a trs it id dt (⟨b, none⟩ :: r) := by
  intro tk' hhd _ F R' hrd
  obtain ⟨t', r', rfl⟩ := hhd.head2
  have ht' : t'.tag = none := hhd.untag rfl
  rcases hb with ⟨rfl, l, rfl⟩ | ⟨rfl, l, rfl⟩
  · obtain ⟨l', hl'⟩ := hhd.sameOpen.1 _ rfl
    rw [reads_v_nonptr (by simp [he.sliceI]), (pick_slice he.sliceI he.noSlice).2] at hrd
    exact (reads_wildcard hmeth).2 (.wild_arr ht' rfl hl' (reads_slice_cur hrd))
  · obtain ⟨l', hl'⟩ := hhd.sameOpen.2 _ rfl
    rw [reads_v_nonptr (by simp [he.mapSI]), (pick_map he.mapSI he.noMap).2] at hrd
    exact (reads_wildcard hmeth).2 (.wild_map ht' rfl hl' (reads_map_cur (by rw [zeroVal_map he.mapSI]; rfl) hrd))

theorem idm_wild_boxed {f g p k id dt F : Nat} {dv w : Val} {toks : List Tok} (he : UEnv ts a it) (hz : ZeroStable ts)
    (htr : TrsEqv trs) (hf : f ≤ 1000) (ih : IDM ts a trs it f) (hp64 : p ≤ 64) (hfull : fullTy ts a p dt = true)
    (hstab : StabTy ts a trs p dt) (hvd : hasTy ts k dt dv = true) (hg : f ≤ g) (hfv : fullVal ts a trs it g dt dv = true)
    (hm : MRun.Writes ts a trs f (.v dt dv) toks) (hbox : WBox ts a trs it id dt toks)
    (hR : Reads ts a trs it F (.bare id .wildcard (zeroVal ts 64 id)) toks w) :
    Idm ts a trs it (.bare id .wildcard) (.bare id .wildcard (zeroVal ts 64 id)) toks w := by
  -- what the slot's round-trip value `w` is: the slot reads the first rendering as the boxed round-trip value of `dt`
  have hbox1 := hbox toks (HeadSpec.hd2T hm.headSpec) ⟨_, _, hm⟩ f _ (rt_cbor he hz htr hf hp64 hfull hvd hg hfv hm)
  obtain rfl := hR.det hbox1
  obtain ⟨_, tk2, hhd, ⟨f1, h1⟩, ⟨f2, h2⟩⟩ := ih.v hp64 hfull hstab hg k dv toks hvd hfv hm
  exact .intro hhd (.wild h1) (hbox tk2 hhd ⟨f1, _, h1⟩ f2 _ h2.succ)

theorem idm_b_wild {f k id g F : Nat} {v : Val} {toks : List Tok} (hf : f + 1 ≤ 1000) (he : UEnv ts a it) (hz : ZeroStable ts)
    (htr : TrsEqv trs) (hts : TagStab ts a trs) (ih : IDM ts a trs it f) (hd : ts.get id = .iface false)
    (hv : hasTy ts k id v = true) (hg : f ≤ g) (hs : fullValB ts a trs it (g+1) id .wildcard v = true)
    (hm : MRun.Writes ts a trs (f+1) (.bare id .wildcard v) toks)
    (hR : Reads ts a trs it F (.bare id .wildcard (zeroVal ts 64 id)) toks (rtFB ts a trs it (g+1) id .wildcard v)) :
    Idm ts a trs it (.bare id .wildcard) (.bare id .wildcard (zeroVal ts 64 id)) toks (rtFB ts a trs it (g+1) id .wildcard v) := by
  have hmeth : UM.hasMethods ts id = false := by simp [UM.hasMethods, hd]
  cases k with
  | zero => simp [hasTy] at hv
  | succ k =>
  cases hm with
  | wildNil =>
    exact idm_b_fix (F := 2) ((reads_wildcard hmeth).2 (.wild_scalar (f := 0) rfl rfl rfl)) (.wildNil (f := f))
  | @wild _ _ dt dv _ hm =>
    have hvd : hasTy ts k dt dv = true := by simpa [hasTy, hd] using hv
    obtain ⟨hnp, hcase⟩ := rtSpec_cbor.S_wild g id dt dv hs
    obtain ⟨f, rfl, hmB⟩ := hm.v_nonptr hnp
    rcases hcase with hpkd | ⟨rfl, vs, rfl, hsv⟩ | ⟨rfl, es, rfl, hsk, hok, hsv⟩ | ⟨-, e', hpkd, htg, hfull, hsB⟩
    · -- a scalar
      rw [hpkd] at hmB
      cases hmB with
      | prim hmB =>
      obtain ⟨b, w, rfl, hsc⟩ := primTok_tok it hmB
      rw [hR.det ((reads_wildcard hmeth).2 (.wild_scalar (f := 0) rfl rfl hsc))]
      exact .intro (hd2T_slotSpelling hsc) (writes_slot_scalar he hsc)
        ((reads_wildcard hmeth).2 (.wild_scalar (f := 0) rfl rfl (slotScalar_slotSpelling hsc)))
    · -- native []interface{}
      have hpkd := C12.pick_sliceI (ts := ts) (a := a) he
      rw [hpkd] at hmB
      cases hmB with
      | slice _ =>
      exact idm_wild_boxed (g := g+2) he hz htr (by omega) ih (by omega) (fullTy_sliceI he 0) (stabTy_elem he.noSlice (.inl he.sliceI) ▸ stabTy_iface he 1) hvd (by omega)
        (by rw [fullVal_nonptr ts a trs it hnp, hpkd, fullValB_slice]; simpa using hsv) hm
        (wbox_native he hmeth (Or.inl ⟨rfl, _, rfl⟩)) hR
    · -- native map[string]interface{}
      have hpkd := C12.pick_mapSI (ts := ts) (a := a) he
      rw [hpkd] at hmB
      cases hmB with
      | map _ _ _ =>
      exact idm_wild_boxed (g := g+2) he hz htr (by omega) ih (by omega) (fullTy_mapSI he 0) (stabTy_elem he.noMap (.inr (.inr ⟨_, he.mapSI⟩)) ▸ stabTy_iface he 1) hvd (by omega)
        (by rw [fullVal_nonptr ts a trs it hnp, hpkd]; exact (rtSpec_cbor.S_map _ _ _ _ _ _).mpr ⟨hsk, hok, hsv⟩) hm
        (wbox_native he hmeth (Or.inr ⟨rfl, _, rfl⟩)) hR
    · -- a registered tagged type
      obtain ⟨tg, htag, htg⟩ := taggedB_iff.mp htg
      have hge := entry_of_pickBare hpkd
      exact idm_wild_boxed (g := g+1) he hz htr (by omega) ih (Nat.le_refl _) hfull (hts.get hge htag) hvd (by omega)
        (by rw [fullVal_nonptr ts a trs it hnp]; exact hsB) hm (wbox_tagged hmeth hnp hge htg hpkd htag) hR

theorem idm_b_union {f p k id g : Nat} {m reg : Bool} {ty : Nat} {tag : Option Int} {members : List (Bytes × Nat)} {v : Val}
    {toks : List Tok} (ih : IDM ts a trs it f) (hp64 : p + 1 ≤ 64) (hd : ts.get id = .iface m)
    (hnames : (members.map (·.1)).Nodup) (hmem : ∀ mem ∈ members, MOKF ts a p mem)
    (hstm : ∀ mem ∈ members, ∀ me, a.pool[mem.2]? = some me → StabTy ts a trs p me.ty)
    (hv : hasTy ts k id v = true) (hg : f ≤ g)
    (hs : fullValB ts a trs it (g+1) id (.union ⟨reg, ty, tag, .union members⟩ members) v = true)
    (hm : MRun.Writes ts a trs (f+1) (.bare id (.union ⟨reg, ty, tag, .union members⟩ members) v) toks) :
    Idm ts a trs it (.bare id (.union ⟨reg, ty, tag, .union members⟩ members)) (.bare id (.union members) (zeroVal ts 64 id))
      toks (rtFB ts a trs it (g+1) id (.union ⟨reg, ty, tag, .union members⟩ members) v) := by
  obtain ⟨k', p', idx, nm, me, dv, ti, rfl, hM, rfl, hvd, hsd, hinner, rfl, hw⟩ := union_member hd hnames hmem hv hs hm
  obtain ⟨_, ti2, -, ⟨f1, h1⟩, ⟨f2, h2⟩⟩ :=
    ih.b (by omega) hM.full (hstm _ hM.mem me hM.pool) hM.nonptr hg k' dv ti hvd hsd hinner
  rw [hw]
  exact .intro (hd2T_map _ _ _ _ _) (hM.writes h1) (hM.reads h2)

theorem idm_b_transform {f p id g : Nat} {e : Entry} {fn mty : Nat} {v : Val} {toks : List Tok} (htr : TrsEqv trs)
    (he : UEnv ts a it) (ih : IDM ts a trs it f) (hp64 : p + 1 ≤ 64)
    (hmp : ∀ e, ts.get mty ≠ .ptr e) (htb : e.tag = none ∨ tagBlind ts a mty = true) (hfm : fullTy ts a p mty = true)
    (hret : RetractFn trs fn) (hstm : StabTy ts a trs p mty) (hg : f ≤ g)
    (hs : fullValB ts a trs it (g+1) id (.transform e fn mty) v = true)
    (hm : MRun.Writes ts a trs (f+1) (.bare id (.transform e fn mty) v) toks) :
    Idm ts a trs it (.bare id (.transform e fn mty)) (.bare id (.transform fn mty) (zeroVal ts 64 id)) toks
      (rtFB ts a trs it (g+1) id (.transform e fn mty) v) := by
  obtain ⟨tv, toks0, a', htm, hvt, hfv, ho, rfl, ha', hw⟩ := transform_inv htr he (by omega) hfm hs hm
  rw [hw]
  obtain ⟨_, tk2, hhd, ⟨f1, h1⟩, ⟨f2, h2⟩⟩ := ih.v (by omega) hfm hstm hg 1000 tv toks0 hvt hfv ho
  -- the re-marshal transforms back (`hret`), writes `tk2`, and tags it as the first rendering was tagged
  obtain ⟨t', r', rfl⟩ := hhd.head2
  have h2 := (reads_v_nonptr hmp).1 h2.succ
  have hrd : ∃ F, Reads ts a trs it F (.bare id (.transform fn mty) (zeroVal ts 64 id)) (MRun.retag e.tag (t' :: r')) a' := by
    cases htag : e.tag with
    | none => exact ⟨_, .transform h2 ha'⟩
    | some gg =>
      obtain ⟨p', rfl⟩ := fullTy_pos hfm
      obtain ⟨hw1, hw2⟩ := view_tagBlind (fullTy_view hfm hmp) (htb.resolve_left (by simp [htag]))
      -- the machine of `mty` does not look at the tag
      exact ⟨_, .transform (Reads.bare_body hw1 hw2 (t := t') (t' := ⟨t'.body, some gg⟩) rfl h2) ha'⟩
  obtain ⟨F, hrd⟩ := hrd
  exact .intro (hhd.retag e.tag) (.transform (hret _ _ ha') h1) hrd

theorem idm_b {f} (hf : f + 1 ≤ 1000) (he : UEnv ts a it) (hz : ZeroStable ts) (htr : TrsEqv trs) (hts : TagStab ts a trs)
    (ih : IDM ts a trs it f) {p id g : Nat} (hp64 : p + 1 ≤ 64) (hp : fullTy ts a (p + 1) id = true)
    (hst : StabTy ts a trs (p + 1) id) (hnp : ∀ e, ts.get id ≠ .ptr e) (hg : f + 1 ≤ g) (k : Nat) (v : Val) (toks : List Tok)
    (hv : hasTy ts k id v = true) (hs : fullValB ts a trs it g id (pickBare ts a id) v = true)
    (hm : MRun.Writes ts a trs (f+1) (.bare id (pickBare ts a id) v) toks) :
    Idm ts a trs it (.bare id (pickBare ts a id)) (.bare id (upickBare ts a id) (zeroVal ts 64 id)) toks
      (rtFB ts a trs it g id (pickBare ts a id) v) := by
  obtain ⟨g, rfl⟩ : ∃ g', g = g' + 1 := ⟨g - 1, by omega⟩
  have hg : f ≤ g := by omega
  have pick {m : Mach} {um : UMach} hpk h := bare_of_pick (C := Idm ts a trs it) (m := m) (um := um) hpk h hs hm
  cases fullTy_view hp hnp with
  | prim kd b hd hn => exact pick (pick_prim hd hn) (fun _ => idm_b_prim hv)
  | bytes b hd hn => exact pick (pick_bytes hd hn) (fun _ => idm_b_prim hv)
  | byteArr n hd hn => exact pick (pick_byteArr hd hn) (fun _ => idm_b_prim hv)
  | slice e hd hn hpe =>
    exact pick (pick_slice hd hn) (idm_b_slice ih hp64 hd hpe (stabTy_elem hn (.inl hd) ▸ hst) hv hg)
  | arr n e hd hn hpe =>
    exact pick (pick_arr hd hn) (idm_b_arr ih hp64 hd hpe (stabTy_elem hn (.inr (.inl ⟨_, hd⟩)) ▸ hst) hv hg)
  | map kt vt bk hd hn hkt hpe =>
    exact pick (pick_map hd hn) (idm_b_map ih hp64 hd hkt hpe (stabTy_elem hn (.inr (.inr ⟨_, hd⟩)) ▸ hst) hv hg)
  | wild hd hn =>
    -- what the slot holds afterwards is known from what it reads: the round trip
    have hR := rt_cbor_bare he hz htr hf hp64 hp hnp hv (by omega) hs hm
    obtain ⟨hpk, hupk⟩ := pick_wild hd hn
    rw [hpk] at hs hm hR ⊢
    rw [hupk] at hR ⊢
    exact idm_b_wild hf he hz htr hts ih hd hv hg hs hm hR
  | struct fds reg ty tag fields hd hent hnames hroutes hfok =>
    exact pick (pick_struct hd hent) (idm_b_struct hz ih hp64 hd hnames hroutes hfok (stabTy_struct hnp hent hst) hv hg)
  | transform reg ty tag fn mty hb hent hmp htb hfm =>
    obtain ⟨hret, hstm⟩ := stabTy_transform hnp hent hst
    exact pick (pick_transform hb hent) (idm_b_transform htr he ih hp64 hmp htb hfm hret hstm hg)
  | union m reg ty tag members hd hent hnames hmem =>
    exact pick (pick_union hd hent) (idm_b_union ih hp64 hd hnames hmem (stabTy_union hnp hent hst) hv hg)

theorem idm_v {f} (hf : f + 1 ≤ 1000) (ih : IDM ts a trs it f) {p id g : Nat} (hp64 : p ≤ 64) (hp : fullTy ts a p id = true)
    (hst : StabTy ts a trs p id) (hg : f + 1 ≤ g) (k : Nat) (v : Val) (toks : List Tok) (hv : hasTy ts k id v = true)
    (hfv : fullVal ts a trs it g id v = true) (hm : MRun.Writes ts a trs (f+1) (.v id v) toks) :
    Idm ts a trs it (.v id) (.v id (zeroVal ts 64 id)) toks (rtF ts a trs it g id v) := by
  obtain ⟨g, rfl⟩ : ∃ g', g = g' + 1 := ⟨g - 1, by omega⟩
  obtain ⟨n, base, p', hpeel, hpb, hstb, hnp, hch, hp'p⟩ := stab_peel (trs := trs) p 64 0 id hp hst hp64
  simp only [Nat.zero_add] at hpeel
  have hnil : n ≠ 0 → ∀ tg : Option Int, Idm ts a trs it (.v id) (.v id (zeroVal ts 64 id)) [⟨.null, tg⟩] (.ptr none) := by
    intro hn tg
    obtain ⟨n', rfl⟩ := Nat.exists_eq_succ_of_ne_zero hn
    exact .intro (hd2T_null fun _ => rfl) (.v_nil (f := 0) hpeel (derefN_succ_none n')) (.v_nil (f := 0) hpeel rfl)
  rcases ptr_cases (by omega) hnp hpeel hch hv hfv hm with ⟨hn, rfl, hw⟩ | ⟨inner, k', hvi, hfvi, hmi, hcase⟩
  · rw [hw]
    exact hnil hn none
  · rcases hcase with ⟨hn, ⟨tg, rfl⟩, hw⟩ | ⟨t, r, rfl, hnn, hw⟩
    · rw [hw]
      exact hnil hn tg
    · rw [hw]
      obtain ⟨_, tk2, hhd, ⟨f1, h1⟩, ⟨f2, h2⟩⟩ := ih.b (by omega) hpb hstb hnp (by omega) k' inner _ hvi hfvi hmi
      exact .intro hhd (writes_ptr hpeel h1) (reads_ptr hpeel hch hhd hnn h2)

theorem idm_all (he : UEnv ts a it) (hz : ZeroStable ts) (htr : TrsEqv trs) (hts : TagStab ts a trs) :
    ∀ f, f ≤ 1000 → IDM ts a trs it f :=
  Walk.all fun _ hf ih => ⟨idm_v hf ih, idm_b hf he hz htr hts ih⟩

end Refmt.Obj
