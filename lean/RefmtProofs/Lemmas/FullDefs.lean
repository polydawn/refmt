-- the class of types `fullTy`, the side conditions `fullVal`, the round-trip value `rtF` and the relation `ValEqv''` of
-- the full-domain completeness theorem (RefmtProofs/Props/C13Full.lean)
import RefmtProofs.Props.C13
import RefmtProofs.Lemmas.ObjStructRT
namespace Refmt.Obj
open Refmt Refmt.C13 Refmt.C11

def isStrVal : Val → Bool
  | .str _ => true
  | _ => false

def notPtrB : TyDesc → Bool
  | .ptr _ => false
  | _ => true

theorem notPtrB_iff (d : TyDesc) : notPtrB d = true ↔ ∀ e, d ≠ .ptr e := by
  cases d <;> simp [notPtrB]

def isBuiltin : TyDesc → Bool
  | .prim _ true => true
  | .bytes true => true
  | _ => false

/-- the unmarshalling machine of the type does not look at the tag of the first token (every machine but the
    untyped slot; a transform delegates, so it is excluded here to keep the criterion one level deep) -/
def tagBlind (ts : Types) (a : Atlas) (id : Nat) : Bool :=
  match a.get id with
  | some e => (match e.k with | .transform _ _ _ => false | _ => true)
  | none => (match ts.get id with | .iface _ => false | _ => true)

/-- The types of the full completeness theorem: those of `C11.structTy` (struct-map entries may carry a tag), keyed
    unions over registered struct-map entries, transforms whose wire type is the same in both directions and not a
    pointer (if the entry is tagged, that type's machine must not look at the tag of the first token: `tagBlind`), and
    `interface{}` types without atlas entry (what such a slot may hold is a condition on values: `fullVal`). -/
def fullTy (ts : Types) (a : Atlas) : Nat → Nat → Bool
  | 0, _ => false
  | fuel+1, id =>
    match ts.get id with
    | .ptr e => fullTy ts a fuel e
    | d =>
      match a.get id with
      | none =>
        (match d with
         | .prim _ _ => true
         | .bytes _ => true
         | .byteArr _ => true
         | .slice e => fullTy ts a fuel e
         | .arr _ e => fullTy ts a fuel e
         | .map k e => (match ts.get k with | .prim .string _ => true | _ => false) && fullTy ts a fuel e
         | .iface m => !m
         | _ => false)
      | some ⟨_, _, tag, k⟩ =>
        (match k with
         | .structMap fields =>
           (match d with
            | .struct fds =>
              decide ((fields.map (·.name)).Nodup) && decide ((fields.map (·.route)).Nodup) &&
              fields.all fun f => fieldOkB fds f && fullTy ts a fuel f.ty
            | _ => false)
         | .transform _ mty uty =>
           !isBuiltin d && mty == uty && notPtrB (ts.get mty) && (tag.isNone || tagBlind ts a mty) && fullTy ts a fuel mty
         | .union members =>
           (match d with
            | .iface _ =>
              decide ((members.map (·.1)).Nodup) &&
              members.all fun m =>
                (match a.pool[m.2]? with
                 | some me =>
                   (a.get me.ty == some me) && (match me.k with | .structMap _ => true | _ => false) &&
                   (match ts.get me.ty with | .struct _ => true | _ => false) && fullTy ts a fuel me.ty
                 | none => false)
            | _ => false)
         | _ => false)

/-- the entry's tag leads back to the entry (`GetEntryByTag`) -/
def taggedB (a : Atlas) (e : Entry) : Bool :=
  match e.tag with
  | some tg => a.getByTag tg == some e
  | none => false

theorem taggedB_iff {a : Atlas} {e : Entry} : taggedB a e = true ↔ ∃ tg, e.tag = some tg ∧ a.getByTag tg = some e := by
  unfold taggedB
  cases e.tag with
  | none => simp
  | some tg => simp

def strKeysB (es : List (Val × Val)) : Bool :=
  es.all (fun p => isStrVal p.1) && decide ((es.map fun p => keyStr p.1).Nodup)

theorem strKeysB_inv {es : List (Val × Val)} (h : strKeysB es = true) :
    (∀ q ∈ es, ∃ s, q.1 = Val.str s) ∧ (es.map fun p => keyStr p.1).Nodup := by
  simp only [strKeysB, Bool.and_eq_true, List.all_eq_true, decide_eq_true_eq] at h
  refine ⟨fun q hq => ?_, h.2⟩
  have := h.1 q hq
  obtain ⟨k, x⟩ := q
  cases k <;> simp [isStrVal] at this
  exact ⟨_, rfl⟩

-- `fullValB` takes the type id for the sake of the shared recursion with `normBare`, and does not look at it
set_option linter.unusedVariables false in
mutual
  /-- Value side conditions, by the recursion of `normV` (so `fullVal … g id v` talks about `normV … g id v`): map keys
      are distinct strings; the unmarshal transform succeeds on the specified (`normV`) intermediate value; an untyped
      slot holds nil, a non-pointer scalar, a native `[]interface{}` / `map[string]interface{}` of such, or a value
      of a registered TAGGED struct-map / transform type of the class `fullTy`.  The depth `1000` at which a transform's
      intermediate value is typed is that of the theorems' `hv : hasTy ts 1000 id v`; the induction (`RTG`) quantifies
      over the typing depth and does not use the number. -/
  def fullVal (ts : Types) (a : Atlas) (trs : Trs) (it : IfaceTys) : Nat → Nat → Val → Bool
    | 0, _, _ => true
    | g+1, id, v =>
      let (n, base) := peel ts 64 0 id
      if n == 0 then fullValB ts a trs it g base (pickBare ts a base) v
      else
        match derefN n v with
        | none => true
        | some inner => fullValB ts a trs it g base (pickBare ts a base) inner
  def fullValB (ts : Types) (a : Atlas) (trs : Trs) (it : IfaceTys) : Nat → Nat → Mach → Val → Bool
    | 0, _, _, _ => true
    | g+1, id, m, v =>
      match m with
      | .slice e => (match v with | .slice (some vs) => vs.all (fullVal ts a trs it g e) | _ => true)
      | .array e => (match v with | .arr vs => vs.all (fullVal ts a trs it g e) | _ => true)
      | .map _ vt _ =>
        (match v with
         | .map (some es) => strKeysB es && es.all (fun p => fullVal ts a trs it g vt p.2)
         | _ => true)
      | .structMap _ fields =>
        fields.all fun f =>
          !emitP v f || (match traverse f.route v with | some fv => fullVal ts a trs it g f.ty fv | none => true)
      | .transform _ fn mty =>
        (match trs.m fn v with
         | some tv =>
           hasTy ts 1000 mty tv && fullVal ts a trs it g mty tv &&
           (trs.u fn (normV .pretty ts a trs it g mty tv)).isSome
         | none => true)
      | .union _ members =>
        (match v with
         | .iface (some (dt, dv)) =>
           (match members.find? fun (_, idx) => (a.pool[idx]?.map (·.ty)) == some dt with
            | some (_, idx) =>
              (match a.pool[idx]? with
               | some me => fullValB ts a trs it g dt (machForEntry ts me) dv
               | none => true)
            | none => true)
         | _ => true)
      | .wildcard =>
        (match v with
         | .iface (some (dt, dv)) =>
           notPtrB (ts.get dt) &&
           (match pickBare ts a dt with
            | .prim => true
            | .slice _ =>
              dt == it.sliceI &&
              (match dv with | .slice (some vs) => vs.all (fullVal ts a trs it g it.iface) | _ => false)
            | .map _ _ _ =>
              dt == it.mapSI &&
              (match dv with
               | .map (some es) => strKeysB es && es.all (fun p => fullVal ts a trs it g it.iface p.2)
               | _ => false)
            | .structMap e _ =>
              taggedB a e && fullTy ts a 64 dt && fullValB ts a trs it g dt (pickBare ts a dt) dv
            | .transform e _ _ =>
              taggedB a e && fullTy ts a 64 dt && fullValB ts a trs it g dt (pickBare ts a dt) dv
            | _ => false)
         | _ => true)
      | _ => true
end

mutual
  /-- the value the token-level round trip returns: `normV .pretty` with the entries of every map in marshalling
      (key) order -/
  def rtF (ts : Types) (a : Atlas) (trs : Trs) (it : IfaceTys) : Nat → Nat → Val → Val
    | 0, _, v => v
    | fuel+1, id, v =>
      let (n, base) := peel ts 64 0 id
      if n == 0 then rtFB ts a trs it fuel base (pickBare ts a base) v
      else
        match derefN n v with
        | none => .ptr none
        | some inner =>
          if isNullSer ts a trs base inner then .ptr none
          else wrapPtr n (rtFB ts a trs it fuel base (pickBare ts a base) inner)
  def rtFB (ts : Types) (a : Atlas) (trs : Trs) (it : IfaceTys) : Nat → Nat → Mach → Val → Val
    | 0, _, _, v => v
    | fuel+1, id, m, v =>
      match m with
      | .slice e => (match v with | .slice (some vs) => .slice (some (vs.map (rtF ts a trs it fuel e))) | x => x)
      | .array e => (match v with | .arr vs => .arr (vs.map (rtF ts a trs it fuel e)) | x => x)
      | .map _ vt mode =>
        (match v with
         | .map (some es) =>
           .map (some ((sortKeys mode (es.map fun (k, x) => (keyStr k, x))).map fun (s, x) => (Val.str s, rtF ts a trs it fuel vt x)))
         | x => x)
      | .structMap _ fields => structFold ts id fields v (fun t x => rtF ts a trs it fuel t x)
      | .transform _ fn mty =>
        (match trs.m fn v with
         | some tv => (trs.u fn (rtF ts a trs it fuel mty tv)).getD v
         | none => v)
      | .union _ members =>
        (match v with
         | .iface (some (dt, dv)) =>
           (match members.find? fun (_, idx) => (a.pool[idx]?.map (·.ty)) == some dt with
            | some (_, idx) =>
              (match a.pool[idx]? with
               | some me => .iface (some (dt, rtFB ts a trs it fuel dt (machForEntry ts me) dv))
               | none => v)
            | none => v)
         | x => x)
      | .wildcard =>
        (match v with
         | .iface (some (dt, dv)) =>
           if isBareNullSer .pretty ts a trs dt dv then .iface none else
           (match pickBare ts a (peel ts 64 0 dt).2, derefN (peel ts 64 0 dt).1 dv with
            | .prim, some pv =>
              (match pv with
               | .bool b => .iface (some (it.bool, .bool b))
               | .int i => .iface (some (it.int, .int i))
               | .uint u => if u < two63 then .iface (some (it.int, .int u)) else .iface (some (it.uint64, .uint u))
               | .float b => .iface (some (normFloatIface .pretty it b))
               | .str s => .iface (some (it.str, .str s))
               | .bytes (some b) => .iface (some (it.bytes, .bytes (some b)))
               | .byteArr b => .iface (some (it.bytes, .bytes (some b)))
               | x => .iface (some (dt, x)))
            | .slice e, some (.slice (some vs)) =>
              .iface (some (it.sliceI, .slice (some (vs.map fun x => rtF ts a trs it fuel it.iface (boxAs ts e x)))))
            | .array e, some (.arr vs) =>
              .iface (some (it.sliceI, .slice (some (vs.map fun x => rtF ts a trs it fuel it.iface (boxAs ts e x)))))
            | .map _ vt mode, some (.map (some es)) =>
              .iface (some (it.mapSI, .map (some ((sortKeys mode (es.map fun (k, x) => (keyStr k, x))).map fun (s, x) =>
                (Val.str s, rtF ts a trs it fuel it.iface (boxAs ts vt x))))))
            | _, some pv =>
              .iface (some ((peel ts 64 0 dt).2, rtFB ts a trs it fuel (peel ts 64 0 dt).2 (pickBare ts a (peel ts 64 0 dt).2) pv))
            | _, none => .iface none)
         | x => x)
      | m => normBare .pretty ts a trs it (fuel+1) id m v
end

/-- `ValEqv'` plus congruence under the dynamic type of an interface value -/
inductive ValEqv'' : Val → Val → Prop
  | refl (v : Val) : ValEqv'' v v
  | slice {xs ys : List Val} : xs.length = ys.length → (∀ p ∈ xs.zip ys, ValEqv'' p.1 p.2) →
      ValEqv'' (.slice (some xs)) (.slice (some ys))
  | arr {xs ys : List Val} : xs.length = ys.length → (∀ p ∈ xs.zip ys, ValEqv'' p.1 p.2) →
      ValEqv'' (.arr xs) (.arr ys)
  | ptr {x y : Val} : ValEqv'' x y → ValEqv'' (.ptr (some x)) (.ptr (some y))
  | map {es zs es' : List (Val × Val)} : es.Perm zs → zs.length = es'.length →
      (∀ p ∈ zs.zip es', p.1.1 = p.2.1) → (∀ p ∈ zs.zip es', ValEqv'' p.1.2 p.2.2) →
      ValEqv'' (.map (some es)) (.map (some es'))
  | struct {xs ys : List Val} : xs.length = ys.length →
      (∀ (j : Nat) (x y : Val), xs[j]? = some x → ys[j]? = some y → ValEqv'' x y) → ValEqv'' (.struct xs) (.struct ys)
  | iface {dt : Nat} {x y : Val} : ValEqv'' x y → ValEqv'' (.iface (some (dt, x))) (.iface (some (dt, y)))

theorem ValEqv'.toEqv'' {x y : Val} (h : ValEqv' x y) : ValEqv'' x y := by
  induction h with
  | refl v => exact ValEqv''.refl v
  | slice hl _ ih => exact ValEqv''.slice hl ih
  | arr hl _ ih => exact ValEqv''.arr hl ih
  | ptr _ ih => exact ValEqv''.ptr ih
  | map hp hl hk _ ih => exact ValEqv''.map hp hl hk ih
  | struct hl _ ih => exact ValEqv''.struct hl ih

theorem ValEqv''.wrap {x y : Val} (h : ValEqv'' x y) : ∀ n, ValEqv'' (wrapPtr n x) (wrapPtr n y)
  | 0 => h
  | n+1 => ValEqv''.ptr (ValEqv''.wrap h n)

/-- the user's unmarshal transforms do not observe the order of map entries -/
def TrsEqv (trs : Trs) : Prop :=
  ∀ (fn : Nat) (x y b : Val), ValEqv'' x y → trs.u fn y = some b → ∃ a', trs.u fn x = some a' ∧ ValEqv'' a' b

end Refmt.Obj
