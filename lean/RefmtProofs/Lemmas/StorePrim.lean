/-
  `storePrim`, the primitive unmarshal machine (one token into a scalar target), through the facts the proofs use
  instead of its fifteen clauses.  It lists the float kinds before its clauses for an arbitrary kind, so its value at a
  variable kind is only known once the kind is: the hypotheses on `intRange` / `uintMax` leave the kinds for which each
  equation holds by unfolding.
-/
import RefmtModel
namespace Refmt.Obj
open Refmt

theorem storePrim_body (d : TyDesc) {t t' : Tok} (hb : t.body = t'.body) : storePrim d t = storePrim d t' := by
  obtain ⟨b, tg⟩ := t
  obtain ⟨b', tg'⟩ := t'
  cases hb
  rfl

theorem storePrim_scalar {d : TyDesc} {t : Tok} {v : Val} (h : storePrim d t = some v) : t.body.isScalar = true := by
  obtain ⟨b, tag⟩ := t
  cases b <;> first | rfl | (cases d <;> simp [storePrim] at h)

theorem storePrim_not_close {d : TyDesc} {t : Tok} {v : Val} (h : storePrim d t = some v) :
    t.body ≠ .arrClose ∧ t.body ≠ .mapClose := by
  have hs := storePrim_scalar h
  constructor <;> intro hb <;> rw [hb] at hs <;> cases hs

theorem storePrim_int_int {k : Kind} {lo hi : Int} (hr : intRange k = some (lo, hi)) (b : Bool) (i : Int) (tag : Option Int) :
    storePrim (.prim k b) ⟨.int i, tag⟩ = if lo ≤ i && i ≤ hi then some (.int i) else none := by
  cases k <;> cases hr <;> rfl

theorem storePrim_uint_int {k : Kind} {lo hi : Int} (hr : intRange k = some (lo, hi)) (b : Bool) (n : Nat) (tag : Option Int) :
    storePrim (.prim k b) ⟨.uint n, tag⟩ = if (n : Int) ≤ hi then some (.int n) else none := by
  cases k <;> cases hr <;> rfl

theorem storePrim_int_uint {k : Kind} {mx : Nat} (hr : intRange k = none) (hu : uintMax k = some mx) (b : Bool) (i : Int)
    (tag : Option Int) :
    storePrim (.prim k b) ⟨.int i, tag⟩ = if 0 ≤ i && i.toNat ≤ mx then some (.uint i.toNat) else none := by
  cases k <;> cases hr <;> cases hu <;> rfl

theorem storePrim_uint_uint {k : Kind} {mx : Nat} (hr : intRange k = none) (hu : uintMax k = some mx) (b : Bool) (n : Nat)
    (tag : Option Int) : storePrim (.prim k b) ⟨.uint n, tag⟩ = if n ≤ mx then some (.uint n) else none := by
  cases k <;> cases hr <;> cases hu <;> rfl

theorem storePrim_uint_eq_int (d : TyDesc) (n : Nat) (tag : Option Int) :
    storePrim d ⟨.uint n, tag⟩ = storePrim d ⟨.int n, tag⟩ := by
  cases d with
  | prim k b =>
    have e1 : -128 ≤ (n : Int) := by omega
    have e2 : -32768 ≤ (n : Int) := by omega
    have e3 : -2147483648 ≤ (n : Int) := by omega
    have e4 : -(two63 : Int) ≤ n := by unfold two63; omega
    cases k <;> simp [storePrim, intRange, uintMax, e1, e2, e3, e4]
  | _ => simp [storePrim]

end Refmt.Obj
