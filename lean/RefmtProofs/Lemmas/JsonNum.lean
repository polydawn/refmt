/-
  The number scanner as a pure run over a text (`numRun`, `numAccepts`, `numberOk`), and the reference lexer in terms
  of it: `lexNumber` returns the text the run accepts and what follows it (`lexNumber_run`), and nothing else
  (`lexNumber_inv`).  That the run accepts exactly the RFC 8259 numbers is `C05.numberOk_isNumber`.
-/
import RefmtProofs.Lemmas.Digits
namespace Refmt.C03L
open Refmt Refmt.JsonEnc Refmt.JsonDec Refmt.Spec.Json

def numRun : NS → Bytes → Option NS
  | st, [] => some st
  | st, b :: r =>
    match numStep st b with
    | .ok (some st') => numRun st' r
    | _ => none

def numStart (b0 : Nat) : NS := if b0 == 45 then .neg else if b0 == 48 then .s0 else .s1

def numAccept : NS → Bool
  | .s0 | .s1 | .dot0 | .e0 => true
  | _ => false

def numberOk : Bytes → Bool
  | [] => false
  | b0 :: r =>
    (b0 == 45 || isDigit b0) &&
      (match numRun (numStart b0) r with | some st => numAccept st | none => false)

def numAccepts (st : NS) (cs : Bytes) : Bool :=
  match numRun st cs with | some s => numAccept s | none => false

theorem numAccepts_nil (st : NS) : numAccepts st [] = numAccept st := rfl

theorem numAccepts_cons (st : NS) (c : Nat) (cs : Bytes) :
    numAccepts st (c :: cs) = match numStep st c with | .ok (some st') => numAccepts st' cs | _ => false := by
  simp only [numAccepts, numRun]
  cases numStep st c with
  | error e => rfl
  | ok o => cases o <;> rfl

theorem numberOk_cons (b0 : Nat) (r : Bytes) :
    numberOk (b0 :: r) = ((b0 == 45 || isDigit b0) && numAccepts (numStart b0) r) := rfl

def numEnd (b : Nat) : Bool := !(isDigit b || b == 46 || b == 101 || b == 69)

def Stop : Bytes → Bool
  | [] => true
  | b :: _ => numEnd b

def notE (c : Nat) : Bool := c != 101 && c != 69
def notDot (c : Nat) : Bool := c != 46

def numChar (b : Nat) : Bool := isDigit b || b == 45 || b == 43 || b == 46 || b == 101 || b == 69

theorem isDigit_numChar {x : Nat} (h : isDigit x = true) : numChar x = true := by simp [numChar, h]

theorem numStep_end (st : NS) (b : Nat) (ha : numAccept st = true) (hb : numEnd b = true) :
    numStep st b = .ok none := by
  simp only [numEnd, Bool.not_eq_true', Bool.or_eq_false_iff, beq_eq_false_iff_ne, ne_eq] at hb
  obtain ⟨⟨⟨h1, h2⟩, h3⟩, h4⟩ := hb
  cases st <;> simp [numAccept] at ha <;> simp [numStep, h1, h2, h3, h4]

theorem numStep_char (st st' : NS) (b : Nat) (h : numStep st b = .ok (some st')) : numChar b = true := by
  cases hc : numChar b with
  | true => rfl
  | false =>
    simp only [numChar, Bool.or_eq_false_iff, beq_eq_false_iff_ne, ne_eq] at hc
    obtain ⟨⟨⟨⟨⟨h1, h2⟩, h3⟩, h4⟩, h5⟩, h6⟩ := hc
    have h48 : b ≠ 48 ∧ ¬ (49 ≤ b ∧ b ≤ 57) := by
      simp only [isDigit, Bool.and_eq_false_iff, decide_eq_false_iff_not] at h1; omega
    cases st <;> simp [numStep, h1, h2, h3, h4, h5, h6, h48] at h

theorem numRun_chars : ∀ (r : Bytes) (st st' : NS), numRun st r = some st' → ∀ x ∈ r, numChar x = true
  | [], _, _, _ => by simp
  | b :: r, st, st', h => by
    simp only [numRun] at h
    split at h
    · rename_i st1 hs
      intro x hx
      simp only [List.mem_cons] at hx
      rcases hx with rfl | hx
      · exact numStep_char _ _ _ hs
      · exact numRun_chars r st1 st' h x hx
    · simp at h

theorem numberOk_head (T : Bytes) (h : numberOk T = true) :
    ∃ b0 r st, T = b0 :: r ∧ (b0 = 45 ∨ isDigit b0 = true) ∧ numRun (numStart b0) r = some st ∧ numAccept st = true := by
  cases T with
  | nil => simp [numberOk] at h
  | cons b0 r =>
    simp only [numberOk, Bool.and_eq_true, Bool.or_eq_true, beq_iff_eq] at h
    obtain ⟨h1, h2⟩ := h
    split at h2
    · rename_i st hs; exact ⟨b0, r, st, rfl, h1, hs, h2⟩
    · simp at h2

theorem numberOk_chars (t : Bytes) (h : numberOk t = true) : ∀ x ∈ t, numChar x = true := by
  obtain ⟨b0, r, st, rfl, hb0, hrun, -⟩ := numberOk_head t h
  intro x hx
  rcases List.mem_cons.mp hx with rfl | hx
  · rcases hb0 with rfl | hd
    · decide
    · simp [numChar, hd]
  · exact numRun_chars r _ st hrun x hx

theorem lexNumber_run : ∀ (r : Bytes) (st st' : NS) (acc : Bytes) (fuel : Nat) (rest : Bytes),
    numRun st r = some st' → numAccept st' = true → Stop rest = true → r.length < fuel →
    lexNumber fuel st (r ++ rest) acc = some (acc.reverse ++ r, rest)
  | [], st, st', acc, fuel, rest, h, ha, hs, hf => by
    obtain ⟨k, rfl⟩ : ∃ k, fuel = k + 1 := ⟨fuel - 1, by simp at hf; omega⟩
    simp only [numRun, Option.some.injEq] at h
    subst h
    cases rest with
    | nil => simp [lexNumber, numStep_end st 32 ha (by decide)]
    | cons b r' => simp [lexNumber, numStep_end st b ha (by simpa [Stop] using hs)]
  | b :: r, st, st', acc, fuel, rest, h, ha, hs, hf => by
    obtain ⟨k, rfl⟩ : ∃ k, fuel = k + 1 := ⟨fuel - 1, by simp at hf; omega⟩
    simp only [numRun] at h
    split at h
    · rename_i st1 hs1
      simp only [List.cons_append, lexNumber, hs1]
      rw [lexNumber_run r st1 st' (b :: acc) k rest h ha hs (by simp at hf; omega)]
      simp
    · simp at h

theorem numStep_none {st : NS} {b : Nat} (h : numStep st b = .ok none) : numAccept st = true := by
  cases st
  case s0 | s1 | dot0 | e0 => rfl
  all_goals
    simp only [numStep] at h
    repeat' split at h
    all_goals cases h

/-- at the end of the input both lexers offer the scanner a blank -/
theorem numStep_eof_ok {st : NS} {o : Option NS} (h : numStep st 32 = .ok o) : numAccept st = true := by
  cases o with
  | none => exact numStep_none h
  | some st' => exact absurd (numStep_char _ _ _ h) (by decide)

theorem lexNumber_inv : ∀ (bs : Bytes) (fuel : Nat) (st : NS) (acc text r' : Bytes),
    lexNumber fuel st bs acc = some (text, r') →
      ∃ body st', bs = body ++ r' ∧ text = acc.reverse ++ body ∧ numRun st body = some st' ∧ numAccept st' = true
  | _, 0, _, _, _, _, h => by simp [lexNumber] at h
  | [], k+1, st, acc, text, r', h => by
    simp only [lexNumber] at h
    cases hs : numStep st 32 with
    | error e => rw [hs] at h; cases h
    | ok o =>
      rw [hs] at h
      obtain ⟨rfl, rfl⟩ := Prod.mk.inj (Option.some.inj h)
      exact ⟨[], st, rfl, (List.append_nil _).symm, rfl, numStep_eof_ok hs⟩
  | b :: r, k+1, st, acc, text, r', h => by
    simp only [lexNumber] at h
    cases hs : numStep st b with
    | error e => rw [hs] at h; cases h
    | ok o =>
      rw [hs] at h
      cases o with
      | none =>
        obtain ⟨rfl, rfl⟩ := Prod.mk.inj (Option.some.inj h)
        exact ⟨[], st, rfl, (List.append_nil _).symm, rfl, numStep_none hs⟩
      | some st1 =>
        obtain ⟨body, st', rfl, rfl, hrun, hacc⟩ := lexNumber_inv r k st1 (b :: acc) text r' h
        exact ⟨b :: body, st', rfl, by simp, by simp only [numRun, hs, hrun], hacc⟩

end Refmt.C03L
