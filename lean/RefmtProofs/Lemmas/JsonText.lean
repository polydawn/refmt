/-
  The JSON text of a token tree as a function (`txtV`), the retyped tree (`retV`), and the lexical
  lemmas about it: whitespace, string literals, numbers, scalars against the reference reader and `stripWs`.
  `encOk` / `decOk` are the scalar bodies the encoder accepts / that read back; the next modules are stated over them.
-/
import RefmtProofs.Lemmas.Escape
import RefmtProofs.Lemmas.FloatChars
import RefmtProofs.Lemmas.JsonRef
import RefmtProofs.Lemmas.NumTok
namespace Refmt.C03L
open Refmt Refmt.JsonEnc Refmt.JsonDec Refmt.Spec.Json

def scalarTxt : Body → Bytes
  | .str s => 34 :: (esc s ++ [34])
  | .bool true => [116, 114, 117, 101]
  | .bool false => [102, 97, 108, 115, 101]
  | .int i => intDigits i
  | .uint n => natDigits n
  | .float b => FloatText.jsonFloat b
  | .null => [110, 117, 108, 108]
  | _ => []

def sep (c : Cfg) (d : Nat) (sm : Bool) : Bytes :=
  (if sm then [44] else []) ++ (c.lineBytes ++ (List.replicate d c.indent).flatten)

def closeSep (c : Cfg) (d : Nat) (sm : Bool) : Bytes :=
  if sm then c.lineBytes ++ (List.replicate (d - 1) c.indent).flatten else []

def colon (c : Cfg) : Bytes := 58 :: (if c.line.isSome then [32] else [])

def keyTxt : TV → Bytes
  | .scalar t => scalarTxt t.body
  | _ => []

mutual
  def txtV (c : Cfg) (d : Nat) : TV → Bytes
    | .scalar t => scalarTxt t.body
    | .arr _ _ items => 91 :: (txtL c (d + 1) false items ++ (closeSep c (d + 1) (!items.isEmpty) ++ [93]))
    | .map _ _ es => 123 :: (txtE c (d + 1) false es ++ (closeSep c (d + 1) (!es.isEmpty) ++ [125]))
  def txtL (c : Cfg) (d : Nat) (sm : Bool) : List TV → Bytes
    | [] => []
    | v :: vs => sep c d sm ++ (txtV c d v ++ txtL c d true vs)
  def txtE (c : Cfg) (d : Nat) (sm : Bool) : List (TV × TV) → Bytes
    | [] => []
    | (k, v) :: es => sep c d sm ++ (keyTxt k ++ (colon c ++ (txtV c d v ++ txtE c d true es)))
end

mutual
  def retV : TV → TV
    | .scalar t => .scalar (retypeTok t)
    | .arr _ _ items => .arr none (-1) (retL items)
    | .map _ _ es => .map none (-1) (retE es)
  def retL : List TV → List TV
    | [] => []
    | v :: vs => retV v :: retL vs
  def retE : List (TV × TV) → List (TV × TV)
    | [] => []
    | (k, v) :: es => (retV k, retV v) :: retE es
end

mutual
  theorem retV_flatten : ∀ (v : TV), (retV v).flatten = v.flatten.map retypeTok
    | .scalar t => by simp [retV, TV.flatten]
    | .arr tag len items => by
      simp only [retV, TV.flatten, List.map_cons, List.map_append, List.map_nil, retL_flatten items]
      rfl
    | .map tag len es => by
      simp only [retV, TV.flatten, List.map_cons, List.map_append, List.map_nil, retE_flatten es]
      rfl
  theorem retL_flatten : ∀ (vs : List TV), TV.flattenList (retL vs) = (TV.flattenList vs).map retypeTok
    | [] => by simp [retL, TV.flattenList]
    | v :: vs => by simp [retL, TV.flattenList, retV_flatten v, retL_flatten vs]
  theorem retE_flatten : ∀ (es : List (TV × TV)), TV.flattenEntries (retE es) = (TV.flattenEntries es).map retypeTok
    | [] => by simp [retE, TV.flattenEntries]
    | (k, v) :: es => by simp [retE, TV.flattenEntries, retV_flatten k, retV_flatten v, retE_flatten es]
end


def WsOnly (w : Bytes) : Prop := ∀ x ∈ w, isWs x = true

theorem WsOnly.nil : WsOnly [] := by intro x hx; simp at hx
theorem WsOnly.append {a b : Bytes} (ha : WsOnly a) (hb : WsOnly b) : WsOnly (a ++ b) := by
  intro x hx; simp only [List.mem_append] at hx; rcases hx with h | h; exact ha x h; exact hb x h
theorem WsOnly.replicate (w : Bytes) (n : Nat) (h : WsOnly w) : WsOnly (List.replicate n w).flatten := by
  induction n with
  | zero => simpa using WsOnly.nil
  | succ n ih => rw [List.replicate_succ, List.flatten_cons]; exact WsOnly.append h ih

theorem isWs_numEnd {b : Nat} (h : isWs b = true) : numEnd b = true := by
  simp only [isWs, Bool.or_eq_true, beq_iff_eq] at h
  rcases h with ((rfl | rfl) | rfl) | rfl <;> decide

theorem Stop_ws_append (w r : Bytes) (hw : WsOnly w) (hr : Stop r = true) : Stop (w ++ r) = true := by
  cases w with
  | nil => exact hr
  | cons x w' => exact isWs_numEnd (hw x (by simp))

theorem Stop_ws (w : Bytes) (h : WsOnly w) : Stop w = true :=
  List.append_nil w ▸ Stop_ws_append w [] h rfl

theorem Stop_ws_cons (w : Bytes) (b : Nat) (rest : Bytes) (hw : WsOnly w) (hb : numEnd b = true) :
    Stop (w ++ b :: rest) = true :=
  Stop_ws_append w (b :: rest) hw hb

theorem skip_ws : ∀ (w : Bytes) (rest : Bytes), WsOnly w → skip (w ++ rest) = skip rest
  | [], _, _ => rfl
  | x :: w, rest, h => by
    simp only [List.cons_append, skip, h x (by simp), if_true]
    exact skip_ws w rest (fun y hy => h y (by simp [hy]))

theorem stripWs_body {body : Bytes} (h : SBody body) : ∀ (rest : Bytes),
    stripWs (body ++ 34 :: rest) true false = body ++ 34 :: stripWs rest false false := by
  induction h with
  | nil => intro rest; simp [stripWs]
  | plain c r h1 h2 h3 _ ih => intro rest; simp [stripWs, h2, h3, ih]
  | esc x r hx _ ih => intro rest; simp [stripWs, ih]
  | uni a b c d r ha hb hc hd _ ih =>
    intro rest
    have ne : ∀ y, isHex y = true → y ≠ 92 ∧ y ≠ 34 := by
      intro y hy; simp [isHex] at hy; omega
    simp [stripWs, ih, ne a ha, ne b hb, ne c hc, ne d hd]

theorem stripWs_plain : ∀ (t rest : Bytes), (∀ x ∈ t, isWs x = false ∧ x ≠ 34) →
    stripWs (t ++ rest) false false = t ++ stripWs rest false false
  | [], _, _ => rfl
  | x :: t, rest, h => by
    have hx := h x (by simp)
    simp only [List.cons_append, stripWs, Bool.false_eq_true, if_false, beq_iff_eq, hx.1, hx.2]
    rw [stripWs_plain t rest (fun y hy => h y (by simp [hy]))]

theorem stripWs_ws : ∀ (w rest : Bytes), WsOnly w → stripWs (w ++ rest) false false = stripWs rest false false
  | [], _, _ => rfl
  | x :: w, rest, h => by
    have hx := h x (by simp)
    have : x ≠ 34 := by intro e; subst e; simp [isWs] at hx
    simp only [List.cons_append, stripWs, Bool.false_eq_true, if_false, beq_iff_eq, hx, this, if_true]
    exact stripWs_ws w rest (fun y hy => h y (by simp [hy]))

theorem numChar_plain {x : Nat} (h : numChar x = true) : isWs x = false ∧ x ≠ 34 := by
  simp [numChar, isDigit] at h
  simp [isWs]
  omega


def encOk : Body → Bool
  | .float x => !floatNonFinite x
  | .str _ | .bool _ | .int _ | .uint _ | .null => true
  | _ => false

def floatOk (x : Nat) : Bool :=
  numberOk (FloatText.jsonFloat x) &&
    (match numTok (FloatText.jsonFloat x) with | .ok _ => true | .error _ => false)

theorem floatOk_iff {x : Nat} :
    floatOk x = true ↔ numberOk (FloatText.jsonFloat x) = true ∧ ∃ b, numTok (FloatText.jsonFloat x) = .ok b := by
  unfold floatOk
  cases numTok (FloatText.jsonFloat x) <;> simp

/-- the body is written as a text that reads back as `retypeTok` of it -/
def decOk : Body → Bool
  | .float x => !floatNonFinite x && floatOk x
  | .uint n => n < two64
  | .int i => -(two63 : Int) ≤ i && i < (two63 : Int)
  | .str _ | .bool _ | .null => true
  | _ => false

theorem decOk_encOk {b : Body} (h : decOk b = true) : encOk b = true := by
  cases b <;> simp_all [decOk, encOk]

-- what `C05L.round` needs of the byte behind a separator to answer `.item` (`round_sep`); a value's text begins with such a byte
def vStartByte (b : Nat) : Prop := isWs b = false ∧ b ≠ 93 ∧ b ≠ 44 ∧ b ≠ 125

theorem intDigits_chars (i : Int) : ∀ x ∈ intDigits i, numChar x = true := by
  unfold intDigits
  split
  · intro x hx
    simp only [List.mem_cons] at hx
    rcases hx with rfl | hx
    · decide
    · exact isDigit_numChar (FloatL.Digs.nat _ x hx)
  · intro x hx; exact isDigit_numChar (FloatL.Digs.nat _ x hx)

def isNumBody : Body → Bool
  | .int _ | .uint _ | .float _ => true
  | _ => false

theorem num_facts (b : Body) (h : decOk b = true) (hn : isNumBody b = true) :
    numberOk (scalarTxt b) = true ∧ numTok (scalarTxt b) = .ok (retypeTok ⟨b, none⟩).body := by
  cases b with
  | int i =>
    simp only [decOk, Bool.and_eq_true, decide_eq_true_eq] at h
    refine ⟨?_, by simpa [scalarTxt, retypeTok] using numTok_int i h.1 h.2⟩
    simp only [scalarTxt, intDigits]
    split
    · exact FloatL.numberOk_natDigits true _
    · exact FloatL.numberOk_natDigits false _
  | uint n =>
    simp only [decOk, decide_eq_true_eq] at h
    refine ⟨FloatL.numberOk_natDigits false n, ?_⟩
    simp only [scalarTxt, retypeTok, numTok_nat n h]
  | float x =>
    simp only [decOk, Bool.and_eq_true] at h
    obtain ⟨hok, b', hb⟩ := floatOk_iff.mp h.2
    refine ⟨hok, ?_⟩
    simp only [scalarTxt, retypeTok, hb]
  | _ => cases hn

theorem numHead_start {b0 : Nat} (h : b0 = 45 ∨ isDigit b0 = true) : vStartByte b0 := by
  simp only [isDigit, Bool.and_eq_true, decide_eq_true_eq] at h
  simp only [vStartByte, isWs, Bool.or_eq_false_iff, beq_eq_false_iff_ne, ne_eq]
  omega

theorem parseValue_num (T : Bytes) (b' : Body) (hok : numberOk T = true) (ht : numTok T = .ok b')
    (fuel : Nat) (rest : Bytes) (hs : Stop rest = true) :
    parseValue (fuel + 1) (T ++ rest) = some (.scalar ⟨b', none⟩, rest) := by
  obtain ⟨b0, r, st, rfl, hb0, hrun, hacc⟩ := numberOk_head T hok
  have h1 : b0 ≠ 123 ∧ b0 ≠ 91 := by
    simp only [isDigit, Bool.and_eq_true, decide_eq_true_eq] at hb0; omega
  have hlex := lexNumber_run r (numStart b0) st [b0] ((r ++ rest).length + 2) rest hrun hacc hs
    (by simp; omega)
  exact C05L.parseValue_of_refScalar fuel b0 _ b' rest (numHead_start hb0).1 h1.1 h1.2
    (C05L.refScalar_num b0 _ _ rest b' hb0 hlex ht)

theorem lexString_esc (s rest : Bytes) :
    lexString ((esc s ++ 34 :: rest).length + 1) .normal (esc s ++ 34 :: rest) [] = some (esc s, rest) :=
  lexString_run (esc s) .normal [] _ rest (esc_Esc s).body.run (by simp only [List.length_append]; omega)

theorem unq_esc (s : Bytes) : C05L.unq (esc s) = toValidUtf8 s := by
  rw [C05L.unq, (esc_Esc s).unquote ((esc s).length + 1) (Nat.lt_succ_self _)]
  rfl

theorem parseValue_str (s : Bytes) (fuel : Nat) (rest : Bytes) :
    parseValue (fuel + 1) ((34 :: (esc s ++ [34])) ++ rest) = some (.scalar ⟨.str (toValidUtf8 s), none⟩, rest) := by
  simp only [List.cons_append, List.append_assoc, List.nil_append]
  rw [← unq_esc s]
  exact C05L.parseValue_of_refScalar fuel 34 _ _ rest (by decide) (by decide) (by decide)
    (C05L.refScalar_str _ _ rest (lexString_esc s rest))

theorem parseValue_scalar (b : Body) (h : decOk b = true) (fuel : Nat) (rest : Bytes) (hs : Stop rest = true) :
    parseValue (fuel + 1) (scalarTxt b ++ rest) = some (.scalar (retypeTok ⟨b, none⟩), rest) := by
  have num := fun hn => parseValue_num _ _ (num_facts b h hn).1 (num_facts b h hn).2 fuel rest hs
  cases b with
  | null => exact C05L.parseValue_of_refScalar fuel 110 _ .null rest (by decide) (by decide) (by decide) rfl
  | bool x =>
    cases x
    · exact C05L.parseValue_of_refScalar fuel 102 _ (.bool false) rest (by decide) (by decide) (by decide) rfl
    · exact C05L.parseValue_of_refScalar fuel 116 _ (.bool true) rest (by decide) (by decide) (by decide) rfl
  | str s => simpa [scalarTxt, retypeTok] using parseValue_str s fuel rest
  | int i => exact num rfl
  | uint n => exact num rfl
  | float x => exact num rfl
  | _ => simp [decOk] at h

theorem scalarTxt_head (b : Body) (h : decOk b = true) : ∃ hd tl, scalarTxt b = hd :: tl ∧ vStartByte hd := by
  have num : _ → ∃ hd tl, scalarTxt b = hd :: tl ∧ vStartByte hd := fun hn => by
    obtain ⟨b0, r, st, e, hb0, _, _⟩ := numberOk_head _ (num_facts b h hn).1
    exact ⟨b0, r, e, numHead_start hb0⟩
  cases b with
  | null => exact ⟨_, _, rfl, by unfold vStartByte; decide⟩
  | bool x => cases x <;> exact ⟨_, _, rfl, by unfold vStartByte; decide⟩
  | str s => exact ⟨_, _, rfl, by unfold vStartByte; decide⟩
  | int i => exact num rfl
  | uint n => exact num rfl
  | float x => exact num rfl
  | _ => simp [decOk] at h

theorem stripWs_scalar (b : Body) (h : encOk b = true) (rest : Bytes) :
    stripWs (scalarTxt b ++ rest) false false = scalarTxt b ++ stripWs rest false false := by
  cases b with
  | null => exact stripWs_plain _ rest (by decide)
  | bool x => cases x <;> exact stripWs_plain _ rest (by decide)
  | str s =>
    have := stripWs_body (esc_Esc s).body rest
    simp [scalarTxt, stripWs, this]
  | int i => exact stripWs_plain _ rest (fun x hx => numChar_plain (intDigits_chars i x hx))
  | uint n => exact stripWs_plain _ rest (fun x hx => numChar_plain (isDigit_numChar (FloatL.Digs.nat n x hx)))
  | float x => exact stripWs_plain _ rest (fun y hy => numChar_plain (jsonFloat_chars x y hy))
  | _ => simp [encOk] at h

end Refmt.C03L
