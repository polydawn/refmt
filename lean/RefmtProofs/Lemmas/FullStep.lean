-- the round trip over `fullTy`: what is to be shown (`RTG`), the machines that Lemmas/ObjMachRT does not have because
-- they depend on the value's dynamic type (keyed unions, transforms, untyped slots), the dispatch over the kinds of
-- `fullTy` (`full_bare`) and the induction on the marshaller's fuel (`rt_full`); see RefmtProofs/Props/C13Full.lean
import RefmtProofs.Lemmas.FullWire
namespace Refmt.Obj
open Refmt Refmt.C13 Refmt.C11 Refmt.C12

variable {ts : Types} {a : Atlas} {trs : Trs} {it : IfaceTys} {fmt : Fmt} {ok : Bytes → Prop} {τ : Tok → Tok}
  {R : Nat → Nat → Val → Val} {RB : Nat → Nat → Mach → Val → Val} {S : Nat → Nat → Val → Bool} {SB : Nat → Nat → Mach → Val → Bool}

theorem Wire.S_map_inv (W : Wire ts a trs it fmt ok τ R RB S SB) {g id kt vt : Nat} {mode : KeySort} {es : List (Val × Val)}
    (hs : SB (g+1) id (.map kt vt mode) (.map (some es)) = true) :
    ((∀ q ∈ es, ∃ s, q.1 = Val.str s ∧ ok s) ∧ (es.map fun p => keyStr p.1).Nodup) ∧ ∀ q ∈ es, S g vt q.2 = true := by
  obtain ⟨hsk, hok, hsv⟩ := (W.S_map _ _ _ _ _ _).mp hs
  obtain ⟨hkeys, hnd⟩ := strKeysB_inv hsk
  refine ⟨⟨fun q hq => ?_, hnd⟩, hsv⟩
  obtain ⟨s, hq1⟩ := hkeys q hq
  have := hok q hq
  rw [hq1] at this
  exact ⟨s, hq1, this⟩

/-- `RTG`: the round trip, generic in the wire `τ` and the specification `R`, `S`, over `fullTy` at marshaller fuel `f`.
    The unmarshaller gets one unit of fuel more (an untyped slot needs it to read a nil); `g ≥ f` is the fuel of the
    specification (`R g`), at which `S g` is stated. -/
def RTG (ts : Types) (a : Atlas) (trs : Trs) (it : IfaceTys) (τ : Tok → Tok) (R : Nat → Nat → Val → Val)
    (S : Nat → Nat → Val → Bool) (f : Nat) : Prop :=
  ∀ p h id v g, p ≤ 64 → fullTy ts a p id = true → hasTy ts h id v = true → f ≤ g → S g id v = true →
    VRt ts a trs it τ 1 f id v (R g id v)

/-- `hst` is the struct-map case at class fuel `p` (`full_struct`, put in by `full_bare`): a union member is a struct-map
    entry, and its machine reads what follows the member's name. -/
theorem full_union (W : Wire ts a trs it fmt ok τ R RB S SB) {f} (p h id : Nat) (m reg : Bool) (ty : Nat)
    (tag : Option Int) (members : List (Bytes × Nat)) (v : Val) (g : Nat)
    (hst : ∀ h dt dv reg ty tag fs, a.get dt = some ⟨reg, ty, tag, .structMap fs⟩ → (∀ e, ts.get dt ≠ .ptr e) →
      fullTy ts a p dt = true → hasTy ts h dt dv = true → SB g dt (pickBare ts a dt) dv = true →
      BRt ts a trs it τ 1 f dt (zeroVal ts 64 dt) dv (RB g dt (pickBare ts a dt) dv))
    (hd : ts.get id = .iface m) (he : a.get id = some ⟨reg, ty, tag, .union members⟩)
    (hnames : (members.map (·.1)).Nodup) (hmem : ∀ mem ∈ members, MOKF ts a p mem)
    (hv : hasTy ts h id v = true) (hs : SB (g+1) id (pickBare ts a id) v = true) :
    BRt ts a trs it τ 1 (f+1) id (zeroVal ts 64 id) v (RB (g+1) id (pickBare ts a id) v) := by
  intro toks hm
  obtain ⟨hpk, hupk⟩ := pick_union hd he
  rw [hpk] at hm hs ⊢; rw [hupk]
  rw [W.S_union] at hs
  obtain ⟨nm, idx, me, dv, ti, fs, fds, rfl, hin', hfind, hme, hM, hin, rfl⟩ := hm.union_member hmem
  have hvd := hasTy_iface ts hd hv
  simp only [hfind, hme, hM.mach] at hs
  have hr := hst (h - 1) me.ty dv me.registered me.ty me.tag fs (hM.kind ▸ entry_of_pickBare (e := me) (Or.inl ⟨fs, hM.pick⟩))
    (by simp [hM.desc]) hM.full hvd hs ti hin
  rw [← hM.umach] at hr
  -- the union machine accepts the announced length `1` and the unknown length `-1`
  obtain ⟨l, hb, hl⟩ : ∃ l, (τ ⟨.mapOpen 1, none⟩).body = .mapOpen l ∧ (l != -1 && l != 1) = false := by
    rcases W.mapOpen 1 none with hb | hb
    · exact ⟨1, hb, rfl⟩
    · exact ⟨-1, hb, rfl⟩
  rw [W.RB_union, unionStep_member hfind hme]
  simpa [hM.mach] using Reads.union (id := id) (cur := zeroVal ts 64 id) hb hl
    (W.str nm (W.memberNames id reg ty tag members he _ hin')) (ObjL.find?_key (·.1) members hnames (nm, idx) hin') hme
    (by simp [hM.umach, hM.upick]) (by simp [hM.umach, hM.upick]) hr W.toTokMap.mapClose

theorem view_tagBlind {p id : Nat} (hview : FullView ts a p id) (hb : tagBlind ts a id = true) :
    upickBare ts a id ≠ .wildcard ∧ ∀ fn uty, upickBare ts a id ≠ .transform fn uty := by
  cases hview with
  | prim k b hd hn => rw [(pick_prim hd hn).2]; simp
  | bytes b hd hn => rw [(pick_bytes hd hn).2]; simp
  | byteArr n hd hn => rw [(pick_byteArr hd hn).2]; simp
  | slice e hd hn _ => rw [(pick_slice hd hn).2]; simp
  | arr n e hd hn _ => rw [(pick_arr hd hn).2]; simp
  | map kt vt bk hd hn _ _ => rw [(pick_map hd hn).2]; simp
  | wild hd hn => simp [tagBlind, hd, hn] at hb
  | struct fds reg ty tag fields hd he _ _ _ => rw [(pick_struct hd he).2]; simp
  | transform reg ty tag fn mty _ he _ _ _ => simp [tagBlind, he] at hb
  | union m reg ty tag members hd he _ _ => rw [(pick_union hd he).2]; simp

theorem full_transform (W : Wire ts a trs it fmt ok τ R RB S SB) {f} (htr : TrsEqv trs) (he : UEnv ts a it)
    (ih : RTG ts a trs it τ R S f) (p id : Nat) (reg : Bool) (ty : Nat)
    (tag : Option Int) (fn mty : Nat) (v : Val) (g : Nat) (hp64 : p + 1 ≤ 64)
    (hb : isBuiltin (ts.get id) = false) (hent : a.get id = some ⟨reg, ty, tag, .transform fn mty mty⟩)
    (hmp : ∀ e, ts.get mty ≠ .ptr e) (htb : tag = none ∨ tagBlind ts a mty = true) (hfm : fullTy ts a p mty = true)
    (hg : f ≤ g) (hs : SB (g+1) id (pickBare ts a id) v = true) :
    BRt ts a trs it τ 1 (f+1) id (zeroVal ts 64 id) v (RB (g+1) id (pickBare ts a id) v) := by
  intro toks hm
  obtain ⟨hpk, hupk⟩ := pick_transform hb hent
  rw [hpk] at hm hs ⊢; rw [hupk]
  cases hm with
  | @transform _ _ _ _ _ _ tv toks0 htm hin =>
    obtain ⟨hvt, hfv, a', ha', hrb⟩ := W.transform_inv htr he (by omega) hfm hs htm
    obtain ⟨p', rfl⟩ := fullTy_pos hfm
    rw [hrb]
    have hr := (reads_v_nonptr hmp).1 (ih (p'+1) 1000 mty tv g (by omega) hfm hvt hg hfv toks0 hin)
    obtain ⟨t0, r0, rfl⟩ := hin.headSpec.head
    cases tag with
    | none => exact (Reads.transform hr ha').mono (Nat.le_succ _)
    | some gg =>
      -- the machine of `mty` reads the body of the first token only, and `τ` maps equal bodies to equal bodies
      obtain ⟨hw1, hw2⟩ := view_tagBlind (fullTy_view hfm hmp) (htb.resolve_left (by simp))
      exact (Reads.transform (Reads.bare_body hw1 hw2 (W.body_tag t0.body t0.tag (some gg)) hr) ha').mono (Nat.le_succ _)

/-- the cases of `full_wild` in which the slot hands the whole stream to the machine of the dynamic type (`hdel`); `g'`
    is the fuel at which the specification descends into the value (`hrt`) -/
theorem full_wild_delegate (W : Wire ts a trs it fmt ok τ R RB S SB) {f}
    (ih : RTG ts a trs it τ R S f) (p h id dt : Nat) (dv : Val) {t0 : Tok} {r0 : List Tok} (g g' : Nat)
    (hnp : ∀ x, ts.get dt ≠ .ptr x) (hp64 : p ≤ 64) (hfull : fullTy ts a p dt = true)
    (hvd : hasTy ts h dt dv = true) (hg : f ≤ g' + 1) (hsB : SB g' dt (pickBare ts a dt) dv = true)
    (hm : MRun.Writes ts a trs f (.v dt dv) (t0 :: r0))
    (hdel : ∀ F c v, Reads ts a trs it F (.bare dt (upickBare ts a dt) (zeroVal ts 64 dt)) (τ t0 :: c) v →
      Reads ts a trs it (F+1) (.wild false) (τ t0 :: c) (.iface (some (dt, v))))
    (hrt : RB (g+1) id .wildcard (.iface (some (dt, dv))) = .iface (some (dt, RB g' dt (pickBare ts a dt) dv))) :
    Reads ts a trs it (f+1) (.wild false) ((t0 :: r0).map τ) (RB (g+1) id .wildcard (.iface (some (dt, dv)))) := by
  have hr := (reads_v_nonptr hnp).1 (ih p h dt dv (g'+1) hp64 hfull hvd hg (by rw [W.S_nonptr hnp]; exact hsB) _ hm)
  rw [W.R_nonptr hnp] at hr
  rw [hrt]
  exact hdel f _ _ hr

theorem full_wild (W : Wire ts a trs it fmt ok τ R RB S SB) {f} (hf : f + 1 ≤ 1000) (he : UEnv ts a it)
    (ih : RTG ts a trs it τ R S f) (h id : Nat) (v : Val) (g : Nat)
    (hd : ts.get id = .iface false) (hn : a.get id = none)
    (hv : hasTy ts h id v = true) (hg : f ≤ g) (hs : SB (g+1) id (pickBare ts a id) v = true) :
    BRt ts a trs it τ 1 (f+1) id (zeroVal ts 64 id) v (RB (g+1) id (pickBare ts a id) v) := by
  intro toks hm
  obtain ⟨hpk, hupk⟩ := pick_wild hd hn
  rw [hpk] at hm hs ⊢
  rw [hupk, reads_wildcard (by simp [UM.hasMethods, hd])]
  have hnil : Reads ts a trs it (f+1) (.wild false) [τ ⟨.null, none⟩] (.iface none) := by
    have hb := W.toTokMap.null none
    exact .wild_scalar (W.untagged .null) (wildRej_false _) (by rw [hb]; rfl)
  cases hm with
  | wildNil => rw [W.RB_wild_other g id _ (by simp)]; exact hnil
  | @wild _ _ dt dv _ hin =>
    have hvd := hasTy_iface ts hd hv
    obtain ⟨hnp, hcase⟩ := W.S_wild g id dt dv hs
    obtain ⟨f, rfl, hB⟩ := hin.v_nonptr hnp
    rcases hcase with hpkd | ⟨rfl, vs, rfl, hsv⟩ | ⟨rfl, es, rfl, hsk, hok, hsv⟩ | ⟨hj, e', hpkd, htg, hfull, hsB⟩
    · -- a nil `[]byte` is written as a bare null and empties the slot
      rw [hpkd] at hB
      cases hB with
      | prim hp =>
      obtain ⟨b, rfl, -⟩ := ObjL.primTok_cases hp
      by_cases hb : b = .null
      · subst hb
        rw [W.RB_wild_some, wildStep_null (isBareNullSer_null ts a trs fmt hin (Or.inl rfl) (by omega))]
        exact hnil
      · rw [W.RB_wild_some, wildStep_prim hnp (isBareNullSer_false ts a trs fmt hin (Or.inl hb) (by omega)) hpkd]
        obtain ⟨htag, hsc⟩ := W.wildTok _ id dt dv _ g hpkd hvd hs hp hb
        exact .wild_scalar htag (wildRej_false _) hsc
    · obtain ⟨hpkd, hupkd⟩ := pick_slice he.sliceI he.noSlice
      rw [hpkd] at hB
      cases hB with
      | slice hl =>
      obtain ⟨l', hl'⟩ := W.arrOpen vs.length none
      have hnull := isBareNullSer_false ts a trs fmt hin (Or.inl (by simp)) (by omega)
      refine full_wild_delegate W ih 2 _ id it.sliceI _ g (g+1) hnp (by omega) (fullTy_sliceI he 0) hvd (by omega)
        (by rw [hpkd, W.S_slice]; simpa using hsv) hin (fun F c v hr => ?_) ?_
      · rw [hupkd, zeroVal_slice he.sliceI] at hr
        exact .wild_arr (W.untagged _) (wildRej_false _) hl' hr
      · rw [W.RB_wild_some, wildStep_slice hnp hnull hpkd, hpkd, W.RB_slice]
        simp only [boxAs_iface he, mapSlice_some]
    · -- the slot starts the map machine on an empty map, which it treats as it does the nil map (`reads_map_cur`)
      obtain ⟨hpkd, hupkd⟩ := pick_map he.mapSI he.noMap
      rw [hpkd] at hB
      cases hB with
      | map hkf hkvs hl =>
      obtain ⟨l', hl'⟩ := W.toTokMap.mapOpen_some es.length none
      have hnull := isBareNullSer_false ts a trs fmt hin (Or.inl (by simp)) (by omega)
      refine full_wild_delegate W ih 2 _ id it.mapSI _ g (g+1) hnp (by omega) (fullTy_mapSI he 0) hvd (by omega)
        (by rw [hpkd]; exact (W.S_map _ _ _ _ _ _).mpr ⟨hsk, hok, hsv⟩) hin (fun F c v hr => ?_) ?_
      · rw [hupkd, zeroVal_map he.mapSI] at hr
        exact .wild_map (W.untagged _) (wildRej_false _) hl' (reads_map_cur (cur := .map none) (cur' := .map (some [])) rfl hr)
      · rw [W.RB_wild_some, wildStep_map hnp hnull hpkd, hpkd, W.RB_map]
        simp only [boxAs_iface he]
    · have hτ := W.keepsTag hj
      obtain ⟨tg, htag, htg⟩ := taggedB_iff.mp htg
      have hety : e'.ty = dt := ObjL.atlas_get_ty (entry_of_pickBare hpkd)
      obtain ⟨t, r, rfl⟩ := hin.headSpec.head
      have htok : t.tag = some tg := hB.tag_first hpkd htag
      have hnull := isBareNullSer_false ts a trs fmt hin (Or.inr ⟨by rw [htok]; simp, hj⟩) (by omega)
      refine full_wild_delegate W ih 64 _ id dt dv g g hnp (by omega) hfull hvd (by omega) hsB hin (fun F c v hr => ?_) ?_
      · rw [hτ] at hr ⊢
        subst hety
        exact .wild_tag htok htg hr
      · rw [W.RB_wild_some, wildStep_entry hnp hnull hpkd]

theorem full_prim (W : Wire ts a trs it fmt ok τ R RB S SB) {f} (h id : Nat) (v : Val) (g : Nat)
    (hv : hasTy ts h id v = true) (hpick : pickBare ts a id = .prim ∧ upickBare ts a id = .prim)
    (hs : SB (g+1) id (pickBare ts a id) v = true) :
    BRt ts a trs it τ 1 (f+1) id (zeroVal ts 64 id) v (RB (g+1) id (pickBare ts a id) v) := by
  rw [hpick.1] at hs ⊢
  exact prim_bare_rt hpick.1 hpick.2 (fun toks hm => W.prim h id v toks g hv hs hm) _

theorem full_struct (W : Wire ts a trs it fmt ok τ R RB S SB) (hz : ZeroStable ts) {f g : Nat}
    (ih : ∀ f' < f, RTG ts a trs it τ R S f') (hg : f ≤ g) {p h id : Nat} {v : Val} (hp64 : p + 1 ≤ 64)
    {reg : Bool} {ty : Nat} {tag : Option Int} {fields : List SMField}
    (hp : fullTy ts a (p + 1) id = true) (hnp : ∀ e, ts.get id ≠ .ptr e)
    (hent : a.get id = some ⟨reg, ty, tag, .structMap fields⟩)
    (hv : hasTy ts h id v = true) (hs : SB (g+1) id (pickBare ts a id) v = true) :
    BRt ts a trs it τ 1 (f+1) id (zeroVal ts 64 id) v (RB (g+1) id (pickBare ts a id) v) := by
  obtain ⟨fds, hd, hnames, hroutes, hfok⟩ := fullTy_view_struct hp hnp hent
  obtain ⟨vs, rfl, hvl, hvs⟩ := hasTy_struct ts hd hv
  rw [(pick_struct hd hent).1] at hs ⊢
  rw [W.S_structMap] at hs
  rw [W.RB_structMap, structFold_eq_filter, zeroVal_struct ts hd]
  exact structMap_rt W.toTokMap hz hd hent hnames hroutes
    (fun fld hf => ⟨⟨(hfok fld hf).ignore, (hfok fld hf).slot⟩, W.fieldNames id reg ty tag fields hent fld hf⟩) _ vs
    (fun f' hf' fld hf hemit i x hroute hx => by
      obtain ⟨j, fd, hroute', hfd, hty⟩ := (hfok fld hf).slot
      rw [hroute] at hroute'
      cases hroute'
      have := List.all_eq_true.mp hs fld hf
      simp only [hemit, Bool.not_true, Bool.false_or, hroute, traverse_one, hx] at this
      exact ih f' hf' p _ fld.ty x g (by omega) (hfok fld hf).full (hty ▸ hvs i fd x hfd hx) (by omega) this)

theorem full_bare (W : Wire ts a trs it fmt ok τ R RB S SB) {f} (hf : f ≤ 1000) (he : UEnv ts a it) (hz : ZeroStable ts)
    (htr : TrsEqv trs) (ih : ∀ f' < f, RTG ts a trs it τ R S f') :
    ∀ p h id v g, p + 1 ≤ 64 → fullTy ts a (p + 1) id = true → (∀ e, ts.get id ≠ .ptr e) → hasTy ts h id v = true → f ≤ g →
      SB g id (pickBare ts a id) v = true →
      BRt ts a trs it τ 1 f id (zeroVal ts 64 id) v (RB g id (pickBare ts a id) v) := by
  intro p h id v g hp64 hp hnp hv hg hs
  cases f with
  | zero => intro toks hm; cases hm
  | succ f =>
  obtain ⟨g, rfl⟩ : ∃ g', g = g' + 1 := ⟨g - 1, by omega⟩
  have ihv : ∀ f' < f, ∀ p h id v, p ≤ 64 → fullTy ts a p id = true → hasTy ts h id v = true → S g id v = true →
      VRt ts a trs it τ 1 f' id v (R g id v) :=
    fun f' hf' p h id v hp64 hp hv hs => ih f' (by omega) p h id v g hp64 hp hv (by omega) hs
  cases fullTy_view hp hnp with
  | prim k b hd hn => exact full_prim W h id v g hv (pick_prim hd hn) hs
  | bytes b hd hn => exact full_prim W h id v g hv (pick_bytes hd hn) hs
  | byteArr n hd hn => exact full_prim W h id v g hv (pick_byteArr hd hn) hs
  | slice e hd hn hpe =>
    obtain ⟨hpk, hupk⟩ := pick_slice hd hn
    obtain ⟨o, rfl, hvs⟩ := hasTy_slice ts hd hv
    rw [hpk] at hs ⊢
    rw [W.S_slice] at hs
    rw [W.RB_slice]
    exact slice_rt W.toTokMap hpk hupk _ o (fun es he f' hf' x hx =>
      ihv f' hf' p _ e x (by omega) hpe (hvs es he x hx) (by subst he; exact List.all_eq_true.mp hs x hx)) _
  | arr n e hd hn hpe =>
    obtain ⟨hpk, hupk⟩ := pick_arr hd hn
    obtain ⟨es, rfl, hlen, hvs⟩ := hasTy_arr ts hd hv
    rw [hpk] at hs ⊢
    rw [W.S_array] at hs
    rw [W.RB_array]
    exact array_rt W.toTokMap hpk hupk _ es hlen (fun f' hf' x hx =>
      ihv f' hf' p _ e x (by omega) hpe (hvs x hx) (List.all_eq_true.mp hs x hx)) _
  | map kt vt bk hd hn hkt hpe =>
    obtain ⟨hpk, hupk⟩ := pick_map hd hn
    obtain ⟨o, rfl, hvs⟩ := hasTy_map ts hd hv
    rw [hpk] at hs ⊢
    rw [W.RB_map]
    exact map_rt W.toTokMap hpk hupk hkt _ o (fun es he => (W.S_map_inv (he ▸ hs)).1)
      (fun es he f' hf' q hq => ihv f' hf' p _ vt q.2 (by omega) hpe (hvs es he q hq).2 ((W.S_map_inv (he ▸ hs)).2 q hq))
      _ (zeroVal_mapEntries ts 64 id)
  | struct fds reg ty tag fields hd hent =>
    exact full_struct W hz (fun f' hf' => ih f' (by omega)) (by omega) hp64 hp hnp hent hv hs
  | wild hd hn => exact full_wild W hf he (ih f (by omega)) h id v g hd hn hv (by omega) hs
  | transform reg ty tag fn mty hb hent hmp htb hfm =>
    exact full_transform W htr he (ih f (by omega)) p id reg ty tag fn mty v g hp64 hb hent hmp htb hfm (by omega) hs
  | union m reg ty tag members hd hent hnames hmem =>
    refine full_union W p h id m reg ty tag members v g (fun h dt dv _ _ _ fs hget hnpd hfull hvd hsd => ?_) hd hent hnames hmem hv hs
    cases f with
    | zero => intro toks hm; cases hm
    | succ f =>
    obtain ⟨g, rfl⟩ : ∃ g', g = g' + 1 := ⟨g - 1, by omega⟩
    obtain ⟨p', rfl⟩ := fullTy_pos hfull
    exact full_struct W hz (fun f' hf' => ih f' (by omega)) (by omega) (by omega) hfull hnpd hget hvd hsd

/-- `1000` is the fuel at which the specification evaluates the marshaller (`isNullSer`) -/
theorem rt_full (W : Wire ts a trs it fmt ok τ R RB S SB) (he : UEnv ts a it) (hz : ZeroStable ts) (htr : TrsEqv trs) :
    ∀ f, f ≤ 1000 → RTG ts a trs it τ R S f := by
  intro f
  induction f using Nat.strongRecOn with
  | ind f ih =>
    intro hf p h id v g hp64 hp hv hg hfv
    cases f with
    | zero => intro toks hm; cases hm
    | succ f =>
      obtain ⟨g, rfl⟩ : ∃ g', g = g' + 1 := ⟨g - 1, by omega⟩
      obtain ⟨n, base, p', hpeel, hpb, hnp, hch, hp'p⟩ := full_peel ts a p 64 0 id hp hp64
      simp only [Nat.zero_add] at hpeel
      rw [W.R_succ, hpeel]
      refine ptr_rt W.toTokMap hpeel hch _ (fun inner hdn => ?_)
      obtain ⟨h', hvi⟩ := chain_hasTy_some ts hch hv hdn
      exact ⟨fun toks hm => NullSpec.of_le ts a trs hnp hm (by omega),
        full_bare W (by omega) he hz htr (fun f' hf' => ih f' (by omega) (by omega)) p' h' base inner g (by omega) hpb hnp
          hvi (by omega) (W.S_deref hpeel hdn hfv)⟩

theorem Wire.complete (W : Wire ts a trs it fmt ok τ R RB S SB) (he : UEnv ts a it) (hz : ZeroStable ts) (htr : TrsEqv trs)
    (fuel0 fuel id : Nat) (v : Val) (toks : List Tok)
    (hp : fullTy ts a 64 id = true) (hv : hasTy ts 1000 id v = true) (hside : S fuel id v = true)
    (hm : marshalV ts a trs fuel0 id v = ⟨toks, none⟩) (h0 : fuel0 ≤ 1000) (hf : fuel0 < fuel) :
    unmV ts a trs it fuel id (zeroVal ts 64 id) (toks.map τ) = .ok (R fuel id v) [] toks.length ∧
      ValEqv'' (R fuel id v) (normV fmt ts a trs it fuel id v) := by
  have := (rt_full W he hz htr fuel0 h0 64 1000 id v fuel (Nat.le_refl _) hp hv (by omega) hside).unmV hm hf []
  rw [List.append_nil] at this
  exact ⟨this, (W.eqv_norm htr he fuel).1 64 id v (Nat.le_refl _) hp hside⟩

end Refmt.Obj
