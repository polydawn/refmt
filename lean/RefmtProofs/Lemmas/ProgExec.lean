/-
  What is true of every client program of the reader (`Prog`, Lemmas/C15Client.lean): it never lengthens the
  undelivered data (`exec_len`), and if it passes an injected read error on (`Passes`) it reports the fault or
  commutes with the injection `C16R.inj` (`exec_fault`).  The decoders are such programs (Lemmas/C15Json.lean,
  C15Cbor.lean), so their consumption bounds (C06) and read-fault behaviour (C16) are instances.
  A `Prog` cannot see the reader (no `data.length`), and the models' inner loops run on fuel
  `rd.data.length + 1` (or `+ 2`): their mirrors take an iteration bound `N` as a parameter, and by
  `fuel_irrelevant` every `N` above the number of undelivered bytes gives the model's result.
-/
import RefmtModel
import RefmtProofs.Lemmas.C15Client
import RefmtProofs.Lemmas.RdOps
theorem Refmt.ite_ind {γ : Sort _} {P : γ → Prop} {c : Prop} [Decidable c] {a b : γ} (ha : P a) (hb : P b) :
    P (if c then a else b) := by
  split
  · exact ha
  · exact hb

namespace Refmt.C15Prog
open Refmt Refmt.C15

variable {β : Type}

def rd1 (k : Except Err Nat → Prog β) : Prog β := .read1 (fun _ => false) k

theorem run_ret (a : β) (rd : Rd) : runCursor (.ret a) rd = some a := by
  rw [runCursor]

theorem fuel_irrelevant {σ ρ : Type} (μ : σ → Rd → Nat) (F : Nat → σ → Rd → ρ)
    (hstep : ∀ (f g : Nat) (s : σ) (rd : Rd),
      (∀ s' rd', μ s' rd' < μ s rd → F f s' rd' = F g s' rd') → F (f + 1) s rd = F (g + 1) s rd) :
    ∀ (f g : Nat) (s : σ) (rd : Rd), μ s rd < f → μ s rd < g → F f s rd = F g s rd := by
  intro f
  induction f with
  | zero => intro g s rd h; exact absurd h (Nat.not_lt_zero _)
  | succ f ih =>
    intro g s rd hf hg
    cases g with
    | zero => exact absurd hg (Nat.not_lt_zero _)
    | succ g =>
      exact hstep f g s rd fun s' rd' hl =>
        ih g s' rd' (Nat.lt_of_lt_of_le hl (Nat.le_of_lt_succ hf)) (Nat.lt_of_lt_of_le hl (Nat.le_of_lt_succ hg))

end Refmt.C15Prog

namespace Refmt.C15
open Refmt

variable {α : Type}

def exec : Prog α → Rd → α × Rd
  | .ret a, rd => (a, rd)
  | .read1 u k, rd =>
    match rd.read1 with
    | (.ok (b, rd1), _) => if u b then exec (k (.ok b)) (rd1.unread1 b) else exec (k (.ok b)) rd1
    | (.error e, rd') => exec (k (.error e)) rd'
  | .readN n k, rd => exec (k (rd.readN n).1) (rd.readN n).2

theorem runCursor_eq (p : Prog α) : ∀ rd, runCursor p rd = some (exec p rd).1 := by
  induction p with
  | ret a => intro rd; rfl
  | read1 u k ih =>
    intro rd
    rw [runCursor, exec]
    rcases rd.read1 with ⟨e | ⟨b, rd1⟩, rd'⟩
    · exact ih _ _
    · dsimp only
      split <;> exact ih _ _
  | readN n k ih => intro rd; rw [runCursor, exec]; exact ih _ _

theorem exec_len (p : Prog α) : ∀ rd, (exec p rd).2.data.length ≤ rd.data.length := by
  induction p with
  | ret a => intro rd; exact Nat.le_refl _
  | read1 u k ih =>
    intro rd
    rw [exec]
    rcases h : rd.read1 with ⟨e | ⟨b, rd1⟩, rd'⟩
    · exact Nat.le_trans (ih _ _) (C06.read1_err_len h)
    · have h1 := C06.read1_ok_len h
      dsimp only
      split
      · exact Nat.le_trans (ih _ _) (Nat.le_of_eq ((C06.unread1_len rd1 b).trans h1))
      · exact Nat.le_trans (ih _ _) (by omega)
  | readN n k ih =>
    intro rd
    rw [exec]
    refine Nat.le_trans (ih _ _) ?_
    rcases h : rd.readN n with ⟨e | bs, rd'⟩
    · exact C06.readN_err_len h
    · have := (C06.readN_ok_len h).1
      show rd'.data.length ≤ _; omega

/-- the program hands an injected read error on: after one, whatever else it reads, its result is in `J` -/
def Passes (J : α → Prop) : Prog α → Prop
  | .ret _ => True
  | .read1 _ k => (∀ rd, J (exec (k (.error .injected)) rd).1) ∧ ∀ r, Passes J (k r)
  | .readN _ k => (∀ rd, J (exec (k (.error .injected)) rd).1) ∧ ∀ r, Passes J (k r)

/-- what `Passes J` asks of a read node with continuation `k` -/
def HK {γ : Type} (J : α → Prop) (k : Except Err γ → Prog α) : Prop :=
  (∀ rd, J (exec (k (.error .injected)) rd).1) ∧ ∀ r, Passes J (k r)

theorem passes_read1 {J : α → Prop} {u : Nat → Bool} {k : Except Err Nat → Prog α} (hk : HK J k) :
    Passes J (.read1 u k) := by
  rw [Passes]; exact hk

theorem passes_readN {J : α → Prop} {n : Nat} {k : Except Err Bytes → Prog α} (hk : HK J k) :
    Passes J (.readN n k) := by
  rw [Passes]; exact hk

open C16R in
theorem exec_fault {J : α → Prop} {M : Nat} {stop : Bool} (p : Prog α) : Passes J p → ∀ b, Ok M b →
    J (exec p (inj M stop b)).1 ∨
    (Ok M (exec p b).2 ∧ exec p (inj M stop b) = ((exec p b).1, inj M stop (exec p b).2)) := by
  induction p with
  | ret a => intro _ b h; exact .inr ⟨h, rfl⟩
  | read1 u k ih =>
    intro hp b h
    rw [exec, exec]
    rcases read1_sim (stop := stop) b h with ⟨r', hi⟩ | ⟨x, b1, hb, hib, hok⟩
    · rw [hi]; exact .inl (hp.1 r')
    · rw [hb, hib]
      dsimp only
      split
      · obtain ⟨e, hok'⟩ := unread1_inj (stop := stop) b1 x hok
        rw [e]; exact ih _ (hp.2 _) _ hok'
      · exact ih _ (hp.2 _) _ hok
  | readN n k ih =>
    intro hp b h
    rw [exec, exec]
    rcases readN_sim (stop := stop) b n h with ⟨r', hi⟩ | ⟨res, b1, hb, hib, hok⟩
    · rw [hi]; exact .inl (hp.1 r')
    · rw [hb, hib]; exact ih _ (hp.2 _) _ hok

open C16R in
theorem exec_fault_past {J : α → Prop} {M : Nat} {stop : Bool} {p : Prog α} (hp : Passes J p) {b : Rd} (h : Ok M b)
    (hlen : (exec p b).2.data.length < M) : J (exec p (inj M stop b)).1 :=
  (exec_fault p hp b h).elim id fun hc => absurd hc.1.2 (Nat.not_le_of_lt hlen)

open C16R in
theorem model_fault_past {ρ : Type} {J : α → Prop} {M : Nat} {stop : Bool} {p : Prog α} (hp : Passes J p) {b : Rd}
    {R : Rd → ρ} {out : ρ → α} {left : ρ → Rd}
    (hspec : ∀ rd, rd.data.length ≤ b.data.length → exec p rd = (out (R rd), left (R rd)))
    (h : Ok M b) (hlen : (left (R b)).data.length < M) : J (out (R (inj M stop b))) := by
  have := exec_fault_past (stop := stop) hp h (by rw [hspec b (Nat.le_refl _)]; exact hlen)
  rwa [hspec (inj M stop b) (Nat.le_refl _)] at this

open Refmt.C15Prog (rd1)
variable {β : Type}

theorem exec_rd1 (k : Except Err Nat → Prog β) (rd : Rd) :
    exec (rd1 k) rd =
      match rd.read1 with
      | (.ok (b, rd1), _) => exec (k (.ok b)) rd1
      | (.error e, rd') => exec (k (.error e)) rd' := by
  rw [rd1, exec]
  rcases rd.read1 with ⟨e | ⟨b, rd1⟩, rd'⟩ <;> rfl

theorem rd1_passes {J : β → Prop} {k : Except Err Nat → Prog β} (hk : HK J k) : Passes J (rd1 k) :=
  passes_read1 hk

theorem exec_ite {γ : Type} (F : γ → β × Rd) {c : Prop} [Decidable c] {A B : Prog β} {X Y : γ} {rd : Rd}
    (h1 : exec A rd = F X) (h2 : exec B rd = F Y) : exec (if c then A else B) rd = F (if c then X else Y) := by
  by_cases h : c
  · rw [if_pos h, if_pos h]; exact h1
  · rw [if_neg h, if_neg h]; exact h2

theorem len_of_exec {γ : Type} {P : Prog γ} {rd : Rd} {r : γ × Rd} (h : exec P rd = r) :
    r.2.data.length ≤ rd.data.length := h ▸ exec_len P rd

end Refmt.C15
