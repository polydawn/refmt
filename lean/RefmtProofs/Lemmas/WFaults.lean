/-
  Write faults (C16): generic lemmas about `WSt.writes` / `runFaulty`, and the facts about the two
  encoder models needed to instantiate them.
-/
import RefmtModel
namespace Refmt.C16L
open Refmt

theorem writes_calls (f : Option WFault) : ∀ (ws : List Bytes) (w : WSt),
    (WSt.writes f w ws).calls = w.calls + ws.length
  | [], w => by simp [WSt.writes]
  | bs :: rest, w => by
    simp only [WSt.writes, List.length_cons]
    rw [writes_calls f rest]
    simp only []
    omega

theorem writes_failed_mono (f : Option WFault) : ∀ (ws : List Bytes) (w : WSt), w.failed = true →
    (WSt.writes f w ws).failed = true
  | [], w, h => by simpa [WSt.writes] using h
  | bs :: rest, w, h => by
    simp only [WSt.writes]
    exact writes_failed_mono f rest _ (by simp [h])

theorem writes_none_failed : ∀ (ws : List Bytes) (w : WSt),
    (WSt.writes none w ws).failed = w.failed
  | [], w => by simp [WSt.writes]
  | bs :: rest, w => by
    simp only [WSt.writes]
    rw [writes_none_failed rest]
    simp

theorem hits_before (f : WFault) (i : Nat) (bs : Bytes) (h : i < f.k) : f.hits i bs = false := by
  unfold WFault.hits
  have h1 : (i == f.k) = false := by simp; omega
  have h2 : decide (i > f.k) = false := by simp; omega
  simp [h1, h2]

theorem writes_no_hit (f : WFault) : ∀ (ws : List Bytes) (w : WSt), w.failed = false →
    w.calls + ws.length ≤ f.k → (WSt.writes (some f) w ws).failed = false
  | [], w, h, _ => by simpa [WSt.writes] using h
  | bs :: rest, w, h, hk => by
    simp only [WSt.writes]
    simp only [List.length_cons] at hk
    apply writes_no_hit f rest
    · simp [h, hits_before f w.calls bs (by omega)]
    · simp only []; omega

theorem writes_hit (f : WFault) : ∀ (ws : List Bytes) (w : WSt), w.calls ≤ f.k →
    f.k < w.calls + ws.length → f.hits f.k (ws.getD (f.k - w.calls) []) = true →
    (WSt.writes (some f) w ws).failed = true
  | [], w, _, h2, _ => by simp at h2; omega
  | bs :: rest, w, h1, h2, hh => by
    simp only [WSt.writes]
    simp only [List.length_cons] at h2
    by_cases hc : w.calls = f.k
    · apply writes_failed_mono
      have : f.k - w.calls = 0 := by omega
      rw [this] at hh
      simp only [List.getD_cons_zero] at hh
      simp [hc, hh]
    · apply writes_hit f rest
      · simp only []; omega
      · simp only []; omega
      · have : f.k - w.calls = (f.k - (w.calls + 1)) + 1 := by omega
        rw [this, List.getD_cons_succ] at hh
        exact hh

theorem flagW_of_not_failed (r : Ret) (w : WSt) (h : w.failed = false) : r.flagW w = r.flag := by
  cases r <;> simp [Ret.flagW, Ret.flag, h]

theorem no_fault_same {σ : Type} (step : σ → Tok → EncOut σ) : ∀ (ts : List Tok) (s : σ) (w : WSt),
    w.failed = false → (runFaulty step none s w ts).1 = runFlags step s ts
  | [], s, w, _ => rfl
  | t :: ts, s, w, hw => by
    have hw' : (w.writes none (step s t).writes).failed = false := by
      rw [writes_none_failed]; exact hw
    simp only [runFaulty, runFlags]
    rw [flagW_of_not_failed _ _ hw']
    cases h : (step s t).ret.flag <;> simp [no_fault_same step ts _ _ hw']

/-- A step is *honest* if a nil-error return (`Ret.plain`) never follows a `Write` call. -/
def Honest {σ : Type} (step : σ → Tok → EncOut σ) : Prop :=
  ∀ s t d, (step s t).ret = .plain d → (step s t).writes = []

def FlagsOk (fl : List Flag) : Prop := ∀ x ∈ fl, x = Flag.cont ∨ x = Flag.done

theorem flagsOk_cons_cont {fl : List Flag} (h : FlagsOk fl) : FlagsOk (Flag.cont :: fl) := by
  intro x hx
  simp only [List.mem_cons] at hx
  rcases hx with rfl | hx
  · exact Or.inl rfl
  · exact h x hx

theorem flagsOk_done : FlagsOk [Flag.done] := by
  intro x hx; simp at hx; exact Or.inr hx

theorem flagsOk_replicate {fl : List Flag} (h : FlagsOk fl) : ∀ n, FlagsOk (List.replicate n Flag.cont ++ fl)
  | 0 => h
  | n+1 => flagsOk_cons_cont (flagsOk_replicate h n)

theorem fault_reported {σ : Type} (step : σ → Tok → EncOut σ) (f : WFault) (hG : Honest step) :
    ∀ (ts : List Tok) (s : σ) (w : WSt), w.failed = false → w.calls ≤ f.k →
      f.k < w.calls + (runOut step s ts).2.length →
      f.hits f.k ((runOut step s ts).2.getD (f.k - w.calls) []) = true →
      FlagsOk (runOut step s ts).1 →
      (runFaulty step (some f) s w ts).1.getLast? = some Flag.err
  | [], s, w, _, _, h2, _, _ => by simp [runOut] at h2; omega
  | t :: ts, s, w, hw, h1, h2, hh, hfl => by
    have hcalls := writes_calls (some f) (step s t).writes w
    by_cases hin : f.k < w.calls + (step s t).writes.length
    · -- the faulty write happens in this step
      have hne : (step s t).writes ≠ [] := by
        intro h; rw [h] at hin; simp at hin; omega
      have hget : (runOut step s (t :: ts)).2.getD (f.k - w.calls) [] =
          (step s t).writes.getD (f.k - w.calls) [] := by
        simp only [runOut]
        cases h : (step s t).ret.flag <;> simp only []
        simp only [List.getD_eq_getElem?_getD]
        rw [List.getElem?_append_left (by omega)]
      rw [hget] at hh
      have hfail := writes_hit f (step s t).writes w h1 hin hh
      cases hr : (step s t).ret with
      | ck d => simp [runFaulty, hr, Ret.flagW, hfail]
      | plain d => exact absurd (hG s t d hr) hne
      | bad =>
        have := hfl Flag.err (by simp [runOut, hr, Ret.flag])
        simp at this
      | panic =>
        have := hfl Flag.panic (by simp [runOut, hr, Ret.flag])
        simp at this
    · -- not yet
      have hnf := writes_no_hit f (step s t).writes w hw (by omega)
      simp only [runFaulty]
      rw [flagW_of_not_failed _ _ hnf]
      cases hr : (step s t).ret.flag with
      | cont =>
        simp only [runOut, hr] at h2 hh hfl
        simp only [List.length_append] at h2
        have ih := fault_reported step f hG ts (step s t).st (w.writes (some f) (step s t).writes) hnf
          (by rw [hcalls]; omega) (by rw [hcalls]; omega)
          (by
            rw [hcalls]
            simp only [List.getD_eq_getElem?_getD] at hh ⊢
            rw [List.getElem?_append_right (by omega)] at hh
            have : f.k - w.calls - (step s t).writes.length = f.k - (w.calls + (step s t).writes.length) := by
              omega
            rw [this] at hh
            exact hh)
          (fun x hx => hfl x (by simp [hx]))
        simp only [List.getLast?_cons, ih, Option.getD_some]
      | done => simp only [runOut, hr] at h2; omega
      | err =>
        have := hfl Flag.err (by simp [runOut, hr])
        simp at this
      | panic =>
        have := hfl Flag.panic (by simp [runOut, hr])
        simp at this

/-- a return other than the explicit nil error: it goes through `checkErr` (`ck`) or is an error itself -/
def checked : Ret → Bool
  | .plain _ => false
  | _ => true

theorem honest_of_checked {σ : Type} {step : σ → Tok → EncOut σ}
    (h : ∀ s t, checked (step s t).ret = true ∨ (step s t).writes = []) : Honest step := by
  intro s t d hr
  rcases h s t with hc | hw
  · rw [hr] at hc; cases hc
  · exact hw

/-! The only nil-error return of the CBOR encoder model is the close of a definite container, through
    `popRet s [] false`, which writes nothing. -/

theorem cbor_popRet_writes (s : CborEnc.St) (ws : List Bytes) (ck : Bool) :
    (CborEnc.popRet s ws ck).writes = ws := by
  unfold CborEnc.popRet
  cases CborEnc.pop s <;> rfl

theorem cbor_popRet_checked (s : CborEnc.St) (ws : List Bytes) : checked (CborEnc.popRet s ws true).ret = true := by
  unfold CborEnc.popRet
  cases CborEnc.pop s <;> rfl

theorem cbor_honest : Honest CborEnc.step := by
  refine honest_of_checked fun s t => ?_
  obtain ⟨body, tag⟩ := t
  cases body with
  | mapOpen _ | arrOpen _ =>
    refine .inl ?_
    simp only [CborEnc.step, CborEnc.stepOpen]
    cases CborEnc.valuePos s.current <;> rfl
  | mapClose =>
    simp only [CborEnc.step, CborEnc.stepMapClose]
    cases s.current with
    | mapDefKey => exact .inr (cbor_popRet_writes s [] false)
    | mapIndefKey => exact .inl (cbor_popRet_checked s _)
    | any | mapDefVal | mapIndefVal | arrDef | arrIndef => exact .inl rfl
  | arrClose =>
    simp only [CborEnc.step, CborEnc.stepArrClose]
    cases s.current with
    | arrDef => exact .inr (cbor_popRet_writes s [] false)
    | arrIndef => exact .inl (cbor_popRet_checked s _)
    | any | mapDefKey | mapDefVal | mapIndefKey | mapIndefVal => exact .inl rfl
  | null | bytes _ | bool _ | float _ =>
    refine .inl ?_
    simp only [CborEnc.step, CborEnc.stepValueOnly]
    cases CborEnc.valuePos s.current <;> rfl
  | str _ | int _ | uint _ =>
    refine .inl ?_
    simp only [CborEnc.step, CborEnc.stepKeyable]
    cases CborEnc.valuePos s.current with
    | some c => rfl
    | none => cases CborEnc.keyPos s.current <;> rfl

/-! The JSON encoder model has no nil-error return: a value's is `valueRet`'s, a close's is `.ck` or a panic,
    everything else is written out in the step functions. -/

theorem json_valueRet_checked (s : JsonEnc.St) (pre : List Bytes) (d : Bool) (fl : JsonEnc.Flush) :
    checked (JsonEnc.valueRet s pre d fl).ret = true := by
  cases fl <;> rfl

theorem json_honest (c : JsonEnc.Cfg) (ff : Nat → Bytes) : Honest (JsonEnc.step c ff) := by
  refine honest_of_checked fun s t => .inl ?_
  obtain ⟨body, tag⟩ := t
  unfold JsonEnc.step
  cases s.current with
  | any =>
    cases body with
    | mapOpen _ | arrOpen _ | mapClose | arrClose => rfl
    | null | str _ | bytes _ | bool _ | int _ | uint _ | float _ => exact json_valueRet_checked ..
  | mapKey =>
    cases body with
    | mapClose => simp only [JsonEnc.stepMapKey]; cases JsonEnc.pop c s <;> rfl
    | mapOpen _ | arrOpen _ | arrClose | null | str _ | bytes _ | bool _ | int _ | uint _ | float _ => rfl
  | mapVal =>
    cases body with
    | mapOpen _ | arrOpen _ | mapClose | arrClose => rfl
    | null | str _ | bytes _ | bool _ | int _ | uint _ | float _ => exact json_valueRet_checked ..
  | arr =>
    cases body with
    | arrClose => simp only [JsonEnc.stepArr]; cases JsonEnc.pop c s <;> rfl
    | mapOpen _ | arrOpen _ | mapClose => rfl
    | null | str _ | bytes _ | bool _ | int _ | uint _ | float _ => exact json_valueRet_checked ..

end Refmt.C16L
