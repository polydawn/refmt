/-
  C15 support: client programs of the reader interface (`Prog`) and their two interpreters, over the scheduled
  reader (`runSched`) and over the abstract cursor (`runCursor`).  Props/C15.lean proves the two agree; the
  decoder models are written as such programs in Lemmas/C15Cbor.lean and Lemmas/C15Json.lean.
-/
import RefmtModel
namespace Refmt.C15
open Refmt Refmt.Sched

inductive Prog (α : Type) where
  | ret (a : α)
  | read1 (unread : Nat → Bool) (k : Except Err Nat → Prog α)   -- `unread b`: push the byte just read back
  | readN (n : Nat) (k : Except Err Bytes → Prog α)

/-- `none`: the model's unread precondition failed (a Go panic) -/
def runSched {α : Type} : Prog α → Sc → Option α
  | .ret a, _ => some a
  | .read1 u k, z =>
    match z.readn1.1 with
    | .ok b =>
      if u b then
        (match z.readn1.2.unreadByte with
         | some z'' => runSched (k (.ok b)) z''
         | none => none)
      else runSched (k (.ok b)) z.readn1.2
    | .error e => runSched (k (.error e)) z.readn1.2
  | .readN n k, z => runSched (k (z.readN n).1) (z.readN n).2

def runCursor {α : Type} : Prog α → Rd → Option α
  | .ret a, _ => some a
  | .read1 u k, rd =>
    match rd.read1.1 with
    | .ok (b, rd2) =>
      if u b then runCursor (k (.ok b)) (rd2.unread1 b) else runCursor (k (.ok b)) rd2
    | .error e => runCursor (k (.error e)) rd.read1.2
  | .readN n k, rd => runCursor (k (rd.readN n).1) (rd.readN n).2

end Refmt.C15
