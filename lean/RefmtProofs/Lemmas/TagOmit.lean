/-
  C12, claim (ii) with tags — `omitempty` on a field of a reconstructed struct (see RefmtProofs/Props/C12Tagged.lean).
  The re-marshal applies `omitempty` to the ROUND-TRIP values of the fields; for a field of a `plainField` type that omits
  exactly what was, or comes back as, the zero value; `omit_items` says what that means for the struct as a whole.
-/
import RefmtProofs.Lemmas.TagDefs
import RefmtProofs.Lemmas.LegStruct
import RefmtProofs.Lemmas.AutogenList
namespace Refmt.Obj
open Refmt Refmt.C13 Refmt.C11 Refmt.C12 Refmt.C12L

variable {ts : Types} {a : Atlas} {trs : Trs} {it : IfaceTys}

theorem plainField_entry {ty : Nat} {e : Entry} (hnp : ∀ x, ts.get ty ≠ .ptr x) (hg : a.get ty = some e)
    (hpl : plainField ts a ty = true) : ∃ ms, e.k = .union ms := by
  unfold plainField at hpl
  split at hpl
  · rename_i x hd; exact absurd hd (hnp x)
  · rw [hg] at hpl
    simp only at hpl
    split at hpl
    · exact ⟨_, by assumption⟩
    · cases hpl

theorem isEmpty_zero_of_plain {p k ty : Nat} {x : Val} (hfull : fullTy ts a p ty = true) (hpl : plainField ts a ty = true)
    (hv : hasTy ts k ty x = true) (he : isEmpty 1000 x = true) : isEmpty 1000 (zeroVal ts 63 ty) = true := by
  cases p with
  | zero => simp [fullTy] at hfull
  | succ p =>
  cases k with
  | zero => simp [hasTy] at hv
  | succ k =>
  rw [zeroVal_one_level 62]
  cases hd : ts.get ty with
  | prim kd b => cases kd <;> rfl
  | bytes _ | slice _ | map _ _ | ptr _ | iface _ => rfl
  | byteArr n | arr n _ =>
    -- an empty value of a fixed-length type: the length is 0, and so is the zero value's
    cases x <;> simp only [hasTy, hd] at hv <;> try (cases hv; done)
    rename_i es
    have hb : es = [] := by
      have : es.isEmpty = true := he
      simpa using this
    subst hb
    simp at hv
    subst hv
    rfl
  | struct _ | other =>
    -- not `plainField` types within the class: no entry is not `fullTy`, an entry would have to be a keyed union's
    exfalso
    have hnp : ∀ x, ts.get ty ≠ .ptr x := by simp [hd]
    cases hg : a.get ty with
    | none => simp [fullTy, hd, hg] at hfull
    | some en =>
      obtain ⟨ms, hk⟩ := plainField_entry hnp hg hpl
      obtain ⟨reg, ty', tag, k⟩ := en
      subst hk
      simp [fullTy, hd, hg] at hfull

theorem isEmpty_wrapPtr_succ (n : Nat) (x : Val) : isEmpty 1000 (wrapPtr (n+1) x) = false := rfl

theorem rtFB_wild_shape (g id : Nat) (v : Val) :
    (∃ o, rtFB ts a trs it (g+1) id .wildcard v = .iface o) ∨ rtFB ts a trs it (g+1) id .wildcard v = v := by
  -- the slot's clause of `rtFB`: every branch for a boxed value builds `.iface _`, any other value is returned as it is
  rw [rtFB.eq_def]
  simp only
  split
  · left
    repeat' split
    all_goals exact ⟨_, rfl⟩
  · exact Or.inr rfl

theorem rtF_empty_zero {p g ty : Nat} {v : Val} (hfull : fullTy ts a p ty = true) (hp64 : p ≤ 64)
    (hpl : plainField ts a ty = true) (hne : isEmpty 1000 v = false) (he : isEmpty 1000 (rtF ts a trs it g ty v) = true) :
    rtF ts a trs it g ty v = zeroVal ts 63 ty := by
  cases g with
  | zero => rw [rtF] at he; rw [he] at hne; cases hne
  | succ g =>
  obtain ⟨n, base, p', hpeel, hpb, hnpb, hch, hp'p⟩ := full_peel ts a p 64 0 ty hfull hp64
  simp only [Nat.zero_add] at hpeel
  cases n with
  | succ n =>
    obtain ⟨e, hd, -⟩ := hch
    rw [zeroVal_one_level 62, hd]
    rw [rtF_succ, hpeel] at he ⊢
    have hn0 : ((n + 1 == 0) = false) := by simp
    simp only [hn0, Bool.false_eq_true, if_false] at he ⊢
    split
    · rfl
    · split
      · rfl
      · rename_i inner hdn hns
        simp only [hdn, hns, Bool.false_eq_true, if_false, isEmpty_wrapPtr_succ] at he
  | zero =>
    cases hch
    rw [rtF_nonptr ts a trs it hnpb] at he ⊢
    cases g with
    | zero => rw [rtFB] at he; rw [he] at hne; cases hne
    | succ g =>
    cases fullTy_view hpb hnpb with
    | prim k b hd hn => rw [(pick_prim hd hn).1, rtFB_prim] at he; rw [he] at hne; cases hne
    | bytes b hd hn => rw [(pick_bytes hd hn).1, rtFB_prim] at he; rw [he] at hne; cases hne
    | byteArr n hd hn => rw [(pick_byteArr hd hn).1, rtFB_prim] at he; rw [he] at hne; cases hne
    | slice e hd hn _ =>
      -- a container's round-trip value has as many elements as the container
      rw [(pick_slice hd hn).1, rtFB_slice] at he
      split at he
      · rename_i vs
        cases vs <;> simp [isEmpty] at he hne
      · rw [he] at hne; cases hne
    | arr n e hd hn _ =>
      rw [(pick_arr hd hn).1, rtFB_array] at he
      split at he
      · rename_i vs
        cases vs <;> simp [isEmpty] at he hne
      · rw [he] at hne; cases hne
    | map kt vt bk hd hn _ _ =>
      rw [(pick_map hd hn).1, rtFB_map] at he
      split at he
      · rename_i es
        have h1 : ((sortKeys a.defaultSort (es.map fun (q : Val × Val) => (keyStr q.1, q.2))).map
            fun (q : Bytes × Val) => (Val.str q.1, rtF ts a trs it g vt q.2)).isEmpty = true := he
        rw [List.isEmpty_iff_length_eq_zero] at h1
        simp only [List.length_map, ObjL.sortKeys_length] at h1
        cases es
        · cases hne
        · simp at h1
      · rw [he] at hne; cases hne
    | wild hd hn =>
      rw [(pick_wild hd hn).1] at he ⊢
      rcases rtFB_wild_shape (ts := ts) (a := a) (trs := trs) (it := it) g ty v with ⟨o, ho⟩ | ho
      · rw [ho] at he ⊢
        cases o with
        | some _ => cases he
        | none =>
          rw [zeroVal_one_level 62, hd]
      · rw [ho] at he; rw [he] at hne; cases hne
    | struct fds reg ty' tag fields hd hent _ _ _ =>
      obtain ⟨ms, hk⟩ := plainField_entry hnpb hent hpl
      cases hk
    | transform reg ty' tag fn mty hb hent _ _ _ =>
      obtain ⟨ms, hk⟩ := plainField_entry hnpb hent hpl
      cases hk
    | union m reg ty' tag members hd hent _ _ =>
      -- a keyed union comes back as a keyed union, never as nil
      rw [(pick_union hd hent).1, rtFB_union] at he
      split at he
      · split at he
        · split at he
          · cases he
          · rw [he] at hne; cases hne
        · rw [he] at hne; cases hne
      · rw [he] at hne; cases hne

theorem omit_items {p k g : Nat} {fds : List FieldDesc} {fields : List SMField} {vs : List Val} {fitems : List (SMField × Item)}
    (hp64 : p + 1 ≤ 64) (hroutes : (fields.map (·.route)).Nodup) (hfok : ∀ fld ∈ fields, FOKF ts a p fds fld)
    (homit : ∀ fld ∈ fields, OmitOk ts a fld) (hvl : vs.length = fds.length)
    (hv : ∀ (i : Nat) fd x, fds[i]? = some fd → vs[i]? = some x → hasTy ts k fd.ty x = true)
    (hfl : fitems.map (·.1) = fields.filter (emitP (.struct vs))) (hrnd : (fitems.map fun q => routeIdx q.1).Nodup)
    (hall : ∀ q ∈ fitems, ∃ i fd fv, q.1.route = [i] ∧ fds[i]? = some fd ∧ vs[i]? = some fv ∧
      q.2.r = rtF ts a trs it g q.1.ty fv)
    (ws : List Val) (hws : ws = fitems.foldl setStep (fds.map fun fd => zeroVal ts 63 fd.ty)) :
    (∀ q ∈ fitems, traverse q.1.route (.struct ws) = some q.2.r) ∧
    fields.filter (emitP (.struct ws)) = (fitems.filter fun q => emitP (.struct ws) q.1).map (·.1) ∧
    ws = (fitems.filter fun q => emitP (.struct ws) q.1).foldl setStep (fds.map fun fd => zeroVal ts 63 fd.ty) := by
  have hmemF : ∀ q ∈ fitems, q.1 ∈ fields ∧ emitP (.struct vs) q.1 = true := mem_filter_of_map_eq hfl
  have hidx : ∀ {q : SMField × Item} {i : Nat}, q.1.route = [i] → routeIdx q.1 = i := by
    intro q i hi; simp [routeIdx, hi]
  have hzero : ∀ (i : Nat) fd, fds[i]? = some fd → (fds.map fun fd => zeroVal ts 63 fd.ty)[i]? = some (zeroVal ts 63 fd.ty) := by
    intro i fd hfd
    rw [List.getElem?_map, hfd]; rfl
  have hget : ∀ q ∈ fitems, ∀ i, q.1.route = [i] → ws[i]? = some q.2.r := by
    intro q hq i hroute
    rw [hws, ← hidx hroute]
    exact foldl_setAt_get fitems _ hrnd (fun y hy => by
      obtain ⟨j, fd', _, hroute', hfd', -⟩ := hall y hy
      rw [hidx hroute', List.length_map]
      exact (List.getElem?_eq_some_iff.mp hfd').1) q hq
  -- a field left out for `vs` has no item: its slot of `ws` holds the zero value, which is empty as the slot of `vs` was
  have hc1 : ∀ fld ∈ fields, emitP (.struct vs) fld = false → emitP (.struct ws) fld = false := by
    intro fld hfld hev
    obtain ⟨hign, ⟨i, fd, hroute, hfd, hty⟩, hst⟩ := hfok fld hfld
    have hilt : i < vs.length := hvl ▸ (List.getElem?_eq_some_iff.mp hfd).1
    have hxi : vs[i]? = some (vs[i]'hilt) := List.getElem?_eq_getElem hilt
    rw [emitP_at hign hroute hxi] at hev
    simp only [Bool.not_eq_false', Bool.and_eq_true] at hev
    have hwi : ws[i]? = some (zeroVal ts 63 fd.ty) := by
      rw [hws, ← hzero i fd hfd]
      apply foldl_setAt_get_other
      intro q hq heq
      obtain ⟨i', -, -, hroute', -⟩ := hall q hq
      rw [hidx hroute'] at heq
      subst heq
      obtain rfl : q.1 = fld :=
        Autogen.eq_of_nodup_map (·.route) fields hroutes _ _ (hmemF q hq).1 hfld (by rw [hroute, hroute'])
      have := (hmemF q hq).2
      rw [emitP_at hign hroute hxi] at this
      simp [hev.1, hev.2] at this
    rw [emitP_at hign hroute hwi, hev.1, hty]
    have hze := isEmpty_zero_of_plain hst (homit fld hfld hev.1) (by rw [← hty]; exact hv i fd _ hfd hxi) hev.2
    simp [hze]
  -- an item left out for `ws`: its value is empty, the slot's value in `vs` was not, so it is the zero value
  have hc2 : ∀ q ∈ fitems, emitP (.struct ws) q.1 = false →
      (fds.map fun fd => zeroVal ts 63 fd.ty)[routeIdx q.1]? = some q.2.r := by
    intro q hq hPq
    obtain ⟨i, fd, fv, hroute, hfd, hvi, hr⟩ := hall q hq
    obtain ⟨hign, ⟨j, fd', hroute', hfd', hty⟩, hst⟩ := hfok q.1 (hmemF q hq).1
    rw [hroute] at hroute'
    cases hroute'
    rw [hfd] at hfd'
    cases hfd'
    have hev := (hmemF q hq).2
    rw [emitP_at hign hroute hvi] at hev
    rw [emitP_at hign hroute (hget q hq i hroute)] at hPq
    simp only [Bool.not_eq_false', Bool.and_eq_true] at hPq
    simp only [hPq.1, Bool.true_and, Bool.not_eq_true'] at hev
    have hrz := rtF_empty_zero (trs := trs) (it := it) (g := g) hst (by omega) (homit q.1 (hmemF q hq).1 hPq.1)
      hev (by rw [← hr]; exact hPq.2)
    rw [hidx hroute, hzero i fd hfd, hr, hrz, hty]
  refine ⟨fun q hq => ?_, ?_, ?_⟩
  · obtain ⟨i, -, -, hroute, -⟩ := hall q hq
    rw [hroute, traverse_one]
    exact hget q hq i hroute
  · have e1 : fields.filter (emitP (.struct ws)) = fields.filter (fun f => emitP (.struct ws) f && emitP (.struct vs) f) := by
      apply List.filter_congr
      intro fld hfld
      cases hev : emitP (.struct vs) fld with
      | false => simp [hc1 fld hfld hev]
      | true => simp
    rw [e1, ← List.filter_filter, ← hfl, List.filter_map]
    rfl
  · rw [← foldl_setAt_filter _ fitems _ hrnd hc2]
    exact hws

end Refmt.Obj
