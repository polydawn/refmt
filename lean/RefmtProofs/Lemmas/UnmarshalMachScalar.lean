/-
  Stateful object unmarshaller (UnmarshalMach.lean) against the functional model: the SCALAR fragment
  (primitive machine incl. range checks, byte strings / byte arrays, error thunks; directly or behind pointers of
  any depth).  One token per value: the whole run is one `Step`, and the simulation's statement about one child-free
  token (`Act0.agree`), read at the top of the stack (`Agree.top`), is an equation with no bound on the fuel beyond
  what that `Step` needs.
-/
import RefmtProofs.Lemmas.UnmarshalMachMain
namespace Refmt.UMachL
open Refmt Refmt.Obj Refmt.Obj.UM

variable {ts : Types} {a : Atlas} {trs : Trs} {it : IfaceTys}

def Scalar (ts : Types) (a : Atlas) (id : Nat) : Prop :=
  upickBare ts a (peel ts 64 0 id).2 = .prim ∨ upickBare ts a (peel ts 64 0 id).2 = .errThunk

@[simp] theorem zero_anyKind : URow.zero.prim.anyKind = false := rfl

theorem scalar_leaf {n g d fr sf1 sf base : Nat} {k : MK} {row : URow} {c : URef} {w : Val → Val} {cur : Val} {t : Tok}
    {rest : List Tok} (hM : upickBare ts a base = .prim ∨ upickBare ts a base = .errThunk)
    (hcfg : UMachU.CfgBare ts a row base k (upickBare ts a base)) (hw : UMachU.Wr trs.u c [] row k some w d none)
    (hsf1 : sf1 = g + 1 + d + 1) (hg : 3 ≤ g + 1 + d) :
    UMachU.rtpB ts a trs it (fr+1) sf1 sf ([] ++ row :: []) [] none c ⟨([] : List URow).length, k⟩ base cur (t :: rest)
      = (unmBare ts a trs it (n+1) base (upickBare ts a base) cur (t :: rest)).bind' (fun v r u => .ok (w v) r u) 0 := by
  subst hsf1
  rcases hM with hM | hM <;> rw [hM] at hcfg ⊢
  · obtain ⟨rfl, hty, hak⟩ := hcfg
    simp only [UMachU.rtpB, UMachU.prim_reset]
    rw [unmBare_prim]
    refine UMachU.Agree.top (ub := 0) ((UMachU.prim_act (row := UMachU.rowPr row cur) hty hak [] [] t rest).agree
      (.first _ _) (hw.congr rfl) hg fun _ _ _ _ h => h.elim) fun u => ?_
    split <;> exact URes.noConfusion
  · obtain ⟨rfl, he⟩ := hcfg
    rw [unmBare_errThunk]
    simp only [UMachU.rtpB, UMachU.err_reset (lo := []) he]
    rfl

theorem refines_scalar {n sf id : Nat} (hn : 2 ≤ n) (hsf : 4 ≤ sf) (h : Scalar ts a id)
    (dirty : UState) (cur : Val) (toks : List Tok) :
    urun ts a trs it sf (UM.bind ts a sf dirty id cur) toks = unmV ts a trs it n id cur toks := by
  obtain ⟨n, rfl⟩ : ∃ n', n = n' + 2 := ⟨n - 2, by omega⟩
  obtain ⟨sf, rfl⟩ : ∃ s', sf = s' + 4 := ⟨sf - 4, by omega⟩
  have h : upickBare ts a (peel ts 64 0 id).2 = .prim ∨ upickBare ts a (peel ts 64 0 id).2 = .errThunk := h
  have hS : UMachU.Closed ts a [id] none := fun i hi => by
    obtain rfl := List.mem_singleton.1 hi
    rcases h with h | h <;> rw [h] <;> trivial
  obtain ⟨crow, ck, ⟨k, hb, hp⟩, hrun⟩ := UMachU.urun_bind (trs := trs) (it := it) hS (List.mem_singleton_self id) (sf + 4)
    (by omega) dirty cur toks
  rw [hrun]
  cases toks with
  | nil => rw [unmV_succ_nil]; rfl
  | cons t rest =>
    rw [unmV_cons]
    by_cases h0 : (peel ts 64 0 id).1 = 0
    · simp only [beq_iff_eq, h0, if_true] at hp ⊢
      subst hp
      have hbase := ObjL.peel_zero h0
      rw [hbase] at hb h ⊢
      rw [UMachU.rtp_eq]
      refine (scalar_leaf (n := n) (g := sf + 2) h hb (UMachU.Wr.refl [] crow ck) rfl (by omega)).trans ?_
      cases unmBare ts a trs it (n+1) id (upickBare ts a id) cur (t :: rest) <;> rfl
    · simp only [beq_iff_eq, h0, if_false] at hp ⊢
      obtain ⟨rfl, hm, hpc⟩ := hp
      rw [UMachU.rtp_ptr]
      by_cases hnull : t.body = .null
      · rw [UMachU.ptr_null (g := sf + 1) hm hnull]
        simp only [hnull]
        rfl
      · rw [UMachU.ptr_first (g := sf + 1) hb hm hnull, hpc]
        have hw := UMachU.WrP.ptrS (lo := []) (row := UMachU.rowP crow cur id false) hm rfl
        rw [show (UMachU.rowP crow cur id false).ptr.peelCount = (peel ts 64 0 id).1 from hpc] at hw
        refine (scalar_leaf (n := n) (g := sf + 1) h
          (hb.sameC (UMachU.rowP_sameC crow cur id false)) hw.toWr rfl (by omega)).trans ?_
        split
        · next hb' => exact absurd hb' hnull
        · rfl

end Refmt.UMachL
