/-
  Encoder-machine lemmas for C03: `runOut` over a `cont` prefix with the bytes written, single steps of
  `JsonEnc.step` in each position, and the whitespace options against `stripWs`.
-/
import RefmtProofs.Lemmas.JsonText
namespace Refmt.C03L
open Refmt Refmt.JsonEnc

abbrev stp (c : Cfg) : St → Tok → EncOut St := step c FloatText.jsonFloat

/-- From `s`, the tokens `ts` are all answered `cont`, write the bytes `bs`, and leave the machine in `s'`. -/
def Runs (c : Cfg) (s : St) (ts : List Tok) (bs : Bytes) (s' : St) : Prop :=
  ∀ more, (runOut (stp c) s (ts ++ more)).1 = List.replicate ts.length Flag.cont ++ (runOut (stp c) s' more).1 ∧
    (runOut (stp c) s (ts ++ more)).2.flatten = bs ++ (runOut (stp c) s' more).2.flatten

theorem Runs.nil (c : Cfg) (s : St) : Runs c s [] [] s := by
  intro more; simp

theorem Runs.single {c : Cfg} {s s' : St} {t : Tok} {bs : Bytes}
    (hf : (stp c s t).ret.flag = .cont) (hs : (stp c s t).st = s') (hw : (stp c s t).writes.flatten = bs) :
    Runs c s [t] bs s' := by
  intro more
  simp only [List.singleton_append, runOut, hf, hs, List.length_cons, List.length_nil, List.flatten_append, hw]
  simp

theorem Runs.append {c : Cfg} {s s' s'' : St} {ts us : List Tok} {bs bs' : Bytes}
    (h1 : Runs c s ts bs s') (h2 : Runs c s' us bs' s'') : Runs c s (ts ++ us) (bs ++ bs') s'' := by
  intro more
  obtain ⟨a1, a2⟩ := h1 (us ++ more)
  obtain ⟨b1, b2⟩ := h2 more
  rw [List.append_assoc, a1, a2, b1, b2]
  simp only [List.length_append, List.append_assoc, ← List.replicate_append_replicate, and_self]

theorem Runs.finish {c : Cfg} {s s' : St} {ts : List Tok} {bs bs' : Bytes} {t : Tok}
    (h : Runs c s ts bs s') (hf : (stp c s' t).ret.flag = .done) (hw : (stp c s' t).writes.flatten = bs') :
    (runOut (stp c) s (ts ++ [t])).1 = List.replicate ts.length Flag.cont ++ [Flag.done] ∧
    (runOut (stp c) s (ts ++ [t])).2.flatten = bs ++ bs' := by
  obtain ⟨a1, a2⟩ := h [t]
  rw [a1, a2]
  simp [runOut, hf, hw]

theorem entrySep_flat (c : Cfg) (s : St) : (entrySep c s).flatten = sep c s.stack.length s.some := by
  unfold entrySep sep
  cases s.some <;> simp []

theorem closeIndent_flat (c : Cfg) (s : St) : (closeIndent c s).flatten = closeSep c s.stack.length s.some := by
  unfold closeIndent closeSep
  cases s.some <;> simp []

theorem emitString_flat (s : Bytes) : (emitString s).flatten = 34 :: (esc s ++ [34]) := by
  simp [emitString, esc, List.flatten_append]

theorem flushValue_ok (b : Body) (h : encOk b = true) :
    ∃ ws, flushValue FloatText.jsonFloat b = .ok ws ∧ ws.flatten = scalarTxt b := by
  cases b <;> simp [encOk] at h
  · exact ⟨_, rfl, rfl⟩
  · exact ⟨_, rfl, emitString_flat _⟩
  · rename_i x; cases x <;> exact ⟨_, rfl, rfl⟩
  · exact ⟨_, rfl, by simp [scalarTxt]⟩
  · exact ⟨_, rfl, by simp [scalarTxt]⟩
  · rename_i x; exact ⟨[FloatText.jsonFloat x], by simp [flushValue, h], by simp [scalarTxt]⟩

theorem encOk_value {b : Body} (h : encOk b = true) : isOpenOrClose b = false := by
  cases b <;> first | rfl | cases h

theorem stepAny_value (c : Cfg) (ff : Nat → Bytes) (s : St) {b : Body} (h : isOpenOrClose b = false) :
    stepAny c ff s b = valueRet s [] true (flushValue ff b) := by
  cases b <;> first | rfl | cases h

theorem stepMapVal_value (c : Cfg) (ff : Nat → Bytes) (s : St) {b : Body} (h : isOpenOrClose b = false) :
    stepMapVal c ff s b = valueRet { s with current := .mapKey } [] false (flushValue ff b) := by
  cases b <;> first | rfl | cases h

theorem stepArr_value (c : Cfg) (ff : Nat → Bytes) (s : St) {b : Body} (h : isOpenOrClose b = false) :
    stepArr c ff s b = valueRet { s with some := true } (entrySep c s) false (flushValue ff b) := by
  cases b <;> first | rfl | cases h

-- A value stands in an array (`inArr`) or behind a map key, over the stack `r`: `vS` is the encoder's state before it (`sm`: an
-- element came before), `vE` the state after it, `vPre` what is written before it (the separator in an array, nothing behind a key).
def topPh (inArr : Bool) : Phase := if inArr then .arr else .mapKey
def vS (inArr : Bool) (r : List Phase) (sm : Bool) : St := if inArr then ⟨.arr :: r, .arr, sm⟩ else ⟨.mapKey :: r, .mapVal, true⟩
def vE (inArr : Bool) (r : List Phase) : St := ⟨topPh inArr :: r, topPh inArr, true⟩
def vPre (c : Cfg) (inArr : Bool) (r : List Phase) (sm : Bool) : Bytes := if inArr then sep c (r.length + 1) sm else []

theorem step_scalar (c : Cfg) (inArr : Bool) (r : List Phase) (sm : Bool) (t : Tok) (h : encOk t.body = true) :
    Runs c (vS inArr r sm) [t] (vPre c inArr r sm ++ scalarTxt t.body) (vE inArr r) := by
  obtain ⟨ws, hws, hflat⟩ := flushValue_ok t.body h
  have hv := encOk_value h
  cases inArr
  · have e : stp c (vS false r sm) t = ⟨vE false r, ws, .ck false⟩ := by
      simp only [stp, step, vS, Bool.false_eq_true, if_false, stepMapVal_value _ _ _ hv, hws, valueRet]
      rfl
    exact Runs.single (by rw [e]; rfl) (by rw [e]) (by rw [e]; simpa [vPre] using hflat)
  · have e : stp c (vS true r sm) t = ⟨vE true r, entrySep c (vS true r sm) ++ ws, .ck false⟩ := by
      simp only [stp, step, vS, if_true, stepArr_value _ _ _ hv, hws, valueRet]
      rfl
    exact Runs.single (by rw [e]; rfl) (by rw [e])
      (by rw [e]; simp [vS, vPre, List.flatten_append, entrySep_flat, hflat])

/-! The two kinds of container differ in a Boolean only, that of `topPh`: `true` an array, `false` a map
    (`isMap` of `Basics`, on the CBOR side, is the other way round). -/

def openBody : Bool → Int → Body
  | true, len => .arrOpen len
  | false, len => .mapOpen len
def closeBody : Bool → Body
  | true => .arrClose
  | false => .mapClose
def openB : Bool → Nat
  | true => 91
  | false => 123
def closeB : Bool → Nat
  | true => 93
  | false => 125

theorem step_open (c : Cfg) (a inArr : Bool) (r : List Phase) (sm : Bool) (len : Int) (tag : Option Int) :
    Runs c (vS inArr r sm) [⟨openBody a len, tag⟩] (vPre c inArr r sm ++ [openB a])
      ⟨topPh a :: topPh inArr :: r, topPh a, false⟩ := by
  cases a <;> cases inArr <;> apply Runs.single <;>
    simp [stp, step, vS, vPre, topPh, openBody, openB, stepArr, stepMapVal, push, Ret.flag, List.flatten_append, entrySep_flat]

theorem step_close (c : Cfg) (a : Bool) (p : Phase) (r : List Phase) (sm : Bool) :
    Runs c ⟨topPh a :: p :: r, topPh a, sm⟩ [⟨closeBody a, none⟩] (closeSep c (r.length + 2) sm ++ [closeB a])
      ⟨p :: r, p, true⟩ := by
  cases a <;> apply Runs.single <;>
    simp [stp, step, topPh, closeBody, closeB, stepArr, stepMapKey, pop, Ret.flag, List.flatten_append, closeIndent_flat]

theorem step_key (c : Cfg) (r : List Phase) (sm : Bool) (k : Bytes) (tag : Option Int) :
    Runs c ⟨.mapKey :: r, .mapKey, sm⟩ [⟨.str k, tag⟩]
      (sep c (r.length + 1) sm ++ ((34 :: (esc k ++ [34])) ++ colon c)) (vS false r true) := by
  apply Runs.single
  · simp [stp, step, stepMapKey, Ret.flag]
  · simp [stp, step, stepMapKey, vS]
  · simp only [stp, step, stepMapKey, List.flatten_append, entrySep_flat, emitString_flat, colon]
    cases c.line <;> simp

theorem top_scalar (c : Cfg) (t : Tok) (h : encOk t.body = true) :
    (stp c init t).ret.flag = .done ∧ (stp c init t).writes.flatten = scalarTxt t.body := by
  obtain ⟨ws, hws, hflat⟩ := flushValue_ok t.body h
  have e : stp c init t = ⟨init, ws, .ck true⟩ := by
    simp only [stp, step, init, stepAny_value _ _ _ (encOk_value h), hws, valueRet, List.nil_append]
  rw [e]
  exact ⟨rfl, hflat⟩

theorem top_open (c : Cfg) (a : Bool) (len : Int) (tag : Option Int) :
    Runs c init [⟨openBody a len, tag⟩] [openB a] ⟨[topPh a], topPh a, false⟩ := by
  cases a <;> apply Runs.single <;> simp [stp, step, init, topPh, openBody, openB, stepAny, push, Ret.flag]

theorem top_close (c : Cfg) (a : Bool) (sm : Bool) :
    (stp c ⟨[topPh a], topPh a, sm⟩ ⟨closeBody a, none⟩).ret.flag = .done ∧
    (stp c ⟨[topPh a], topPh a, sm⟩ ⟨closeBody a, none⟩).writes.flatten = closeSep c 1 sm ++ [closeB a] ++ c.lineBytes := by
  cases a <;> constructor <;>
    simp [stp, step, topPh, closeBody, closeB, stepArr, stepMapKey, pop, Ret.flag, List.flatten_append, closeIndent_flat]


structure CfgWs (c : Cfg) : Prop where
  line : WsOnly c.lineBytes
  indent : WsOnly c.indent

theorem sep_tail_ws {c : Cfg} (h : CfgWs c) (d : Nat) : WsOnly (c.lineBytes ++ (List.replicate d c.indent).flatten) :=
  WsOnly.append h.line (WsOnly.replicate _ _ h.indent)

theorem closeSep_ws {c : Cfg} (h : CfgWs c) (d : Nat) (sm : Bool) : WsOnly (closeSep c d sm) := by
  unfold closeSep
  split
  · exact sep_tail_ws h _
  · exact WsOnly.nil

theorem replicate_nil_flat (n : Nat) : (List.replicate n ([] : Bytes)).flatten = [] := by
  induction n with
  | zero => rfl
  | succ n ih => simp [List.replicate_succ, ih]

theorem sep_compact (d : Nat) (sm : Bool) : sep ⟨none, []⟩ d sm = if sm then [44] else [] := by
  simp [sep, Cfg.lineBytes]

theorem closeSep_compact (d : Nat) (sm : Bool) : closeSep ⟨none, []⟩ d sm = [] := by
  simp [closeSep, Cfg.lineBytes]

theorem colon_compact : colon ⟨none, []⟩ = [58] := rfl

open Refmt.Spec.Json in
theorem stripWs_sep {c : Cfg} (h : CfgWs c) (d : Nat) (sm : Bool) (X : Bytes) :
    stripWs (sep c d sm ++ X) false false = sep ⟨none, []⟩ d sm ++ stripWs X false false := by
  rw [sep_compact]
  unfold sep
  cases sm
  · simp only [Bool.false_eq_true, if_false, List.nil_append]
    exact stripWs_ws _ _ (sep_tail_ws h d)
  · simp only [if_true, List.cons_append, List.nil_append, List.append_assoc]
    rw [← List.append_assoc]
    simp only [stripWs, Bool.false_eq_true, if_false]
    have : JsonDec.isWs 44 = false := by decide
    simp only [this, show ((44 : Nat) == 34) = false by decide, Bool.false_eq_true, if_false]
    rw [stripWs_ws _ _ (sep_tail_ws h d)]

open Refmt.Spec.Json in
theorem stripWs_close {c : Cfg} (h : CfgWs c) (d : Nat) (sm : Bool) (b : Nat) (hb : b = 93 ∨ b = 125) (X : Bytes) :
    stripWs (closeSep c d sm ++ (b :: X)) false false = b :: stripWs X false false := by
  rw [stripWs_ws _ _ (closeSep_ws h d sm)]
  rcases hb with rfl | rfl <;> simp [stripWs, JsonDec.isWs]

open Refmt.Spec.Json in
theorem stripWs_colon (c : Cfg) (X : Bytes) :
    stripWs (colon c ++ X) false false = 58 :: stripWs X false false := by
  unfold colon
  cases c.line <;> simp [stripWs, JsonDec.isWs]

open Refmt.Spec.Json in
theorem stripWs_open (b : Nat) (hb : b = 91 ∨ b = 123) (X : Bytes) :
    stripWs (b :: X) false false = b :: stripWs X false false := by
  rcases hb with rfl | rfl <;> simp [stripWs, JsonDec.isWs]

end Refmt.C03L
