/-
  Facts about what the marshaller's and the unmarshaller's proofs share of the object model (RefmtModel/Model/Obj): the
  peeling of pointer types (`chain`: a type is `n` pointer types over a base), the atlas, the choice of a machine for a
  type (`pick_*`, in the namespaces `C13`, `C11`, `Obj` of their first users; back from the machine to the atlas entry:
  `entry_of_pickBare`, `entry_of_machForEntry`), the marshaller's output type `MOut` with `seq` and the bracket of a container, the scalar
  machine `primTok`, the tag on the first token, key lists and `mapM`, one-step routes into a struct.  No step equation
  of either side is used here.
-/
import RefmtModel
open Refmt Refmt.Obj

namespace Refmt.ObjL

theorem peel_nonptr (ts : Types) (fuel n id : Nat) (h : ∀ e, ts.get id ≠ .ptr e) : peel ts fuel n id = (n, id) := by
  cases fuel with
  | zero => rfl
  | succ fuel =>
    unfold peel
    split
    · next e he => exact absurd he (h e)
    · rfl

theorem peel_spec (ts : Types) (f n id : Nat) :
    n ≤ (peel ts f n id).1 ∧ ((peel ts f n id).1 = n → (peel ts f n id).2 = id) := by
  induction f generalizing n id with
  | zero => simp [peel]
  | succ f ih =>
    unfold peel
    split
    · rename_i e _
      have := ih (n + 1) e
      constructor
      · omega
      · intro h; omega
    · simp

theorem peel_zero {ts : Types} {fuel id : Nat} (h : (peel ts fuel 0 id).1 = 0) : (peel ts fuel 0 id).2 = id :=
  (peel_spec ts fuel 0 id).2 h

theorem atlas_get_ty {a : Atlas} {id : Nat} {e : Entry} (h : a.get id = some e) : e.ty = id := by
  have := List.find?_some h
  simp at this
  exact this.2

/-- `_yieldBareMarshalMachinePtr` and its unmarshalling twin look the predeclared kinds up before the atlas: hence `hp`,
    `hb`. -/
theorem pick_entry {ts : Types} {a : Atlas} {id : Nat} {e : Entry} (he : a.get id = some e)
    (hp : ∀ k, ts.get id ≠ .prim k true) (hb : ts.get id ≠ .bytes true) :
    pickBare ts a id = machForEntry ts e ∧ upickBare ts a id = umachForEntry ts e := by
  constructor
  · unfold pickBare
    split
    · next k h => exact absurd h (hp k)
    · next h => exact absurd h hb
    · simp only [he]
  · unfold upickBare
    split
    · next k h => exact absurd h (hp k)
    · next h => exact absurd h hb
    · simp only [he]

theorem keyFnOf_string {ts : Types} {kt : Nat} {b : Bool} (h : ts.get kt = .prim .string b) (a : Atlas) :
    MM.keyFnOf ts a kt = some none := by
  simp [MM.keyFnOf, h]

theorem stringify_nil (trs : Trs) (kf : Option Nat) : MM.stringify trs kf [] = some [] := rfl

theorem ok_seq (ts : List Tok) (b : Unit → MOut) : (MOut.ok ts).seq b = ⟨ts ++ (b ()).toks, (b ()).fail⟩ := by
  simp [MOut.seq, MOut.ok]

theorem seq_ok_iff {a : MOut} {b : Unit → MOut} {toks : List Tok} :
    a.seq b = ⟨toks, none⟩ ↔ ∃ t1 t2, a = ⟨t1, none⟩ ∧ b () = ⟨t2, none⟩ ∧ toks = t1 ++ t2 := by
  constructor
  · intro h
    unfold MOut.seq at h
    split at h
    · next f hf => rw [h] at hf; simp at hf
    · next hf =>
      simp at h
      refine ⟨a.toks, (b ()).toks, ?_, ?_, h.1.symm⟩
      · cases a; simp_all
      · cases hb : b (); simp_all
  · rintro ⟨t1, t2, rfl, hb, rfl⟩
    simp only [MOut.seq, hb]

theorem _root_.Refmt.Obj.MOut.eq_of_fail_none {o : MOut} (h : o.fail = none) : o = ⟨o.toks, none⟩ := by
  cases o
  simp only at h
  rw [h]

theorem ok_inv {ts toks : List Tok} (h : MOut.ok ts = ⟨toks, none⟩) : toks = ts := by
  simp [MOut.ok] at h; exact h.symm

theorem bad_ne {f : Fail} {toks : List Tok} : MOut.bad f ≠ ⟨toks, none⟩ := by
  simp [MOut.bad]

theorem seq_congr_np {a a' : MOut} {b b' : Unit → MOut} (hnp : (a.seq b).fail ≠ some .panic)
    (ha : a.fail ≠ some .panic → a' = a) (hb : (b ()).fail ≠ some .panic → b' () = b ()) :
    a'.seq b' = a.seq b := by
  unfold MOut.seq at hnp ⊢
  cases hf : a.fail with
  | some f =>
    rw [hf] at hnp
    rw [ha hnp, hf]
  | none =>
    rw [hf] at hnp
    rw [ha (by simp [hf]), hf]
    rw [hb hnp]

/-! The list functions for map entries and struct fields write a key token, then what two recursive calls return:
    `(MOut.ok os).seq fun _ => x.seq y`.  The machines of slices, arrays, maps, struct maps and keyed unions write their
    opening tokens `os`, then what one recursive call `x` returns, then a close token `c`: the same with
    `y = fun _ => .ok [c]`, which the model spells out each time. -/

theorem ok_seq_seq_iff {os : List Tok} {x : MOut} {y : Unit → MOut} {toks : List Tok} :
    ((MOut.ok os).seq fun _ => x.seq y) = ⟨toks, none⟩ ↔
      ∃ t1 t2, x = ⟨t1, none⟩ ∧ y () = ⟨t2, none⟩ ∧ toks = os ++ (t1 ++ t2) := by
  rw [seq_ok_iff]
  constructor
  · rintro ⟨_, _, h0, h12, rfl⟩
    cases ok_inv h0
    obtain ⟨t1, t2, h1, h2, rfl⟩ := seq_ok_iff.1 h12
    exact ⟨t1, t2, h1, h2, rfl⟩
  · rintro ⟨t1, t2, h1, h2, rfl⟩
    exact ⟨os, _, rfl, seq_ok_iff.2 ⟨t1, t2, h1, h2, rfl⟩, rfl⟩

theorem bracket_ok_iff {os : List Tok} {c : Tok} {x : MOut} {toks : List Tok} :
    ((MOut.ok os).seq fun _ => x.seq fun _ => .ok [c]) = ⟨toks, none⟩ ↔ ∃ t, x = ⟨t, none⟩ ∧ toks = os ++ (t ++ [c]) := by
  rw [ok_seq_seq_iff]
  constructor
  · rintro ⟨t, _, h1, h2, rfl⟩
    cases ok_inv h2
    exact ⟨t, h1, rfl⟩
  · rintro ⟨t, h1, rfl⟩
    exact ⟨t, _, h1, rfl, rfl⟩

theorem bracket_toks_head (os : List Tok) (c : Tok) (x : MOut) :
    ∃ r, ((MOut.ok os).seq fun _ => x.seq fun _ => .ok [c]).toks = os ++ r :=
  ⟨_, congrArg MOut.toks (ok_seq os _)⟩

theorem ok_seq_seq_congr_np {os : List Tok} {x x' : MOut} {y y' : Unit → MOut}
    (hnp : ((MOut.ok os).seq fun _ => x.seq y).fail ≠ some .panic) (hx : x.fail ≠ some .panic → x' = x)
    (hy : (y ()).fail ≠ some .panic → y' () = y ()) :
    ((MOut.ok os).seq fun _ => x'.seq y') = (MOut.ok os).seq fun _ => x.seq y :=
  seq_congr_np hnp (fun _ => rfl) fun h => seq_congr_np h hx hy

theorem bracket_congr_np {os : List Tok} {c : Tok} {x x' : MOut}
    (hnp : ((MOut.ok os).seq fun _ => x.seq fun _ => .ok [c]).fail ≠ some .panic) (hx : x.fail ≠ some .panic → x' = x) :
    ((MOut.ok os).seq fun _ => x'.seq fun _ => .ok [c]) = (MOut.ok os).seq fun _ => x.seq fun _ => .ok [c] :=
  ok_seq_seq_congr_np hnp hx fun _ => rfl

inductive PrimTok : Val → Body → Prop
  | bool (b : Bool) : PrimTok (.bool b) (.bool b)
  | str (s : Bytes) : PrimTok (.str s) (.str s)
  | int (i : Int) : PrimTok (.int i) (.int i)
  | uint (n : Nat) : PrimTok (.uint n) (.uint n)
  | float (b : Nat) : PrimTok (.float b) (.float b)
  | nilBytes : PrimTok (.bytes none) .null
  | bytes (b : Bytes) : PrimTok (.bytes (some b)) (.bytes b)
  | byteArr (b : Bytes) : PrimTok (.byteArr b) (.bytes b)

theorem primTok_cases {ts : Types} {id : Nat} {v : Val} {toks : List Tok} (h : primTok ts id v = ⟨toks, none⟩) :
    ∃ b : Body, toks = [⟨b, none⟩] ∧ PrimTok v b := by
  unfold primTok at h
  split at h
  case h_9 => exact absurd h bad_ne
  all_goals exact ⟨_, ok_inv h, by constructor⟩

theorem primTok_inv {ts : Types} {id : Nat} {v : Val} {toks : List Tok} (h : primTok ts id v = ⟨toks, none⟩) :
    ∃ b : Body, toks = [⟨b, none⟩] ∧ b.isScalar = true ∧ ∀ s, b = .str s → v = .str s := by
  obtain ⟨b, rfl, hp⟩ := primTok_cases h
  refine ⟨b, rfl, ?_, fun s hs => ?_⟩
  · cases hp <;> rfl
  · cases hp <;> cases hs
    rfl

def setTag (g : Int) : TV → TV
  | .scalar t => .scalar { t with tag := some g }
  | .arr _ len items => .arr (some g) len items
  | .map _ len es => .map (some g) len es

theorem retagFirst_fail (tag : Option Int) (o : MOut) : (retagFirst tag o).fail = o.fail := by
  unfold retagFirst
  split <;> rfl

theorem retagFirst_head {g : Int} {o : MOut} {t : Tok} {r : List Tok} (h : (retagFirst (some g) o).toks = t :: r) :
    t.tag = some g := by
  unfold retagFirst at h
  split at h
  · next heq _ => cases h; cases heq; rfl
  · next hno =>
    -- no token to put the tag on: then nothing was written, but `t` was
    exact (hno g t r rfl h).elim

theorem mapM_map_eq {α β γ : Type} {f : α → Option β} {g : β → γ} {h : α → γ} (hf : ∀ x y, f x = some y → g y = h x) :
    ∀ (l : List α) (r : List β), l.mapM f = some r → r.map g = l.map h
  | [], r, hr => by simp at hr; subst hr; rfl
  | x :: xs, r, hr => by
    cases hx : f x with
    | none => simp [hx] at hr
    | some y =>
      cases hxs : xs.mapM f with
      | none => simp [hx, hxs] at hr
      | some ys =>
        simp [hx, hxs] at hr
        subst hr
        simp [mapM_map_eq hf xs ys hxs, hf x y hx]

theorem mapM_length {α β : Type} (f : α → Option β) (l : List α) (r : List β) (h : l.mapM f = some r) : r.length = l.length := by
  simpa using congrArg List.length (mapM_map_eq (g := fun _ => ()) (h := fun _ => ()) (fun _ _ _ => rfl) l r h)

theorem sortKeys_length (mode : KeySort) (kvs : List (Bytes × Val)) : (sortKeys mode kvs).length = kvs.length := by
  simp [sortKeys]

theorem sortKeys_perm (mode : KeySort) (kvs : List (Bytes × Val)) : (sortKeys mode kvs).Perm kvs :=
  List.mergeSort_perm kvs _

theorem mapM_eq_some_map {α β : Type} (f : α → Option β) (g : α → β) :
    ∀ l : List α, (∀ p ∈ l, f p = some (g p)) → l.mapM f = some (l.map g) := by
  intro l
  induction l with
  | nil => intro _; rfl
  | cons x l ih =>
    intro h
    have h1 := h x (by simp)
    have h2 := ih (fun p hp => h p (by simp [hp]))
    simp [List.mapM_cons, h1, h2]

theorem find?_key {α β : Type} [BEq β] [LawfulBEq β] (key : α → β) (l : List α) (hnd : (l.map key).Nodup) (x : α)
    (hm : x ∈ l) : l.find? (fun y => key y == key x) = some x := by
  induction l with
  | nil => cases hm
  | cons y ys ih =>
    simp only [List.map_cons, List.nodup_cons] at hnd
    rcases List.mem_cons.mp hm with rfl | hm'
    · simp
    · have hne : (key y == key x) = false := by
        simp only [beq_eq_false_iff_ne]
        intro he
        exact hnd.1 (by rw [he]; exact List.mem_map_of_mem hm')
      simp only [List.find?_cons, hne]
      exact ih hnd.2 hm'

theorem lookup_mem {α : Type} {l : List (Nat × α)} {id : Nat} {d : α} (h : l.lookup id = some d) : (id, d) ∈ l := by
  induction l with
  | nil => simp [List.lookup] at h
  | cons p ps ih =>
    simp only [List.lookup] at h
    split at h
    · rename_i hk
      simp at hk; cases h; subst hk; simp
    · exact List.mem_cons_of_mem _ (ih h)

def deref1 : Val → Option Val
  | .ptr none => none
  | .ptr (some x) => some x
  | x => some x

def structFields (v : Val) : List Val :=
  match deref1 v with
  | some (.struct fs) => fs
  | _ => []

theorem traverse_single (i : Nat) (v : Val) : traverse [i] v = (structFields v)[i]? := by
  unfold traverse structFields
  show (match deref1 v with | some (.struct fs) => _ | _ => none) = _
  split
  · next fs _ => cases fs[i]? <;> rfl
  · rfl

end Refmt.ObjL

namespace Refmt.C13
variable {ts : Types} {a : Atlas}

theorem peel_ptr (ts : Types) {id e : Nat} (hd : ts.get id = .ptr e) (k c : Nat) : peel ts (k+1) c id = peel ts k (c+1) e := by
  rw [peel]; simp only [hd]

theorem pick_prim {id k b} (hd : ts.get id = .prim k b) (hn : a.get id = none) :
    pickBare ts a id = .prim ∧ upickBare ts a id = .prim := by
  cases b <;> simp [pickBare, upickBare, hd, hn]
theorem pick_bytes {id b} (hd : ts.get id = .bytes b) (hn : a.get id = none) :
    pickBare ts a id = .prim ∧ upickBare ts a id = .prim := by
  cases b <;> simp [pickBare, upickBare, hd, hn]
theorem pick_byteArr {id n} (hd : ts.get id = .byteArr n) (hn : a.get id = none) :
    pickBare ts a id = .prim ∧ upickBare ts a id = .prim := by
  simp [pickBare, upickBare, hd, hn]
theorem pick_slice {id e} (hd : ts.get id = .slice e) (hn : a.get id = none) :
    pickBare ts a id = .slice e ∧ upickBare ts a id = .slice e := by
  simp [pickBare, upickBare, hd, hn]
theorem pick_arr {id n e} (hd : ts.get id = .arr n e) (hn : a.get id = none) :
    pickBare ts a id = .array e ∧ upickBare ts a id = .array n e := by
  simp [pickBare, upickBare, hd, hn]
theorem pick_map {id k e} (hd : ts.get id = .map k e) (hn : a.get id = none) :
    pickBare ts a id = .map k e a.defaultSort ∧ upickBare ts a id = .map k e := by
  simp [pickBare, upickBare, hd, hn]

end Refmt.C13

namespace Refmt.C11
variable {ts : Types} {a : Atlas}

theorem pick_struct {id : Nat} {fds : List FieldDesc} {reg : Bool} {ty : Nat} {tag : Option Int} {fields : List SMField}
    (hd : ts.get id = .struct fds) (he : a.get id = some ⟨reg, ty, tag, .structMap fields⟩) :
    pickBare ts a id = .structMap ⟨reg, ty, tag, .structMap fields⟩ fields ∧ upickBare ts a id = .structMap fields :=
  ObjL.pick_entry he (by simp [hd]) (by simp [hd])

end Refmt.C11

namespace Refmt.Obj
variable {ts : Types} {a : Atlas}

theorem pick_union {id : Nat} {m : Bool} {reg : Bool} {ty : Nat} {tag : Option Int} {members : List (Bytes × Nat)}
    (hd : ts.get id = .iface m) (he : a.get id = some ⟨reg, ty, tag, .union members⟩) :
    pickBare ts a id = .union ⟨reg, ty, tag, .union members⟩ members ∧ upickBare ts a id = .union members :=
  ObjL.pick_entry he (by simp [hd]) (by simp [hd])

theorem pick_wild {id : Nat} {m : Bool} (hd : ts.get id = .iface m) (hn : a.get id = none) :
    pickBare ts a id = .wildcard ∧ upickBare ts a id = .wildcard := by
  simp [pickBare, upickBare, hd, hn]

theorem entry_of_machForEntry {e' e : Entry}
    (h : (∃ fs, machForEntry ts e' = .structMap e fs) ∨ ∃ fn mty, machForEntry ts e' = .transform e fn mty) : e' = e := by
  unfold machForEntry at h
  split at h
  · rcases h with ⟨fs, h⟩ | ⟨fn, mty, h⟩
    · cases h
    · cases h; rfl
  · rcases h with ⟨fs, h⟩ | ⟨fn, mty, h⟩
    · cases h; rfl
    · cases h
  · rcases h with ⟨fs, h⟩ | ⟨fn, mty, h⟩ <;> cases h
  · split at h <;> (rcases h with ⟨fs, h⟩ | ⟨fn, mty, h⟩ <;> cases h)
  · rcases h with ⟨fs, h⟩ | ⟨fn, mty, h⟩ <;> cases h

theorem entry_of_pickBare {id : Nat} {e : Entry}
    (h : (∃ fs, pickBare ts a id = .structMap e fs) ∨ ∃ fn mty, pickBare ts a id = .transform e fn mty) :
    a.get id = some e := by
  unfold pickBare at h
  split at h
  · rcases h with ⟨fs, h⟩ | ⟨fn, mty, h⟩ <;> cases h
  · rcases h with ⟨fs, h⟩ | ⟨fn, mty, h⟩ <;> cases h
  · split at h
    · rename_i e' he'
      rw [he', entry_of_machForEntry h]
    · split at h <;> (rcases h with ⟨fs, h⟩ | ⟨fn, mty, h⟩ <;> cases h)

/-- `id` is `n` pointer types over `base` -/
def chain (ts : Types) : Nat → Nat → Nat → Prop
  | 0, id, base => id = base
  | n+1, id, base => ∃ e, ts.get id = .ptr e ∧ chain ts n e base

end Refmt.Obj
