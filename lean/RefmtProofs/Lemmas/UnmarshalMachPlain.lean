/-
  Stateful object unmarshaller: the class of targets WITHOUT keyed unions and tagged atlas entries (`UMachL.Closed`),
  as an instance of the simulation of `Refmt.UMachU`.  Without union machines and tagged entries the chains of wrapping
  machines have depth at most 2 (pointer, wildcard / transform), and the simulation goes through with its slack
  parameter `ub = 0`: machine fuel 14, where the full class needs 17.
  `pump1`, `rtp`, `row…`, `effRow`, `mpCommit` are the definitions of `Refmt.UMachU` under this namespace's names, and
  the lemmas stated with them here are the `UMachU` lemmas; the simulation does not go through them: `refines_closed`
  needs only `Closed.toU` and that no machine of the class is a union machine (`okMach.toU`).
-/
import RefmtProofs.Lemmas.UnmarshalMachMain
namespace Refmt.UMachL
open Refmt Refmt.Obj Refmt.Obj.UM

variable (ts : Types) (a : Atlas) (trs : Trs) (it : IfaceTys)

def pump1 (sf1 sf : Nat) (s : UState) : List Tok → URes
  | [] => .more 0
  | t :: rest =>
    match ustep ts a trs it sf1 s t with
    | .error x => x.toURes
    | .ok res =>
      match res.done, s.stack with
      | some v, [] => .ok v rest 1
      | _, _ => (pump ts a trs it sf res.st rest).shift 1

def rtp (fr sf1 sf : Nat) (R : List URow) (stk : List URef) (be : Option XFail) (c : URef) (id : Nat) (cur : Val) :
    List Tok → URes
  | [] => .more 0
  | t :: rest =>
    match resetM ts a fr c id cur R with
    | .error x => x.toURes
    | .ok R1 => pump1 ts a trs it sf1 sf ⟨R1, stk, some c, be⟩ (t :: rest)

/-- untyped slots are covered when `wi = some ifc`, `ifc` (the type id of `interface{}`) a member of `S` -/
def wildIn (S : List Nat) : Option Nat → Prop
  | some ifc => ifc ∈ S
  | none => False

instance (S : List Nat) (wi : Option Nat) : Decidable (wildIn S wi) := by
  cases wi <;> simp only [wildIn] <;> infer_instance

def okLeaf (S : List Nat) (wi : Option Nat) : UMach → Prop
  | .prim | .errThunk => True
  | .slice e | .array _ e | .map _ e => e ∈ S
  | .structMap fs => ∀ f ∈ fs, if f.ignore then wildIn S wi else f.ty ∈ S
  | _ => False

instance (S : List Nat) (wi : Option Nat) (M : UMach) : Decidable (okLeaf S wi M) := by
  cases M <;> simp only [okLeaf] <;> infer_instance

def okMach (S : List Nat) (wi : Option Nat) : UMach → Prop
  | .wildcard => wildIn S wi
  | .transform _ uty => isPtrTy ts uty = false ∧ okLeaf S wi (upickBare ts a uty)
  | M => okLeaf S wi M

instance (S : List Nat) (wi : Option Nat) (M : UMach) : Decidable (okMach ts a S wi M) := by
  cases M <;> simp only [okMach] <;> infer_instance

def Closed (S : List Nat) (wi : Option Nat) : Prop :=
  ∀ id ∈ S, okMach ts a S wi (upickBare ts a (peel ts 64 0 id).2)

instance (S : List Nat) (wi : Option Nat) : Decidable (Closed ts a S wi) := by unfold Closed; infer_instance

variable {ts a trs it}

def rowSl (row : URow) (sm : SliceM) : URow := { row with slice := sm }

@[simp] theorem rowSl_ptr (row sm) : (rowSl row sm).ptr = row.ptr := rfl
@[simp] theorem rowSl_slice (row sm) : (rowSl row sm).slice = sm := rfl

def rowAr (row : URow) (am : ArrayM) : URow := { row with array := am }

@[simp] theorem rowAr_ptr (row am) : (rowAr row am).ptr = row.ptr := rfl
@[simp] theorem rowAr_array (row am) : (rowAr row am).array = am := rfl

def rowMp (row : URow) (mm : MapM) : URow := { row with map := mm }

@[simp] theorem rowMp_ptr (row mm) : (rowMp row mm).ptr = row.ptr := rfl
@[simp] theorem rowMp_map (row mm) : (rowMp row mm).map = mm := rfl

def mpCommit (mm : MapM) : MapM :=
  { mm with target_rv := .map (some (mapEntries mm.target_rv ++ [(mm.key_rv, mm.tmp_rv)])) }

def effRow (row : URow) : URow :=
  match row.map.phase with
  | .acceptAnotherKeyOrClose => rowMp row (mpCommit row.map)
  | _ => row

theorem effRow_ptr (row : URow) : (effRow row).ptr = row.ptr := UMachU.effRow_ptr row

def rowWd (row : URow) (wm : WildM) : URow := { row with wild := wm }

@[simp] theorem rowWd_ptr (row wm) : (rowWd row wm).ptr = row.ptr := rfl
@[simp] theorem rowWd_wild (row wm) : (rowWd row wm).wild = wm := rfl

def rowSt (row : URow) (sm : StructM) : URow := { row with struct := sm }

@[simp] theorem rowSt_ptr (row sm) : (rowSt row sm).ptr = row.ptr := rfl
@[simp] theorem rowSt_struct (row sm) : (rowSt row sm).struct = sm := rfl

theorem upd_at (lo : List URow) (row : URow) (hi : List URow) (f : URow → URow) (st be) (cur : Option URef) :
    (UState.mk (lo ++ row :: hi) st cur be).upd lo.length f = ⟨lo ++ f row :: hi, st, cur, be⟩ :=
  UMachU.upd_at lo row hi f st be cur

theorem pump1_rec {f g sf R stk c be t rest R' rv rt next}
    (h : stepM ts a trs it f c ⟨R, stk, some c, be⟩ t
      = recurse ts a trs it (g+1) ⟨R', stk, some c, be⟩ t rv rt next) :
    pump1 ts a trs it (f+1) sf ⟨R, stk, some c, be⟩ (t :: rest)
      = rtp ts a trs it g g sf R' (c :: stk) be next rt rv (t :: rest) :=
  UMachU.pump1_rec h

theorem getLo' {lo : List URow} {i : Nat} {r0 : URow} (h : lo[i]? = some r0) (tl : List URow) :
    (lo ++ tl)[i]? = some r0 :=
  UMachU.getLo' h tl

theorem struct_absorb_fail {f : Nat} {lo hi : List URow} {row : URow} {v : Val}
    (hig : row.struct.fieldEntry.ignore = false)
    (hset : setRoute ts 64 row.struct.rt row.struct.fieldEntry.route row.struct.rv (fun _ => v) = none) :
    absorbM ts (f+1) ⟨lo.length, .struct⟩ v (lo ++ row :: hi) = .error (.f .panic) :=
  UMachU.struct_absorb_fail hig hset

theorem mapEntries_eq (cur : Val) : (match cur with | .map (some es) => es | _ => []) = mapEntries cur :=
  UMachU.mapEntries_eq cur

theorem umachForEntry_not_wild (e : Entry) : umachForEntry ts e ≠ .wildcard :=
  UMachU.umachForEntry_not_wild e

theorem okMach.toU {S : List Nat} {wi : Option Nat} {M : UMach} (h : okMach ts a S wi M) :
    UMachU.okMach ts a S wi M ∧ ∀ ms, M ≠ .union ms := by
  cases M with
  | union ms => exact h.elim
  | _ => exact ⟨h, fun _ => UMach.noConfusion⟩

theorem Closed.toU {S : List Nat} {wi : Option Nat} (h : Closed ts a S wi) : UMachU.Closed ts a S wi :=
  fun id hid => (okMach.toU (h id hid)).1

theorem refines_closed {S : List Nat} {wi : Option Nat} (hS : Closed ts a S wi)
    (hWd : wildIn S wi → UMachU.WildHyp ts a it 0 S) {id : Nat} (hid : id ∈ S) (fuel : Nat) (cur : Val)
    (toks : List Tok) (hnp : ∀ u, unmV ts a trs it fuel id cur toks ≠ .panic u) (sf : Nat) (hsf : 14 ≤ sf)
    (dirty : UState) :
    urun ts a trs it sf (UM.bind ts a sf dirty id cur) toks = unmV ts a trs it fuel id cur toks :=
  UMachU.refines_closed (ub := 0) hS.toU (fun id hid ms hM => absurd hM ((okMach.toU (hS id hid)).2 ms))
    hWd hid fuel cur toks hnp sf hsf dirty

end Refmt.UMachL
