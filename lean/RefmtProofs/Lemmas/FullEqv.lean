-- the round-trip values `rtF` / `rtJ` are the specified value `normV fmt` up to `ValEqv''` on the class `fullTy`: proved
-- once over `RtSpec` (what the round-trip theorems use of a format's value function and side conditions), of which
-- both formats are instances.  Before that, what Lemmas/FullStep and Lemmas/LegItems take from here: the machines of a
-- union member (`MemberMach`, `Writes.union_member`), `pick_transform`, `fullTy` of the predeclared untyped types; after
-- `RtSpec`, `RtSpec.transform_inv`.  See RefmtProofs/Props/C13Full.lean, RefmtProofs/Props/C01JsonFull.lean.
import RefmtProofs.Lemmas.JFullDefs
import RefmtProofs.Lemmas.UntypedVal
namespace Refmt.Obj
open Refmt Refmt.C13 Refmt.C11 Refmt.C12

variable {ts : Types} {a : Atlas} {trs : Trs} {it : IfaceTys}

theorem pick_transform {id : Nat} {reg : Bool} {ty : Nat} {tag : Option Int} {fn mty uty : Nat}
    (hb : isBuiltin (ts.get id) = false) (he : a.get id = some ⟨reg, ty, tag, .transform fn mty uty⟩) :
    pickBare ts a id = .transform ⟨reg, ty, tag, .transform fn mty uty⟩ fn mty ∧ upickBare ts a id = .transform fn uty :=
  ObjL.pick_entry he (fun k h => by simp [isBuiltin, h] at hb) (fun h => by simp [isBuiltin, h] at hb)

structure MemberMach (ts : Types) (a : Atlas) (p : Nat) (me : Entry) (fs : List SMField) (fds : List FieldDesc) : Prop where
  kind : me.k = .structMap fs
  desc : ts.get me.ty = .struct fds
  mach : machForEntry ts me = pickBare ts a me.ty
  umach : umachForEntry ts me = upickBare ts a me.ty
  pick : pickBare ts a me.ty = .structMap me fs
  upick : upickBare ts a me.ty = .structMap fs
  full : fullTy ts a p me.ty = true

theorem find_member_mach {p : Nat} {members : List (Bytes × Nat)} {dt : Nat} {nm : Bytes} {idx : Nat} {me : Entry}
    (hmem : ∀ mem ∈ members, MOKF ts a p mem)
    (hf : (members.find? fun (x : Bytes × Nat) => (a.pool[x.2]?.map (·.ty)) == some dt) = some (nm, idx))
    (hme : a.pool[idx]? = some me) : (nm, idx) ∈ members ∧ me.ty = dt ∧ ∃ fs fds, MemberMach ts a p me fs fds := by
  have hin := List.mem_of_find?_eq_some hf
  obtain ⟨me', fs, fds, hme', hget, hk, hd, hfl⟩ := hmem _ hin
  cases hme.symm.trans hme'
  obtain ⟨reg, ty, tag, k⟩ := me
  subst hk
  obtain ⟨h1, h2⟩ := pick_struct hd hget
  exact ⟨hin, by simpa [hme] using List.find?_some hf, fs, fds, rfl, hd, by simp [machForEntry, h1], by simp [umachForEntry, h2],
    h1, h2, hfl⟩

theorem _root_.Refmt.MRun.Writes.union_member {f p id : Nat} {e : Entry} {members : List (Bytes × Nat)} {v : Val}
    {toks : List Tok} (hm : MRun.Writes ts a trs (f+1) (.bare id (.union e members) v) toks)
    (hmem : ∀ mem ∈ members, MOKF ts a p mem) :
    ∃ (nm : Bytes) (idx : Nat) (me : Entry) (dv : Val) (ti : List Tok) (fs : List SMField) (fds : List FieldDesc),
      v = .iface (some (me.ty, dv)) ∧ (nm, idx) ∈ members ∧
      (members.find? fun (x : Bytes × Nat) => (a.pool[x.2]?.map (·.ty)) == some me.ty) = some (nm, idx) ∧
      a.pool[idx]? = some me ∧ MemberMach ts a p me fs fds ∧
      MRun.Writes ts a trs f (.bare me.ty (pickBare ts a me.ty) dv) ti ∧
      toks = ⟨.mapOpen 1, none⟩ :: ⟨.str nm, none⟩ :: (ti ++ [⟨.mapClose, none⟩]) := by
  cases hm with
  | @union _ _ _ _ dt dv nm idx me ti hfind hme hin =>
    obtain ⟨hin', rfl, fs, fds, hM⟩ := find_member_mach hmem hfind hme
    exact ⟨nm, idx, me, dv, ti, fs, fds, rfl, hin', hfind, hme, hM, hM.mach ▸ hin, rfl⟩

theorem fullTy_iface (he : UEnv ts a it) (p : Nat) : fullTy ts a (p+1) it.iface = true := by
  simp [fullTy, he.iface, he.noIface]
theorem fullTy_sliceI (he : UEnv ts a it) (p : Nat) : fullTy ts a (p+2) it.sliceI = true := by
  rw [fullTy]
  simp only [he.sliceI, he.noSlice]
  exact fullTy_iface he p
theorem fullTy_mapSI (he : UEnv ts a it) (p : Nat) : fullTy ts a (p+2) it.mapSI = true := by
  rw [fullTy]
  simp only [he.mapSI, he.noMap, he.str, Bool.true_and]
  exact fullTy_iface he p

theorem boxAs_iface (he : UEnv ts a it) (x : Val) : boxAs ts it.iface x = x := by
  simp [boxAs, he.iface]

/-- What the round-trip theorems use of a wire format `fmt`: the value that comes back (`R` / `RB`) and the side
    conditions on values (`S` / `SB`; `ok` is what they ask of a map key), each through its one-level equations. -/
structure RtSpec (ts : Types) (a : Atlas) (trs : Trs) (it : IfaceTys) (fmt : Fmt) (ok : Bytes → Prop)
    (R : Nat → Nat → Val → Val) (RB : Nat → Nat → Mach → Val → Val)
    (S : Nat → Nat → Val → Bool) (SB : Nat → Nat → Mach → Val → Bool) : Prop where
  R_zero : ∀ id v, R 0 id v = v
  RB_zero : ∀ id m v, RB 0 id m v = v
  R_succ : ∀ g id v, R (g+1) id v =
    ptrStep ts a trs (peel ts 64 0 id).1 (peel ts 64 0 id).2 (RB g (peel ts 64 0 id).2 (pickBare ts a (peel ts 64 0 id).2)) v
  RB_prim : ∀ g id v, RB (g+1) id .prim v = normBare fmt ts a trs it (g+1) id .prim v
  RB_slice : ∀ g id e v, RB (g+1) id (.slice e) v = mapSlice (R g e) v
  RB_array : ∀ g id e v, RB (g+1) id (.array e) v = mapArr (R g e) v
  RB_map : ∀ g id kt vt mode v, RB (g+1) id (.map kt vt mode) v = mapSorted mode (R g vt) v
  RB_structMap : ∀ g id e fields v, RB (g+1) id (.structMap e fields) v = structFold ts id fields v (R g)
  RB_transform : ∀ g id e fn mty v, RB (g+1) id (.transform e fn mty) v = transformStep trs fn (R g mty) v
  RB_union : ∀ g id e members v, RB (g+1) id (.union e members) v = unionStep ts a members (RB g) v
  RB_wild_other : ∀ g id v, (∀ dt dv, v ≠ .iface (some (dt, dv))) → RB (g+1) id .wildcard v = v
  RB_wild_some : ∀ g id dt dv, RB (g+1) id .wildcard (.iface (some (dt, dv))) =
    wildStep fmt ts a trs it (R g it.iface) (RB g) mapSorted dt dv
  S_succ : ∀ g id v, S (g+1) id v =
    if (peel ts 64 0 id).1 == 0 then SB g (peel ts 64 0 id).2 (pickBare ts a (peel ts 64 0 id).2) v
    else match derefN (peel ts 64 0 id).1 v with
      | none => true
      | some inner => SB g (peel ts 64 0 id).2 (pickBare ts a (peel ts 64 0 id).2) inner
  S_slice : ∀ g id e v, SB (g+1) id (.slice e) v = (match v with | .slice (some vs) => vs.all (S g e) | _ => true)
  S_array : ∀ g id e v, SB (g+1) id (.array e) v = (match v with | .arr vs => vs.all (S g e) | _ => true)
  S_map : ∀ g id kt vt mode es, SB (g+1) id (.map kt vt mode) (.map (some es)) = true ↔
    strKeysB es = true ∧ (∀ q ∈ es, ok (keyStr q.1)) ∧ ∀ q ∈ es, S g vt q.2 = true
  S_structMap : ∀ g id e fields v, SB (g+1) id (.structMap e fields) v =
    fields.all fun f => !emitP v f || (match traverse f.route v with | some fv => S g f.ty fv | none => true)
  S_transform : ∀ g id e fn mty v, SB (g+1) id (.transform e fn mty) v =
    (match trs.m fn v with
     | some tv => hasTy ts 1000 mty tv && S g mty tv && (trs.u fn (normV fmt ts a trs it g mty tv)).isSome
     | none => true)
  S_union : ∀ g id e members v, SB (g+1) id (.union e members) v =
    (match v with
     | .iface (some (dt, dv)) =>
       (match members.find? fun (_, idx) => (a.pool[idx]?.map (·.ty)) == some dt with
        | some (_, idx) =>
          (match a.pool[idx]? with
           | some me => SB g dt (machForEntry ts me) dv
           | none => true)
        | none => true)
     | _ => true)
  /-- a value of a registered tagged type only where tags survive the wire -/
  S_wild : ∀ g id dt dv, SB (g+1) id .wildcard (.iface (some (dt, dv))) = true →
    (∀ e, ts.get dt ≠ .ptr e) ∧
    (pickBare ts a dt = .prim ∨
     (dt = it.sliceI ∧ ∃ vs, dv = .slice (some vs) ∧ ∀ x ∈ vs, S g it.iface x = true) ∨
     (dt = it.mapSI ∧ ∃ es, dv = .map (some es) ∧ strKeysB es = true ∧ (∀ q ∈ es, ok (keyStr q.1)) ∧
        ∀ q ∈ es, S g it.iface q.2 = true) ∨
     (fmt ≠ .json ∧ ∃ e, ((∃ fs, pickBare ts a dt = .structMap e fs) ∨ ∃ fn m, pickBare ts a dt = .transform e fn m) ∧
        taggedB a e = true ∧ fullTy ts a 64 dt = true ∧ SB g dt (pickBare ts a dt) dv = true))

section
variable {fmt : Fmt} {ok : Bytes → Prop} {R : Nat → Nat → Val → Val} {RB : Nat → Nat → Mach → Val → Val}
  {S : Nat → Nat → Val → Bool} {SB : Nat → Nat → Mach → Val → Bool}

theorem RtSpec.R_nonptr (W : RtSpec ts a trs it fmt ok R RB S SB) {id : Nat} (hnp : ∀ e, ts.get id ≠ .ptr e) (g : Nat) (v : Val) :
    R (g+1) id v = RB g id (pickBare ts a id) v := by
  rw [W.R_succ, ObjL.peel_nonptr ts 64 0 id hnp, ptrStep_zero]

theorem RtSpec.S_nonptr (W : RtSpec ts a trs it fmt ok R RB S SB) {id : Nat} (hnp : ∀ e, ts.get id ≠ .ptr e) (g : Nat) (v : Val) :
    S (g+1) id v = SB g id (pickBare ts a id) v := by
  rw [W.S_succ, ObjL.peel_nonptr ts 64 0 id hnp]
  simp

theorem RtSpec.S_deref (W : RtSpec ts a trs it fmt ok R RB S SB) {id n base g : Nat} {v inner : Val}
    (hpeel : peel ts 64 0 id = (n, base)) (hdn : derefN n v = some inner) (hs : S (g+1) id v = true) :
    SB g base (pickBare ts a base) inner = true := by
  rw [W.S_succ, hpeel] at hs
  cases n with
  | zero => cases hdn; simpa using hs
  | succ n => simpa [hdn] using hs

theorem RtSpec.eqv_norm (W : RtSpec ts a trs it fmt ok R RB S SB) (htr : TrsEqv trs) (he : UEnv ts a it) (g : Nat) :
    (∀ p id v, p ≤ 64 → fullTy ts a p id = true → S g id v = true →
      ValEqv'' (R g id v) (normV fmt ts a trs it g id v)) ∧
    (∀ p id v, p + 1 ≤ 64 → fullTy ts a (p + 1) id = true → (∀ e, ts.get id ≠ .ptr e) →
      SB g id (pickBare ts a id) v = true →
      ValEqv'' (RB g id (pickBare ts a id) v) (normBare fmt ts a trs it g id (pickBare ts a id) v)) := by
  induction g with
  | zero =>
    exact ⟨fun _ id v _ _ _ => by rw [W.R_zero]; simp only [normV]; exact ValEqv''.refl v,
           fun _ id v _ _ _ _ => by rw [W.RB_zero]; simp only [normBare]; exact ValEqv''.refl v⟩
  | succ g ih =>
    constructor
    · intro p id v hp64 hp hs
      obtain ⟨n, base, p', hpeel, hpb, hnp, hch, hp'p⟩ := full_peel ts a p 64 0 id hp hp64
      rw [W.R_succ, Norm.succ, hpeel]
      refine C13.ptr_rel ts a trs ValEqv''.refl ValEqv''.wrap (fun inner hdn => ?_)
      exact ih.2 p' base inner (by omega) hpb hnp (W.S_deref hpeel hdn hs)
    · intro p id v hp64 hp hnp hs
      cases fullTy_view hp hnp with
      | prim kk b hd hn => rw [(pick_prim hd hn).1, W.RB_prim]; exact ValEqv''.refl _
      | bytes b hd hn => rw [(pick_bytes hd hn).1, W.RB_prim]; exact ValEqv''.refl _
      | byteArr n hd hn => rw [(pick_byteArr hd hn).1, W.RB_prim]; exact ValEqv''.refl _
      | slice e hd hn hpe =>
        rw [(pick_slice hd hn).1] at hs ⊢
        rw [W.RB_slice, Norm.slice]
        rw [W.S_slice] at hs
        refine C13.slice_map_rel ValEqv''.refl ValEqv''.slice (fun vs hv x hx => ?_)
        subst hv
        simp only [List.all_eq_true] at hs
        exact ih.1 p e x (by omega) hpe (hs x hx)
      | arr n e hd hn hpe =>
        rw [(pick_arr hd hn).1] at hs ⊢
        rw [W.RB_array, Norm.array]
        rw [W.S_array] at hs
        refine C13.arr_map_rel ValEqv''.refl ValEqv''.arr (fun vs hv x hx => ?_)
        subst hv
        simp only [List.all_eq_true] at hs
        exact ih.1 p e x (by omega) hpe (hs x hx)
      | map kt vt bk hd hn hkt hpe =>
        rw [(pick_map hd hn).1] at hs ⊢
        rw [W.RB_map, Norm.map]
        refine C13.map_sort_rel ValEqv''.refl ValEqv''.map (fun es hv => ?_)
        subst hv
        obtain ⟨hk, -, hsv⟩ := (W.S_map _ _ _ _ _ _).mp hs
        exact ⟨(strKeysB_inv hk).1, fun q hq => ih.1 p vt q.2 (by omega) hpe (hsv q hq)⟩
      | wild hd hn =>
        rw [(pick_wild hd hn).1] at hs ⊢
        by_cases hv : ∃ dt dv, v = .iface (some (dt, dv))
        · obtain ⟨dt, dv, rfl⟩ := hv
          obtain ⟨hdnp, hcase⟩ := W.S_wild g id dt dv hs
          rw [W.RB_wild_some, Norm.wild_some]
          cases hnull : isBareNullSer fmt ts a trs dt dv with
          | true => rw [wildStep_null hnull, wildStep_null hnull]; exact ValEqv''.refl _
          | false =>
            -- the elements of a native container are already boxed (`boxAs_iface`)
            rcases hcase with hpk | ⟨rfl, vs, rfl, hsv⟩ | ⟨rfl, es, rfl, hk, -, hsv⟩ | ⟨-, e, hpk, -, hfull, hsB⟩
            · rw [wildStep_prim hdnp hnull hpk, wildStep_prim hdnp hnull hpk]
              exact ValEqv''.refl _
            · rw [wildStep_slice hdnp hnull (C12.pick_sliceI he), wildStep_slice hdnp hnull (C12.pick_sliceI he)]
              simp only [boxAs_iface he]
              refine ValEqv''.iface (ValEqv''.slice (by simp) (fun q hq => ?_))
              obtain ⟨x, hx, rfl⟩ := zip_map_mem _ _ vs q hq
              exact ih.1 1 it.iface x (by omega) (fullTy_iface he 0) (hsv x hx)
            · rw [wildStep_map hdnp hnull (C12.pick_mapSI he), wildStep_map hdnp hnull (C12.pick_mapSI he)]
              simp only [boxAs_iface he]
              exact ValEqv''.iface (C13.map_sort_rel ValEqv''.refl ValEqv''.map (fun _ hv => by
                cases hv
                exact ⟨(strKeysB_inv hk).1, fun q hq => ih.1 1 it.iface q.2 (by omega) (fullTy_iface he 0) (hsv q hq)⟩))
            · rw [wildStep_entry hdnp hnull hpk, wildStep_entry hdnp hnull hpk]
              exact ValEqv''.iface (ih.2 63 dt dv (by omega) hfull hdnp hsB)
        · have hv' : ∀ dt dv, v ≠ .iface (some (dt, dv)) := fun dt dv h => hv ⟨dt, dv, h⟩
          rw [W.RB_wild_other g id v hv', Norm.wild_other ts a trs it fmt g id v hv']
          exact ValEqv''.refl _
      | struct fds reg ty tag fields hd hent hnames hroutes hfok =>
        rw [(pick_struct hd hent).1] at hs ⊢
        rw [W.RB_structMap, Norm.structMap]
        rw [W.S_structMap] at hs
        simp only [List.all_eq_true] at hs
        refine C11.structFold_rel ValEqv''.refl ValEqv''.struct hd
          (fun fld hf => (hfok fld hf).slot.imp fun i h => h.imp fun fd h => ⟨h.1, h.2.1⟩) (fun fld hf hemit fv ht => ?_)
        have := hs fld hf
        simp only [hemit, Bool.not_true, Bool.false_or, ht] at this
        exact ih.1 p fld.ty fv (by omega) (hfok fld hf).full this
      | transform reg ty tag fn mty hb hent hmp htb hm =>
        rw [(pick_transform hb hent).1] at hs ⊢
        rw [W.RB_transform, Norm.transform]
        rw [W.S_transform] at hs
        cases htm : trs.m fn v with
        | none => rw [transformStep_none htm, transformStep_none htm]; exact ValEqv''.refl _
        | some tv =>
          rw [transformStep_some htm, transformStep_some htm]
          simp only [htm, Bool.and_eq_true] at hs
          obtain ⟨⟨_, hfv⟩, hu⟩ := hs
          obtain ⟨b, hb'⟩ := Option.isSome_iff_exists.mp hu
          -- the unmarshal transform sees `R` where the specification says `normV`: `TrsEqv`
          obtain ⟨a', ha', hab⟩ := htr fn _ _ b (ih.1 p mty tv (by omega) hm hfv) hb'
          rw [ha', hb']
          exact hab
      | union m reg ty tag members hd hent hnames hmem =>
        rw [(pick_union hd hent).1] at hs ⊢
        rw [W.RB_union, Norm.union]
        rw [W.S_union] at hs
        refine C13.unionStep_rel ts a ValEqv''.refl ValEqv''.iface (fun dt dv nm idx me hv hfind hme => ?_)
        subst hv
        simp only [hfind, hme] at hs
        obtain ⟨-, rfl, fs, fds, hM⟩ := find_member_mach hmem hfind hme
        rw [hM.mach] at hs ⊢
        obtain ⟨p', rfl⟩ := fullTy_pos hM.full
        exact ih.2 p' me.ty dv (by omega) hM.full (by simp [hM.desc]) hs

theorem RtSpec.transform_inv (W : RtSpec ts a trs it fmt ok R RB S SB) (htr : TrsEqv trs) (he : UEnv ts a it)
    {p g id fn mty : Nat} {e : Entry} {v tv : Val} (hp64 : p ≤ 64) (hfm : fullTy ts a p mty = true)
    (hs : SB (g+1) id (.transform e fn mty) v = true) (htm : trs.m fn v = some tv) :
    hasTy ts 1000 mty tv = true ∧ S g mty tv = true ∧
      ∃ a', trs.u fn (R g mty tv) = some a' ∧ RB (g+1) id (.transform e fn mty) v = a' := by
  rw [W.S_transform] at hs
  simp only [htm, Bool.and_eq_true] at hs
  obtain ⟨⟨hvt, hfv⟩, hsome⟩ := hs
  obtain ⟨b', hb'⟩ := Option.isSome_iff_exists.mp hsome
  obtain ⟨a', ha', -⟩ := htr fn _ _ b' ((W.eqv_norm htr he g).1 p mty tv hp64 hfm hfv) hb'
  refine ⟨hvt, hfv, a', ha', ?_⟩
  rw [W.RB_transform, transformStep_some htm, ha']
  rfl

end

theorem wild_native_inv {P : Val → Bool} {dv : Val} (h : (match dv with | .slice (some vs) => vs.all P | _ => false) = true) :
    ∃ vs, dv = .slice (some vs) ∧ ∀ x ∈ vs, P x = true := by
  cases dv <;> try (cases h; done)
  rename_i o
  cases o with
  | none => cases h
  | some vs => exact ⟨vs, rfl, by simpa using h⟩

theorem wild_native_map_inv {P : Val → Bool} {K : List (Val × Val) → Bool} {dv : Val}
    (h : (match dv with | .map (some es) => K es && es.all (fun p => P p.2) | _ => false) = true) :
    ∃ es, dv = .map (some es) ∧ K es = true ∧ ∀ q ∈ es, P q.2 = true := by
  cases dv <;> try (cases h; done)
  rename_i o
  cases o with
  | none => cases h
  | some es =>
    simp only [Bool.and_eq_true, List.all_eq_true] at h
    exact ⟨es, rfl, h.1, h.2⟩

-- `rtF_succ`, `rtFB_slice` .. (Lemmas/FullBasic) have the shapes `ptrStep`, `mapSlice` .. written out
theorem rtSpec_cbor : RtSpec ts a trs it .pretty (fun _ => True) (rtF ts a trs it) (rtFB ts a trs it)
    (fullVal ts a trs it) (fullValB ts a trs it) where
  R_zero := fun _ _ => by rw [rtF.eq_def]
  RB_zero := fun _ _ _ => by rw [rtFB.eq_def]
  R_succ := rtF_succ ts a trs it
  RB_prim := fun g id v => by rw [rtFB_prim, normBare_prim]
  RB_slice := rtFB_slice ts a trs it
  RB_array := rtFB_array ts a trs it
  RB_map := rtFB_map ts a trs it
  RB_structMap := rtFB_structMap ts a trs it
  RB_transform := rtFB_transform ts a trs it
  RB_union := rtFB_union ts a trs it
  RB_wild_other := fun g id v hv => by
    cases v with
    | iface o =>
      cases o with
      | none => exact rtFB_wild_none ts a trs it g id
      | some q => exact absurd rfl (hv q.1 q.2)
    | _ => rw [rtFB.eq_def] <;> rfl
  RB_wild_some := rtFB_wild_some ts a trs it
  S_succ := fullVal_succ ts a trs it
  S_slice := fullValB_slice ts a trs it
  S_array := fullValB_array ts a trs it
  S_map := fun g id kt vt mode es => by
    rw [fullValB_map]
    simp only [Bool.and_eq_true, List.all_eq_true, true_and, implies_true]
  S_structMap := fullValB_structMap ts a trs it
  S_transform := fullValB_transform ts a trs it
  S_union := fullValB_union ts a trs it
  S_wild := fun g id dt dv hs => by
    rw [fullValB_wild] at hs
    simp only [Bool.and_eq_true] at hs
    obtain ⟨hdnp, hs⟩ := hs
    refine ⟨(notPtrB_iff _).mp hdnp, ?_⟩
    split at hs
    · rename_i hpk; exact Or.inl hpk
    · simp only [Bool.and_eq_true, beq_iff_eq] at hs
      exact Or.inr (Or.inl ⟨hs.1, wild_native_inv hs.2⟩)
    · simp only [Bool.and_eq_true, beq_iff_eq] at hs
      obtain ⟨es, rfl, hk, hv⟩ := wild_native_map_inv hs.2
      exact Or.inr (Or.inr (Or.inl ⟨hs.1, es, rfl, hk, fun _ _ => trivial, hv⟩))
    · rename_i e fs hpk
      simp only [Bool.and_eq_true] at hs
      exact Or.inr (Or.inr (Or.inr ⟨by simp, e, Or.inl ⟨fs, hpk⟩, hs.1.1, hs.1.2, hs.2⟩))
    · rename_i e fn m hpk
      simp only [Bool.and_eq_true] at hs
      exact Or.inr (Or.inr (Or.inr ⟨by simp, e, Or.inr ⟨fn, m, hpk⟩, hs.1.1, hs.1.2, hs.2⟩))
    · cases hs

theorem utf8Keys_inv {es : List (Val × Val)} (h : utf8Keys es = true) :
    ∀ q ∈ es, toValidUtf8 (keyStr q.1) = keyStr q.1 := by
  intro q hq
  simpa using List.all_eq_true.mp h q hq

theorem rtSpec_json : RtSpec ts a trs it .json (fun s => toValidUtf8 s = s) (rtJ ts a trs it) (rtJB ts a trs it)
    (fullValJ ts a trs it) (fullValJB ts a trs it) where
  R_zero := fun _ _ => by rw [rtJ.eq_def]
  RB_zero := fun _ _ _ => by rw [rtJB.eq_def]
  R_succ := fun g id v => by rw [rtJ.eq_def] <;> rfl
  RB_prim := fun g id v => by rw [rtJB_prim, normBareJ_prim]
  RB_slice := fun g id e v => by rw [rtJB.eq_def] <;> rfl
  RB_array := fun g id e v => by rw [rtJB.eq_def] <;> rfl
  RB_map := fun g id kt vt mode v => by rw [rtJB.eq_def] <;> rfl
  RB_structMap := fun g id e fields v => by rw [rtJB.eq_def] <;> rfl
  RB_transform := fun g id e fn mty v => by rw [rtJB.eq_def] <;> rfl
  RB_union := fun g id e members v => by rw [rtJB.eq_def] <;> rfl
  RB_wild_other := fun g id v hv => by
    cases v with
    | iface o =>
      cases o with
      | none => rw [rtJB.eq_def] <;> rfl
      | some q => exact absurd rfl (hv q.1 q.2)
    | _ => rw [rtJB.eq_def] <;> rfl
  RB_wild_some := fun g id dt dv => by rw [rtJB.eq_def] <;> rfl
  S_succ := fun g id v => by rw [fullValJ.eq_def] <;> rfl
  S_slice := fun g id e v => by rw [fullValJB.eq_def] <;> rfl
  S_array := fun g id e v => by rw [fullValJB.eq_def] <;> rfl
  S_map := fun g id kt vt mode es => by
    have : fullValJB ts a trs it (g+1) id (.map kt vt mode) (.map (some es)) =
        (strKeysB es && utf8Keys es && es.all (fun p => fullValJ ts a trs it g vt p.2)) := by
      rw [fullValJB.eq_def] <;> rfl
    rw [this]
    simp only [Bool.and_eq_true, List.all_eq_true, and_assoc]
    exact ⟨fun h => ⟨h.1, utf8Keys_inv h.2.1, h.2.2⟩,
      fun h => ⟨h.1, List.all_eq_true.mpr (fun q hq => by simpa using h.2.1 q hq), h.2.2⟩⟩
  S_structMap := fun g id e fields v => by rw [fullValJB.eq_def] <;> rfl
  S_transform := fun g id e fn mty v => by rw [fullValJB.eq_def] <;> rfl
  S_union := fun g id e members v => by rw [fullValJB.eq_def] <;> rfl
  S_wild := fun g id dt dv hs => by
    rw [fullValJB_wild] at hs
    simp only [Bool.and_eq_true] at hs
    obtain ⟨hdnp, hs⟩ := hs
    refine ⟨(notPtrB_iff _).mp hdnp, ?_⟩
    split at hs
    · rename_i hpk; exact Or.inl hpk
    · simp only [Bool.and_eq_true, beq_iff_eq] at hs
      exact Or.inr (Or.inl ⟨hs.1, wild_native_inv hs.2⟩)
    · simp only [Bool.and_eq_true, beq_iff_eq] at hs
      obtain ⟨es, rfl, hk, hv⟩ := wild_native_map_inv (K := fun es => strKeysB es && utf8Keys es) hs.2
      simp only [Bool.and_eq_true] at hk
      exact Or.inr (Or.inr (Or.inl ⟨hs.1, es, rfl, hk.1, utf8Keys_inv hk.2, hv⟩))
    · cases hs

end Refmt.Obj
