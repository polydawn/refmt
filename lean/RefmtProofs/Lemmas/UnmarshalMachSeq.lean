/-
  Stateful object unmarshaller: the slice machine, the primitive machine and the error thunk, the array machine.
-/
import RefmtProofs.Lemmas.UnmarshalMachLoop
namespace Refmt.UMachU
open Refmt Refmt.Obj Refmt.Obj.UM

variable {ts : Types} {a : Atlas} {trs : Trs} {it : IfaceTys} {ub : Nat}

def rowSl (row : URow) (sm : SliceM) : URow := { row with slice := sm }

@[simp] theorem rowSl_ptr (row sm) : (rowSl row sm).ptr = row.ptr := rfl
@[simp] theorem rowSl_slice (row sm) : (rowSl row sm).slice = sm := rfl
theorem rowSl_same (row sm) : SameCfg row (rowSl row sm) := ⟨rfl, rfl, rfl, rfl, rfl, rfl, rfl, rfl, rfl, rfl, rfl, rfl⟩

def slReset (ts : Types) (v : Val) (e j : Nat) (cck : MK) : SliceM :=
  { target_rv := v, working := sliceElems v, value_rt := e, valueZero_rv := zeroVal ts 64 e,
    valueMach := some ⟨j, cck⟩, phase := .initial, index := 0 }
def slOpen (sm : SliceM) : SliceM :=
  { sm with phase := .acceptValueOrClose, target_rv := .slice (some []), working := [] }

theorem slice_reset {f : Nat} {lo hi : List URow} {row : URow} {rt e : Nat} {v : Val} {crow : URow} {cck : MK}
    (hrt : ts.get rt = .slice e)
    (hreq : requisition ts a f (lo ++ row :: hi) e = .ok ((lo ++ row :: hi) ++ [crow], ⟨(lo ++ row :: hi).length, cck⟩)) :
    resetM ts a (f+1) ⟨lo.length, .slice⟩ rt v (lo ++ row :: hi)
      = .ok (lo ++ rowSl row (slReset ts v e (lo.length + 1 + hi.length) cck) :: (hi ++ [crow])) := by
  simp only [resetM, resetBody, RowL.getRow, resetSlice, hrt, hreq, updRow_snoc, RowL.len_at]
  rfl

theorem slice_step_init_open {f : Nat} {lo hi : List URow} {row : URow} {stk st be} {t : Tok} {len : Int}
    (hph : row.slice.phase = .initial) (ht : t.body = .arrOpen len) :
    stepM ts a trs it (f+1) ⟨lo.length, .slice⟩ ⟨lo ++ row :: hi, stk, st, be⟩ t
      = .ok ⟨none, ⟨lo ++ rowSl row (slOpen row.slice) :: hi, stk, st, be⟩⟩ := by
  simp only [stepM, stepBody, RowL.getRow, stepSlice, hph, ht, cont, UState.upd, updRow_at]
  rfl

theorem slice_step_init_null {f : Nat} {lo hi : List URow} {row : URow} {stk st be} {t : Tok}
    (hph : row.slice.phase = .initial) (ht : t.body = .null) :
    stepM ts a trs it (f+1) ⟨lo.length, .slice⟩ ⟨lo ++ row :: hi, stk, st, be⟩ t
      = .ok ⟨some (.slice none), ⟨lo ++ row :: hi, stk, st, be⟩⟩ := by
  simp only [stepM, stepBody, RowL.getRow, stepSlice, hph, ht, fin]

theorem slice_step_init_other {f : Nat} {lo hi : List URow} {row : URow} {stk st be} {t : Tok}
    (hph : row.slice.phase = .initial) (h1 : ∀ len, t.body ≠ .arrOpen len) (h2 : t.body ≠ .null) :
    stepM ts a trs it (f+1) ⟨lo.length, .slice⟩ ⟨lo ++ row :: hi, stk, st, be⟩ t = .error (.f .err) := by
  simp only [stepM, stepBody, RowL.getRow, stepSlice, hph]
  rfl

def slNext (sm : SliceM) : SliceM :=
  { sm with working := sm.working ++ [sm.valueZero_rv], index := sm.index + 1 }
def slAbs (sm : SliceM) (v : Val) : SliceM := { sm with working := sm.working.set (sm.index - 1) v }
def slClose (sm : SliceM) : SliceM := { sm with target_rv := .slice (some sm.working) }

theorem slice_step_mapClose {f : Nat} {lo hi : List URow} {row : URow} {stk st be} {t : Tok}
    (hph : row.slice.phase = .acceptValueOrClose) (ht : t.body = .mapClose) :
    stepM ts a trs it (f+1) ⟨lo.length, .slice⟩ ⟨lo ++ row :: hi, stk, st, be⟩ t = .error (.f .err) := by
  simp only [stepM, stepBody, RowL.getRow, stepSlice, hph, ht]
  rfl

theorem slice_step_arrClose {f : Nat} {lo hi : List URow} {row : URow} {stk st be} {t : Tok}
    (hph : row.slice.phase = .acceptValueOrClose) (ht : t.body = .arrClose) :
    stepM ts a trs it (f+1) ⟨lo.length, .slice⟩ ⟨lo ++ row :: hi, stk, st, be⟩ t
      = .ok ⟨some (.slice (some row.slice.working)),
          ⟨release (lo ++ rowSl row (slClose row.slice) :: hi), stk, st, be⟩⟩ := by
  simp only [stepM, stepBody, RowL.getRow, stepSlice, hph, ht, fin, updRow_at]
  simp [rowSl, slClose, hph]

theorem slice_step_elem {f : Nat} {lo hi : List URow} {row : URow} {stk st be} {t : Tok} {d : URef}
    (hph : row.slice.phase = .acceptValueOrClose) (h1 : t.body ≠ .mapClose) (h2 : t.body ≠ .arrClose)
    (hd : row.slice.valueMach = some d) :
    stepM ts a trs it (f+1) ⟨lo.length, .slice⟩ ⟨lo ++ row :: hi, stk, st, be⟩ t
      = recurse ts a trs it f ⟨lo ++ rowSl row (slNext row.slice) :: hi, stk, st, be⟩ t row.slice.valueZero_rv
          row.slice.value_rt d := by
  simp only [stepM, stepBody, RowL.getRow, stepSlice, hph, hd, UState.upd, updRow_at]
  simp [rowSl, slNext, hph, hd]

theorem slice_absorb {f : Nat} {lo hi : List URow} {row : URow} {v : Val} :
    absorbM ts (f+1) ⟨lo.length, .slice⟩ v (lo ++ row :: hi) = .ok (lo ++ rowSl row (slAbs row.slice v) :: hi) := by
  simp only [absorbM, absorbBody, RowL.getRow, updRow_at]
  rfl

variable (ts a trs it)

structure SliceSt (row : URow) (e : Nat) (acc : List Val) (j : Nat) (cck : MK) : Prop where
  phase : row.slice.phase = .acceptValueOrClose
  working : row.slice.working = acc.reverse
  value_rt : row.slice.value_rt = e
  valueZero : row.slice.valueZero_rv = zeroVal ts 64 e
  valueMach : row.slice.valueMach = some ⟨j, cck⟩
  index : row.slice.index = acc.length

def SliceInv (S : List Nat) (n : Nat) : LoopInv := fun i row tl g =>
  ∃ e acc mid crow hi cck, e ∈ S ∧ tl = mid ++ crow :: hi ∧ SliceSt ts row e acc (i + 1 + mid.length) cck ∧
    CfgV ts a crow e cck ∧ g = unmElems ts a trs it n e none acc

abbrev SimE (ub : Nat) (S : List Nat) (n : Nat) : Prop := SimLoop ts a trs it ub .slice (SliceInv ts a trs it S n)

variable {ts a trs it}

theorem simE_zero (S : List Nat) : SimE ts a trs it ub S 0 :=
  loop_zero fun _ _ _ _ ⟨_, _, _, _, _, _, _, _, _, _, hg⟩ _ => by rw [hg, unmElems_zero]

theorem slice_act {S : List Nat} {n : Nat} (hV : SimV ts a trs it ub S n) :
    Steps ts a trs it ub .slice (SliceInv ts a trs it S n) (SliceInv ts a trs it S (n+1)) := by
  intro lo row tl g h
  obtain ⟨e, acc, mid, crow, hi, cck, he, rfl, ⟨hph, hwk, hvt, hvz, hvm, hix⟩, hcc, rfl⟩ := h
  refine ⟨.inl (unmElems_succ_nil ..), fun t rest => ?_⟩
  rw [unmElems_cons]
  split
  · next h1 => exact .plain (.fail fun _ _ _ _ => slice_step_mapClose hph h1)
  · next h2 =>
    obtain ⟨hi', x, hx⟩ := RowL.snoc_of_ne_nil (mid ++ crow :: hi) (by simp)
    refine .plain (.close _ (rowSl row (slClose row.slice)) hi' (fun _ _ _ _ => ?_) (rowSl_same _ _))
    rw [slice_step_arrClose hph h2, hx, dropLast_at, hwk]
  · next h1 h2 =>
    refine .call _ _ _ e (zeroVal ts 64 e) (rowSl row (slNext row.slice)) mid crow hi cck
      (fun v => rowSl row (slAbs (slNext row.slice) v)) (fun v => unmElems ts a trs it n e none (v :: acc))
      (fun _ _ _ _ _ => ?_) (hV _ he _ _ _ hcc) ⟨rfl, rowSl_same _ _⟩ fun v => .inr
        ⟨fun _ _ => rfl, fun _ _ => slice_absorb, ⟨rfl, rowSl_same _ _⟩, fun crow' hi' hk => ?_⟩
    · rw [slice_step_elem hph h1 h2 hvm, hvt, hvz]
    · refine ⟨e, v :: acc, mid, crow', hi', cck, he, rfl, ⟨hph, ?_, hvt, hvz, hvm, ?_⟩, hk, rfl⟩
      · show (row.slice.working ++ [row.slice.valueZero_rv]).set (row.slice.index + 1 - 1) v = (v :: acc).reverse
        rw [hwk, hix, Nat.add_sub_cancel, ← List.length_reverse (as := acc), RowL.set_at, List.reverse_cons]
      · simp [slAbs, slNext, hix]

theorem simLeaf_slice {S : List Nat} {wi : Option Nat} {n : Nat} (hS : Closed ts a S wi) (hE : SimE ts a trs it ub S n) {base e : Nat}
    (hrt : ts.get base = .slice e) (he : e ∈ S) (row : URow) : SimLeaf ts a trs it ub n base .slice (.slice e) row := by
  refine SimLeaf.of_cons fun cur lo hi stk be c F w d t rest f sf1 sf un hw hd hfr hsf1 hsf => ?_
  obtain ⟨f, rfl⟩ : ∃ f', f = f' + 4 := ⟨f - 4, by omega⟩
  obtain ⟨crow, cck, hreq, hcc⟩ := requisition_cov (lo ++ row :: hi) hS he
  rw [unmBare_slice]
  refine loop_start hE hw hd (slice_reset hrt (hreq f)) ⟨rfl, rowSl_same _ _⟩ hsf1 hsf stk be ?_
  split
  · next hb => exact .close _ _ _ (fun _ _ _ _ => slice_step_init_null rfl hb) (SameCfg.refl _)
  · next len hb =>
    exact .cont _ _ _ (fun _ _ _ _ => slice_step_init_open rfl hb) ⟨rfl, rowSl_same _ _⟩
      ⟨e, [], hi, crow, [], cck, he, rfl, ⟨rfl, rfl, rfl, rfl, rfl, rfl⟩, hcc, rfl⟩
  · next h1 h2 => exact .fail fun _ _ _ _ => slice_step_init_other rfl h2 h1

def rowPr (row : URow) (cur : Val) : URow := { row with prim := { row.prim with rv := cur } }

theorem rowPr_same (row : URow) (cur : Val) : SameCfg row (rowPr row cur) :=
  ⟨rfl, rfl, rfl, rfl, rfl, rfl, rfl, rfl, rfl, rfl, rfl, rfl⟩

theorem prim_reset {f : Nat} {lo hi : List URow} {row : URow} {rt : Nat} {v : Val} :
    resetM ts a (f+1) ⟨lo.length, .prim⟩ rt v (lo ++ row :: hi) = .ok (lo ++ rowPr row v :: hi) := by
  simp only [resetM, resetBody, RowL.getRow, resetPrim, updRow_at]
  rfl

theorem prim_step {f : Nat} {lo hi : List URow} {row : URow} {stk st be} {t : Tok}
    (hk : row.prim.anyKind = false) :
    stepM ts a trs it (f+1) ⟨lo.length, .prim⟩ ⟨lo ++ row :: hi, stk, st, be⟩ t
      = match storePrim (ts.get row.prim.ty) t with
        | some v => .ok ⟨some v, ⟨lo ++ row :: hi, stk, st, be⟩⟩
        | none => .error (.f .err) := by
  simp only [stepM, stepBody, RowL.getRow, stepPrim, hk]
  cases storePrim (ts.get row.prim.ty) t <;> rfl

/-- no state to move to: the invariant of the loop is empty -/
theorem prim_act {base : Nat} {row : URow} (hty : row.prim.ty = base) (hak : row.prim.anyKind = false)
    (lo hi : List URow) (t : Tok) (rest : List Tok) :
    Act0 ts a trs it .prim (fun _ _ _ _ => False) lo row hi t rest
      (match storePrim (ts.get base) t with | some v => .ok v rest 1 | none => .err 0) := by
  cases hsp : storePrim (ts.get base) t with
  | none => exact .fail fun _ _ _ _ => by rw [prim_step hak, hty, hsp]
  | some v => exact .close v _ _ (fun _ _ _ _ => by rw [prim_step hak, hty, hsp]) (SameCfg.refl _)

theorem simLeaf_prim {n : Nat} {base : Nat} {row : URow} (hty : row.prim.ty = base) (hak : row.prim.anyKind = false) :
    SimLeaf ts a trs it ub n base .prim .prim row := by
  refine SimLeaf.of_cons fun cur lo hi stk be c F w d t rest f sf1 sf un hw hd hfr hsf1 hsf => ?_
  rw [unmBare_prim]
  exact loop_start (fun _ _ _ _ h => h.elim) hw hd (prim_reset (v := cur) (hi := hi)) ⟨rfl, rowPr_same _ _⟩ hsf1 hsf stk be
    (prim_act (row := rowPr row cur) hty hak lo hi t rest)

theorem err_reset {f : Nat} {lo hi : List URow} {row : URow} {rt : Nat} {v : Val} {e : Fail} (he : row.err.err = some e) :
    resetM ts a (f+1) ⟨lo.length, .errThunk⟩ rt v (lo ++ row :: hi) = .error (.f e) := by
  simp only [resetM, resetBody, RowL.getRow, resetErr, he]

theorem simLeaf_err {n : Nat} {base : Nat} {row : URow} (he : row.err.err = some .err) :
    SimLeaf ts a trs it ub n base .errThunk .errThunk row := by
  refine SimLeaf.of_cons fun cur lo hi stk be c F w d t rest f sf1 sf un hw hd hfr hsf1 hsf => ?_
  rw [unmBare_errThunk]
  simp only [rtpB, err_reset he]
  rfl

def rowAr (row : URow) (am : ArrayM) : URow := { row with array := am }

@[simp] theorem rowAr_ptr (row am) : (rowAr row am).ptr = row.ptr := rfl
@[simp] theorem rowAr_array (row am) : (rowAr row am).array = am := rfl
theorem rowAr_same (row am) : SameCfg row (rowAr row am) := ⟨rfl, rfl, rfl, rfl, rfl, rfl, rfl, rfl, rfl, rfl, rfl, rfl⟩

def arReset (v : Val) (rt e n j : Nat) (cck : MK) : ArrayM :=
  { target_rv := v, target_rt := rt, value_rt := e, valueMach := some ⟨j, cck⟩, phase := .initial, index := 0,
    maxLen := n }
def arOpen (ts : Types) (am : ArrayM) : ArrayM :=
  { am with phase := .acceptValueOrClose, target_rv := .arr (List.replicate am.maxLen (zeroVal ts 64 am.value_rt)) }
def arNext (am : ArrayM) : ArrayM := { am with index := am.index + 1 }
def arAbs (am : ArrayM) (v : Val) : ArrayM :=
  { am with target_rv := .arr ((arrElems am.target_rv).set (am.index - 1) v) }

theorem array_reset {f : Nat} {lo hi : List URow} {row : URow} {rt n e : Nat} {v : Val} {crow : URow} {cck : MK}
    (hrt : ts.get rt = .arr n e)
    (hreq : requisition ts a f (lo ++ row :: hi) e = .ok ((lo ++ row :: hi) ++ [crow], ⟨(lo ++ row :: hi).length, cck⟩)) :
    resetM ts a (f+1) ⟨lo.length, .array⟩ rt v (lo ++ row :: hi)
      = .ok (lo ++ rowAr row (arReset v rt e n (lo.length + 1 + hi.length) cck) :: (hi ++ [crow])) := by
  simp only [resetM, resetBody, RowL.getRow, resetArray, hrt, hreq, updRow_snoc, RowL.len_at]
  rfl

theorem array_step_init_open {f : Nat} {lo hi : List URow} {row : URow} {stk st be} {t : Tok} {len : Int}
    (hph : row.array.phase = .initial) (ht : t.body = .arrOpen len) :
    stepM ts a trs it (f+1) ⟨lo.length, .array⟩ ⟨lo ++ row :: hi, stk, st, be⟩ t
      = .ok ⟨none, ⟨lo ++ rowAr row (arOpen ts row.array) :: hi, stk, st, be⟩⟩ := by
  simp only [stepM, stepBody, RowL.getRow, stepArray, hph, ht, cont, UState.upd, updRow_at]
  rfl

theorem array_step_init_null {f : Nat} {lo hi : List URow} {row : URow} {stk st be} {t : Tok}
    (hph : row.array.phase = .initial) (ht : t.body = .null) :
    stepM ts a trs it (f+1) ⟨lo.length, .array⟩ ⟨lo ++ row :: hi, stk, st, be⟩ t
      = .ok ⟨some (zeroVal ts 64 row.array.target_rt), ⟨lo ++ row :: hi, stk, st, be⟩⟩ := by
  simp only [stepM, stepBody, RowL.getRow, stepArray, hph, ht, fin]

theorem array_step_init_other {f : Nat} {lo hi : List URow} {row : URow} {stk st be} {t : Tok}
    (hph : row.array.phase = .initial) (h1 : ∀ len, t.body ≠ .arrOpen len) (h2 : t.body ≠ .null) :
    stepM ts a trs it (f+1) ⟨lo.length, .array⟩ ⟨lo ++ row :: hi, stk, st, be⟩ t = .error (.f .err) := by
  simp only [stepM, stepBody, RowL.getRow, stepArray, hph]
  rfl

theorem array_step_mapClose {f : Nat} {lo hi : List URow} {row : URow} {stk st be} {t : Tok}
    (hph : row.array.phase = .acceptValueOrClose) (ht : t.body = .mapClose) :
    stepM ts a trs it (f+1) ⟨lo.length, .array⟩ ⟨lo ++ row :: hi, stk, st, be⟩ t = .error (.f .err) := by
  simp only [stepM, stepBody, RowL.getRow, stepArray, hph, ht]
  rfl

theorem array_step_arrClose {f : Nat} {lo hi : List URow} {row : URow} {stk st be} {t : Tok}
    (hph : row.array.phase = .acceptValueOrClose) (ht : t.body = .arrClose) :
    stepM ts a trs it (f+1) ⟨lo.length, .array⟩ ⟨lo ++ row :: hi, stk, st, be⟩ t
      = .ok ⟨some row.array.target_rv, ⟨release (lo ++ row :: hi), stk, st, be⟩⟩ := by
  simp only [stepM, stepBody, RowL.getRow, stepArray, hph, ht, fin]

theorem array_step_full {f : Nat} {lo hi : List URow} {row : URow} {stk st be} {t : Tok}
    (hph : row.array.phase = .acceptValueOrClose) (h1 : t.body ≠ .mapClose) (h2 : t.body ≠ .arrClose)
    (hfull : row.array.index ≥ row.array.maxLen) :
    stepM ts a trs it (f+1) ⟨lo.length, .array⟩ ⟨lo ++ row :: hi, stk, st, be⟩ t = .error (.f .err) := by
  simp only [stepM, stepBody, RowL.getRow, stepArray, hph, hfull, if_true]
  rfl

theorem array_step_elem {f : Nat} {lo hi : List URow} {row : URow} {stk st be} {t : Tok} {d : URef}
    (hph : row.array.phase = .acceptValueOrClose) (h1 : t.body ≠ .mapClose) (h2 : t.body ≠ .arrClose)
    (hfull : ¬ row.array.index ≥ row.array.maxLen) (hd : row.array.valueMach = some d) :
    stepM ts a trs it (f+1) ⟨lo.length, .array⟩ ⟨lo ++ row :: hi, stk, st, be⟩ t
      = recurse ts a trs it f ⟨lo ++ rowAr row (arNext row.array) :: hi, stk, st, be⟩ t
          ((arrElems row.array.target_rv)[row.array.index]?.getD (zeroVal ts 64 row.array.value_rt))
          row.array.value_rt d := by
  simp only [stepM, stepBody, RowL.getRow, stepArray, hph, hd, hfull, if_false, UState.upd, updRow_at]
  simp [rowAr, arNext, hph, hd]

theorem array_absorb {f : Nat} {lo hi : List URow} {row : URow} {v : Val} :
    absorbM ts (f+1) ⟨lo.length, .array⟩ v (lo ++ row :: hi) = .ok (lo ++ rowAr row (arAbs row.array v) :: hi) := by
  simp only [absorbM, absorbBody, RowL.getRow, updRow_at]
  rfl

theorem set_repl {α : Type} (l : List α) (k : Nat) (z v : α) :
    (l ++ List.replicate (k+1) z).set l.length v = (l ++ [v]) ++ List.replicate k z := by
  simp [List.replicate_succ]

theorem get_repl {α : Type} (l : List α) (k : Nat) (z : α) : (l ++ List.replicate (k+1) z)[l.length]?.getD z = z := by
  simp [List.replicate_succ]

variable (ts a trs it)

structure ArrSt (row : URow) (e N : Nat) (acc : List Val) (j : Nat) (cck : MK) : Prop where
  phase : row.array.phase = .acceptValueOrClose
  target : row.array.target_rv = .arr (acc.reverse ++ List.replicate (N - acc.length) (zeroVal ts 64 e))
  value_rt : row.array.value_rt = e
  valueMach : row.array.valueMach = some ⟨j, cck⟩
  index : row.array.index = acc.length
  maxLen : row.array.maxLen = N

def ArrInv (S : List Nat) (n : Nat) : LoopInv := fun i row tl g =>
  ∃ e N acc mid crow hi cck, e ∈ S ∧ tl = mid ++ crow :: hi ∧ ArrSt ts row e N acc (i + 1 + mid.length) cck ∧
    CfgV ts a crow e cck ∧
    g = fun toks => (unmElems ts a trs it n e (some N) acc toks).bind' (fun v r u => .ok (arrFix ts N e v) r u) 0

abbrev SimAr (ub : Nat) (S : List Nat) (n : Nat) : Prop := SimLoop ts a trs it ub .array (ArrInv ts a trs it S n)

variable {ts a trs it}

theorem simAr_zero (S : List Nat) : SimAr ts a trs it ub S 0 :=
  loop_zero fun _ _ _ _ ⟨_, _, _, _, _, _, _, _, _, _, _, hg⟩ _ => by rw [hg]; simp only [unmElems_zero]; rfl

theorem array_act {S : List Nat} {n : Nat} (hV : SimV ts a trs it ub S n) :
    Steps ts a trs it ub .array (ArrInv ts a trs it S n) (ArrInv ts a trs it S (n+1)) := by
  intro lo row tl g h
  obtain ⟨e, N, acc, mid, crow, hi, cck, he, rfl, ⟨hph, htg, hvt, hvm, hix, hmx⟩, hcc, rfl⟩ := h
  refine ⟨.inl (by simp only [unmElems_succ_nil]; rfl), fun t rest => ?_⟩
  simp only [unmElems_cons]
  split
  · next h1 => exact .plain (.fail fun _ _ _ _ => array_step_mapClose hph h1)
  · next h2 =>
    obtain ⟨hi', x, hx⟩ := RowL.snoc_of_ne_nil (mid ++ crow :: hi) (by simp)
    refine .plain (.close _ row hi' (fun _ _ _ _ => ?_) (SameCfg.refl _))
    rw [array_step_arrClose hph h2, hx, dropLast_at, htg, arrFix_slice, List.length_reverse]
  · next h1 h2 =>
    by_cases hfull : acc.length ≥ N
    · rw [if_pos (show capFull (some N) acc = true from decide_eq_true hfull)]
      exact .plain (.fail fun _ _ _ _ =>
        array_step_full hph h1 h2 (by rw [hix, hmx]; exact hfull))
    · rw [if_neg (show ¬ capFull (some N) acc = true by simpa [capFull] using hfull), bind'_bind']
      simp only [shift_map]
      obtain ⟨kk, hkk⟩ : ∃ kk, N - acc.length = kk + 1 := ⟨N - acc.length - 1, by omega⟩
      refine .call _ _ _ e (zeroVal ts 64 e) (rowAr row (arNext row.array)) mid crow hi cck
        (fun v => rowAr row (arAbs (arNext row.array) v))
        (fun v r => (unmElems ts a trs it n e (some N) (v :: acc) r).bind' (fun v r u => .ok (arrFix ts N e v) r u) 0)
        (fun _ _ _ _ _ => ?_) (hV _ he _ _ _ hcc) ⟨rfl, rowAr_same _ _⟩ fun v => .inr
          ⟨fun _ _ => rfl, fun _ _ => array_absorb, ⟨rfl, rowAr_same _ _⟩, fun crow' hi' hk => ?_⟩
      · have hz : (arrElems row.array.target_rv)[row.array.index]?.getD (zeroVal ts 64 row.array.value_rt)
            = zeroVal ts 64 e := by
          rw [htg, hix, hvt, hkk]
          have := get_repl acc.reverse kk (zeroVal ts 64 e)
          rw [List.length_reverse] at this
          exact this
        rw [array_step_elem hph h1 h2 (by rw [hix, hmx]; exact hfull) hvm, hz, hvt]
      · refine ⟨e, N, v :: acc, mid, crow', hi', cck, he, rfl, ⟨hph, ?_, hvt, hvm, ?_, hmx⟩, hk, rfl⟩
        · show Val.arr ((arrElems row.array.target_rv).set (row.array.index + 1 - 1) v) = _
          have h := set_repl acc.reverse kk (zeroVal ts 64 e) v
          rw [List.length_reverse] at h
          rw [htg, hix, Nat.add_sub_cancel, hkk]
          simp only [arrElems]
          rw [h, List.reverse_cons, List.length_cons, show N - (acc.length + 1) = kk by omega]
        · simp [arAbs, arNext, hix]

theorem simLeaf_array {S : List Nat} {wi : Option Nat} {n : Nat} (hS : Closed ts a S wi) (hE : SimAr ts a trs it ub S n) {base N e : Nat}
    (hrt : ts.get base = .arr N e) (he : e ∈ S) (row : URow) :
    SimLeaf ts a trs it ub n base .array (.array N e) row := by
  refine SimLeaf.of_cons fun cur lo hi stk be c F w d t rest f sf1 sf un hw hd hfr hsf1 hsf => ?_
  obtain ⟨f, rfl⟩ : ∃ f', f = f' + 4 := ⟨f - 4, by omega⟩
  obtain ⟨crow, cck, hreq, hcc⟩ := requisition_cov (lo ++ row :: hi) hS he
  rw [unmBare_array]
  refine loop_start hE hw hd (array_reset hrt (hreq f)) ⟨rfl, rowAr_same _ _⟩ hsf1 hsf stk be ?_
  split
  · next hb => exact .close _ _ _ (fun _ _ _ _ => array_step_init_null rfl hb) (SameCfg.refl _)
  · next len hb =>
    rw [bind'_one (K := fun v r u => .ok (arrFix ts N e v) r u)]
    · refine .cont _ _ (fun toks =>
          (unmElems ts a trs it n e (some N) [] toks).bind' (fun v r u => .ok (arrFix ts N e v) r u) 0)
        (fun _ _ _ _ => array_step_init_open rfl hb) ⟨rfl, rowAr_same _ _⟩
        ⟨e, N, [], hi, crow, [], cck, he, rfl, ⟨rfl, ?_, rfl, rfl, rfl, rfl⟩, hcc, rfl⟩
      simp [arOpen, arReset]
    · intro _ _ _; rfl
  · next h1 h2 => exact .fail fun _ _ _ _ => array_step_init_other rfl h2 h1

end Refmt.UMachU
