/-
  A token source iterated on its own (`srcRun`) and the pump against such a run; the decoders' `run` is
  `srcRun` of their pump sources.
-/
import RefmtModel
namespace Refmt.PumpL
open Refmt Refmt.Pump

def srcRun {σ : Type} (src : σ → Rd → SrcStep σ) : Nat → σ → Rd → List Tok × Bool × Rd
  | 0, _, rd => ([], false, rd)
  | f+1, s, rd =>
    match src s rd with
    | .err rd' => ([], false, rd')
    | .tok _ rd' t true => ([t], true, rd')
    | .tok s' rd' t false =>
      let r := srcRun src f s' rd'
      (t :: r.1, r.2.1, r.2.2)

/-- The successful runs of a token source, up to and including the token it reports done on.  No fuel: a run is
    what it is under any budget that lets it finish. -/
inductive SrcRuns {σ : Type} (src : σ → Rd → SrcStep σ) : σ → Rd → List Tok → Rd → Prop
  | last {s s' : σ} {rd rd' : Rd} {t : Tok} : src s rd = .tok s' rd' t true → SrcRuns src s rd [t] rd'
  | more {s s' : σ} {rd r1 rd' : Rd} {t : Tok} {ts : List Tok} :
      src s rd = .tok s' r1 t false → SrcRuns src s' r1 ts rd' → SrcRuns src s rd (t :: ts) rd'

theorem srcRun_runs {σ : Type} (src : σ → Rd → SrcStep σ) :
    ∀ (f : Nat) (s : σ) (rd : Rd) (ts : List Tok) (rd' : Rd),
      srcRun src f s rd = (ts, true, rd') → SrcRuns src s rd ts rd' ∧ ts.length ≤ f
  | 0, s, rd, ts, rd', h => by simp [srcRun] at h
  | f+1, s, rd, ts, rd', h => by
    rw [srcRun] at h
    cases hs : src s rd with
    | err r1 => rw [hs] at h; simp at h
    | tok s1 r1 t d =>
      rw [hs] at h
      cases d with
      | true =>
        cases h
        exact ⟨.last hs, Nat.le_add_left _ _⟩
      | false =>
        simp only [Prod.mk.injEq] at h
        obtain ⟨rfl, h2, rfl⟩ := h
        have ih := srcRun_runs src f s1 r1 _ _ (Prod.ext rfl (Prod.ext h2 rfl))
        exact ⟨.more hs ih.1, Nat.succ_le_succ ih.2⟩

def SinkOk {τ : Type} (sink : τ → Tok → EncOut τ) (k : τ) (ts : List Tok) : Prop :=
  (runOut sink k ts).1 = List.replicate (ts.length - 1) Flag.cont ++ [Flag.done]

theorem runOut_fst {σ : Type} (step : σ → Tok → EncOut σ) : ∀ (ts : List Tok) (s : σ),
    (runOut step s ts).1 = runFlags step s ts
  | [], s => rfl
  | t :: ts, s => by
    simp only [runOut, runFlags]
    cases h : (step s t).ret.flag <;> simp [runOut_fst step ts]

theorem runOut_cons_cont {τ : Type} {sink : τ → Tok → EncOut τ} {k : τ} {t : Tok} (ts : List Tok)
    (h : (sink k t).ret.flag = .cont) :
    runOut sink k (t :: ts) =
      (.cont :: (runOut sink (sink k t).st ts).1, (sink k t).writes ++ (runOut sink (sink k t).st ts).2) := by
  rw [runOut, h]

theorem runOut_cons_stop {τ : Type} {sink : τ → Tok → EncOut τ} {k : τ} {t : Tok} (ts : List Tok)
    (h : (sink k t).ret.flag ≠ .cont) :
    runOut sink k (t :: ts) = ([(sink k t).ret.flag], (sink k t).writes) := by
  rw [runOut]
  cases hf : (sink k t).ret.flag with
  | cont => exact absurd hf h
  | done | err | panic => rfl

theorem sinkOk_single {τ : Type} (sink : τ → Tok → EncOut τ) (k : τ) (t : Tok) (h : SinkOk sink k [t]) :
    (sink k t).ret.flag = .done ∧ (runOut sink k [t]).2 = (sink k t).writes := by
  unfold SinkOk at h
  have hfl : (sink k t).ret.flag = .done := by
    by_cases hc : (sink k t).ret.flag = .cont
    · rw [runOut_cons_cont [] hc] at h; simp [runOut] at h
    · rw [runOut_cons_stop [] hc] at h; simpa using h
  exact ⟨hfl, by rw [runOut_cons_stop [] (by rw [hfl]; decide)]⟩

theorem sinkOk_cons {τ : Type} (sink : τ → Tok → EncOut τ) (k : τ) (t t2 : Tok) (ts : List Tok)
    (h : SinkOk sink k (t :: t2 :: ts)) :
    (sink k t).ret.flag = .cont ∧ SinkOk sink (sink k t).st (t2 :: ts) ∧
    (runOut sink k (t :: t2 :: ts)).2 = (sink k t).writes ++ (runOut sink (sink k t).st (t2 :: ts)).2 := by
  unfold SinkOk at h ⊢
  -- a run that stops at `t` has one flag, two or more are demanded
  have hfl : (sink k t).ret.flag = .cont := Decidable.by_contra fun hne => by
    rw [runOut_cons_stop _ hne] at h
    have := congrArg List.length h
    simp at this
  rw [runOut_cons_cont _ hfl] at h ⊢
  refine ⟨hfl, ?_, rfl⟩
  simp only [List.length_cons, Nat.add_sub_cancel] at h ⊢
  rw [List.replicate_succ, List.cons_append] at h
  exact List.tail_eq_of_cons_eq h

theorem run_err {σ τ : Type} {src : σ → Rd → SrcStep σ} (sink : τ → Tok → EncOut τ) {s : σ} {rd rd' : Rd}
    (hs : src s rd = .err rd') (f : Nat) (k : τ) (out : List Bytes) :
    Pump.run src sink (f + 1) s rd k out = ⟨false, out, rd'⟩ := by
  rw [Pump.run, hs]

theorem run_tok {σ τ : Type} {src : σ → Rd → SrcStep σ} (sink : τ → Tok → EncOut τ) {s s' : σ} {rd rd' : Rd} {t : Tok}
    {d : Bool} (hs : src s rd = .tok s' rd' t d) (f : Nat) (k : τ) (out : List Bytes) :
    Pump.run src sink (f + 1) s rd k out =
      match (sink k t).ret.flag with
      | .err | .panic => ⟨false, out ++ (sink k t).writes, rd'⟩
      | fl =>
        if d then ⟨fl == .done, out ++ (sink k t).writes, rd'⟩
        else Pump.run src sink f s' rd' (sink k t).st (out ++ (sink k t).writes) := by
  rw [Pump.run, hs]
  dsimp only
  cases (sink k t).ret.flag <;> cases d <;> rfl

theorem pump_ok {σ τ : Type} (src : σ → Rd → SrcStep σ) (sink : τ → Tok → EncOut τ) {s : σ} {rd rd' : Rd}
    {ts : List Tok} (h : SrcRuns src s rd ts rd') :
    ∀ (f : Nat) (k : τ) (out : List Bytes), ts.length ≤ f → SinkOk sink k ts →
      Pump.run src sink f s rd k out = ⟨true, out ++ (runOut sink k ts).2, rd'⟩ := by
  induction h with
  | @last s s' rd rd' t hs =>
    intro f k out hf hk
    obtain ⟨f, rfl⟩ : ∃ g, f = g + 1 := ⟨f - 1, (Nat.sub_add_cancel hf).symm⟩
    obtain ⟨hfl, hw⟩ := sinkOk_single sink k t hk
    rw [run_tok sink hs, hfl, hw]
    rfl
  | @more s s' rd r1 rd' t ts hs hr ih =>
    intro f k out hf hk
    obtain ⟨f, rfl⟩ : ∃ g, f = g + 1 := ⟨f - 1, (Nat.sub_add_cancel (Nat.le_trans (Nat.le_add_left 1 _) hf)).symm⟩
    obtain ⟨t2, ts2, rfl⟩ : ∃ t2 ts2, ts = t2 :: ts2 := by cases hr <;> exact ⟨_, _, rfl⟩
    obtain ⟨hfl, hk', hw⟩ := sinkOk_cons sink k t t2 ts2 hk
    rw [run_tok sink hs, hfl, hw, ← List.append_assoc]
    exact ih f _ _ (Nat.le_of_succ_le_succ hf) hk'

theorem runFlags_err {τ : Type} {sink : τ → Tok → EncOut τ} {k : τ} {t : Tok} {ts : List Tok}
    (h : (runFlags sink k (t :: ts)).getLast? = some Flag.err) :
    (sink k t).ret.flag = .err ∨
      (sink k t).ret.flag = .cont ∧ (runFlags sink (sink k t).st ts).getLast? = some Flag.err := by
  rw [runFlags] at h
  cases hfl : (sink k t).ret.flag with
  | err => exact .inl rfl
  | done | panic => rw [hfl] at h; cases h
  | cont =>
    rw [hfl] at h
    refine .inr ⟨rfl, ?_⟩
    cases hr : runFlags sink (sink k t).st ts with
    | nil => rw [hr] at h; cases h
    | cons a as => rw [hr] at h; exact h

theorem pump_err {σ τ : Type} (src : σ → Rd → SrcStep σ) (sink : τ → Tok → EncOut τ) {s : σ} {rd rd' : Rd}
    {ts : List Tok} (h : SrcRuns src s rd ts rd') :
    ∀ (f : Nat) (k : τ) (out : List Bytes), (runFlags sink k ts).getLast? = some Flag.err →
      (Pump.run src sink f s rd k out).ok = false := by
  induction h with
  | @last s s' rd rd' t hs =>
    intro f k out hf
    cases f with
    | zero => rfl
    | succ f =>
      rw [run_tok sink hs]
      rcases runFlags_err hf with hfl | ⟨_, hf'⟩
      · rw [hfl]
      · cases hf'
  | @more s s' rd r1 rd' t ts hs hr ih =>
    intro f k out hf
    cases f with
    | zero => rfl
    | succ f =>
      rw [run_tok sink hs]
      rcases runFlags_err hf with hfl | ⟨hfl, hf'⟩
      · rw [hfl]
      · rw [hfl]
        exact ih f _ _ hf'

theorem pump_fail {σ τ : Type} (src : σ → Rd → SrcStep σ) (sink : τ → Tok → EncOut τ) :
    ∀ (f : Nat) (s : σ) (rd : Rd) (k : τ) (out : List Bytes),
      (srcRun src f s rd).2.1 = false → (Pump.run src sink f s rd k out).ok = false
  | 0, s, rd, k, out, _ => rfl
  | f+1, s, rd, k, out, h => by
    rw [srcRun] at h
    cases hs : src s rd with
    | err r1 => rw [run_err sink hs]
    | tok s1 r1 t d =>
      rw [hs] at h
      rw [run_tok sink hs]
      cases d with
      | true => cases h
      | false =>
        cases (sink k t).ret.flag with
        | err | panic => rfl
        | cont | done => exact pump_fail src sink f s1 r1 _ _ h

theorem run_congr {σ τ τ' : Type} (src : σ → Rd → SrcStep σ) {sink : τ → Tok → EncOut τ} {sink' : τ' → Tok → EncOut τ'}
    {R : τ → τ' → Prop}
    (hR : ∀ k k' t, R k k' → (sink k t).ret.flag = (sink' k' t).ret.flag ∧ (sink k t).writes = (sink' k' t).writes ∧
      R (sink k t).st (sink' k' t).st) :
    ∀ (f : Nat) (s : σ) (rd : Rd) (k : τ) (k' : τ') (out : List Bytes), R k k' →
      Pump.run src sink f s rd k out = Pump.run src sink' f s rd k' out
  | 0, _, _, _, _, _, _ => rfl
  | f+1, s, rd, k, k', out, h => by
    cases hs : src s rd with
    | err r1 => rw [run_err sink hs, run_err sink' hs]
    | tok s1 r1 t d =>
      obtain ⟨hfl, hw, hst⟩ := hR k k' t h
      rw [run_tok sink hs, run_tok sink' hs, hfl, hw, run_congr src hR f s1 r1 _ _ _ hst]

def isOk : Except Err Unit → Bool
  | .ok _ => true
  | .error _ => false

theorem isOk_iff (r : Except Err Unit) : isOk r = true ↔ r = .ok () := by
  cases r <;> simp [isOk]

theorem cbor_run_eq (coerce : Bool) : ∀ (f : Nat) (s : CborDec.St) (rd : Rd) (acc : List Tok) (st al : Nat),
    let o := CborDec.run coerce f s rd acc st al
    let r := srcRun (cborSrc coerce) f s rd
    o.toks = acc.reverse ++ r.1 ∧ isOk o.res = r.2.1 ∧ o.rd = r.2.2
  | 0, s, rd, acc, st, al => by simp [CborDec.run, srcRun, isOk]
  | f+1, s, rd, acc, st, al => by
    simp only [CborDec.run, srcRun, cborSrc]
    cases hr : (CborDec.step coerce s rd).ret with
    | err e => simp [isOk]
    | tok t d =>
      cases d with
      | true => simp [isOk]
      | false =>
        have ih := cbor_run_eq coerce f (CborDec.step coerce s rd).st (CborDec.step coerce s rd).rd (t :: acc)
          (st + 1) (al + (CborDec.step coerce s rd).alloc)
        simp only at ih ⊢
        refine ⟨?_, ih.2.1, ih.2.2⟩
        rw [ih.1]; simp

theorem json_run_eq : ∀ (f : Nat) (s : JsonDec.St) (rd : Rd) (acc : List Tok) (st : Nat),
    let o := JsonDec.run f s rd acc st
    let r := srcRun jsonSrc f s rd
    o.toks = acc.reverse ++ r.1 ∧ isOk o.res = r.2.1 ∧ o.rd = r.2.2
  | 0, s, rd, acc, st => by simp [JsonDec.run, srcRun, isOk]
  | f+1, s, rd, acc, st => by
    simp only [JsonDec.run, srcRun, jsonSrc]
    cases hr : (JsonDec.step s rd).ret with
    | err e => simp [isOk]
    | tok t d =>
      cases d with
      | true => simp [isOk]
      | false =>
        have ih := json_run_eq f (JsonDec.step s rd).st (JsonDec.step s rd).rd (t :: acc) (st + 1)
        simp only at ih ⊢
        refine ⟨?_, ih.2.1, ih.2.2⟩
        rw [ih.1]; simp

theorem cbor_srcRun (coerce : Bool) (f : Nat) (s : CborDec.St) (rd : Rd) :
    srcRun (cborSrc coerce) f s rd =
      ((CborDec.run coerce f s rd [] 0 0).toks, isOk (CborDec.run coerce f s rd [] 0 0).res,
        (CborDec.run coerce f s rd [] 0 0).rd) := by
  obtain ⟨h1, h2, h3⟩ := cbor_run_eq coerce f s rd [] 0 0
  exact Prod.ext h1.symm (Prod.ext h2.symm h3.symm)

theorem json_srcRun (f : Nat) (s : JsonDec.St) (rd : Rd) :
    srcRun jsonSrc f s rd =
      ((JsonDec.run f s rd [] 0).toks, isOk (JsonDec.run f s rd [] 0).res, (JsonDec.run f s rd [] 0).rd) := by
  obtain ⟨h1, h2, h3⟩ := json_run_eq f s rd [] 0
  exact Prod.ext h1.symm (Prod.ext h2.symm h3.symm)

theorem cbor_runs_decode (coerce : Bool) (bs : Bytes) (hdec : (CborDec.decode coerce (Rd.ofBytes bs)).res = .ok ()) :
    SrcRuns (cborSrc coerce) CborDec.init (Rd.ofBytes bs) (CborDec.decode coerce (Rd.ofBytes bs)).toks
      (CborDec.decode coerce (Rd.ofBytes bs)).rd ∧
    (CborDec.decode coerce (Rd.ofBytes bs)).toks.length ≤ 2 * bs.length + 2 := by
  refine srcRun_runs _ (2 * bs.length + 2) _ _ _ _ ?_
  rw [cbor_srcRun]
  show (_, isOk (CborDec.decode coerce (Rd.ofBytes bs)).res, _) = _
  rw [hdec]
  rfl

theorem json_runs_decode (bs : Bytes) (hdec : (JsonDec.decode (Rd.ofBytes bs)).res = .ok ()) :
    SrcRuns jsonSrc JsonDec.init (Rd.ofBytes bs) (JsonDec.decode (Rd.ofBytes bs)).toks
      (JsonDec.decode (Rd.ofBytes bs)).rd ∧
    (JsonDec.decode (Rd.ofBytes bs)).toks.length ≤ 2 * bs.length + 2 := by
  refine srcRun_runs _ (2 * bs.length + 2) _ _ _ _ ?_
  rw [json_srcRun]
  show (_, isOk (JsonDec.decode (Rd.ofBytes bs)).res, _) = _
  rw [hdec]
  rfl

end Refmt.PumpL
