/-
  The digit search of `FloatText.shortestAux` never runs out of fuel on the data `FloatText.shortest` hands it:
  with 20 digits the truncated decimal is within `2^(e-2)` (a quarter ulp) of the value, hence inside the
  rounding interval.  (17 digits suffice for binary64; the model searches up to 20 and so does this proof.)
  So what `shortest` returns always stands for a decimal of the rounding interval: `shortest_sem` for the text
  (`LeadOk`, `ValLt`), `shortest_parse` for the value (`shortest_roundtrip` is its case of a magnitude other than 0).
  These are what FloatJson and C03Sem take from the float modules.
-/
import RefmtProofs.Lemmas.FloatRT
namespace Refmt.FloatL
open Refmt Refmt.FloatText Refmt.JsonDec Refmt.C03L

/-- the estimate is corrected downwards only -/
theorem pick_le (c1 c2 c3 : Prop) [Decidable c1] [Decidable c2] [Decidable c3] (a : Int) :
    (if c1 then a + 1 else if c2 then a else if c3 then a - 1 else a - 2) ≤ a + 1 := by
  split
  · omega
  · split
    · omega
    · split <;> omega

theorem mkSD_p_le (m : Nat) (e : Int) (bl : Bool) :
    (mkSD m e bl).p ≤
      ((bitLen (mkSD m e bl).vN : Int) - (bitLen (mkSD m e bl).den : Int)) * 30103 / 100000 + 1 :=
  pick_le _ _ _ _

/-- `log₁₀ 2` lies between `0.30103 * (1 - 0.00002)` and `0.30103` -/
theorem pow2_le_pow10 : (2:Nat) ^ 100000 ≤ 10 ^ 30103 := by decide +kernel
theorem pow10_le_pow2 : (10:Nat) ^ 30103 ≤ 2 ^ 100002 := by decide +kernel

/-- `10^⌊0.30103 t⌋ ≤ 2^(t + 1)` (sign-free) for `t ≤ 50000`.  With `q = ⌊0.30103 t⌋`, compare the
    `100000`-th powers: `10^(100000 q) ≤ 10^(30103 t) ≤ 2^(100002 t) ≤ 2^(100000 (t + 1))` for `t ≥ 0`, and
    `2^(100000 |t|) ≤ 10^(30103 |t|) ≤ 10^(100000 |q|)` for `t < 0`. -/
theorem pow10_floor_le (t : Int) (ht : t ≤ 50000) (a b c d : Nat)
    (hab : (a : Int) - b = t * 30103 / 100000) (hcd : (c : Int) - d = t + 1) : 10 ^ a * 2 ^ d ≤ 2 ^ c * 10 ^ b := by
  have hq1 : 100000 * (t * 30103 / 100000) ≤ t * 30103 := Int.mul_ediv_self_le (by decide)
  have hq2 : t * 30103 < 100000 * (t * 30103 / 100000) + 100000 := Int.lt_mul_ediv_self_add (by decide)
  generalize t * 30103 / 100000 = q at hq1 hq2 hab
  by_cases h0 : 0 ≤ t
  · obtain ⟨T, rfl⟩ := Int.eq_ofNat_of_zero_le h0
    obtain ⟨Q, rfl⟩ := Int.eq_ofNat_of_zero_le (show 0 ≤ q by omega)
    have hc : 10 ^ Q ≤ 2 ^ (T + 1) := by
      apply (Nat.pow_le_pow_iff_left (n := 100000) (by decide)).1
      calc (10 ^ Q) ^ 100000 = 10 ^ (100000 * Q) := by rw [← Nat.pow_mul, Nat.mul_comm]
        _ ≤ 10 ^ (30103 * T) := Nat.pow_le_pow_right (by decide) (by omega)
        _ = (10 ^ 30103) ^ T := Nat.pow_mul _ _ _
        _ ≤ (2 ^ 100002) ^ T := Nat.pow_le_pow_left pow10_le_pow2 T
        _ = 2 ^ (100002 * T) := (Nat.pow_mul _ _ _).symm
        _ ≤ 2 ^ (100000 * (T + 1)) := Nat.pow_le_pow_right (by decide) (by omega)
        _ = (2 ^ (T + 1)) ^ 100000 := by rw [← Nat.pow_mul, Nat.mul_comm]
    obtain rfl : a = Q + b := by omega
    obtain rfl : c = T + 1 + d := by omega
    rw [Nat.pow_add, Nat.pow_add 2]
    calc 10 ^ Q * 10 ^ b * 2 ^ d ≤ 2 ^ (T + 1) * 10 ^ b * 2 ^ d :=
          Nat.mul_le_mul_right _ (Nat.mul_le_mul_right _ hc)
      _ = 2 ^ (T + 1) * 2 ^ d * 10 ^ b := Nat.mul_right_comm _ _ _
  · -- `t < 0`: then even `2^(-t) ≤ 10^(-q)`
    obtain ⟨T, rfl⟩ : ∃ T : Nat, t = -(T : Int) := ⟨(-t).toNat, by omega⟩
    obtain ⟨Q, rfl⟩ : ∃ Q : Nat, q = -(Q : Int) := ⟨(-q).toNat, by omega⟩
    have hc : 2 ^ T ≤ 10 ^ Q := by
      apply (Nat.pow_le_pow_iff_left (n := 100000) (by decide)).1
      calc (2 ^ T) ^ 100000 = (2 ^ 100000) ^ T := by rw [← Nat.pow_mul, ← Nat.pow_mul, Nat.mul_comm]
        _ ≤ (10 ^ 30103) ^ T := Nat.pow_le_pow_left pow2_le_pow10 T
        _ = 10 ^ (30103 * T) := (Nat.pow_mul _ _ _).symm
        _ ≤ 10 ^ (100000 * Q) := Nat.pow_le_pow_right (by decide) (by omega)
        _ = (10 ^ Q) ^ 100000 := by rw [← Nat.pow_mul, Nat.mul_comm]
    obtain rfl : b = a + Q := by omega
    calc 10 ^ a * 2 ^ d ≤ 10 ^ a * 2 ^ (c + T) :=
          Nat.mul_le_mul_left _ (Nat.pow_le_pow_right (by decide) (by omega))
      _ = 2 ^ c * 10 ^ a * 2 ^ T := by rw [mul_pow_add, Nat.mul_comm (10 ^ a)]
      _ ≤ 2 ^ c * 10 ^ a * 10 ^ Q := Nat.mul_le_mul_left _ hc
      _ = 2 ^ c * 10 ^ (a + Q) := by rw [Nat.pow_add, Nat.mul_assoc]

/-- `10^(⌊(e + 52) * 0.30103⌋ - 18) ≤ 2^(e - 2)` (sign-free): the factor `10^18 / 2^55` is more than the `2` lost in
    `pow10_floor_le` -/
theorem est_bound (e : Int) (he2 : e ≤ 971) (a b : Nat)
    (hab : (a : Int) - b = (e + 52) * 30103 / 100000 - 18) :
    2 ^ (-(e - 2)).toNat * 10 ^ a ≤ 2 ^ (e - 2).toNat * 10 ^ b := by
  have h := pow10_floor_le (e + 52) (by omega) (a + 18) b ((e - 2).toNat + 55) (-(e - 2)).toNat
    (by omega) (by omega)
  apply Nat.le_of_mul_le_mul_right _ (show 0 < 10 ^ 18 by decide)
  calc 2 ^ (-(e - 2)).toNat * 10 ^ a * 10 ^ 18 = 10 ^ (a + 18) * 2 ^ (-(e - 2)).toNat := by
        rw [← mul_pow_add, Nat.mul_comm]
    _ ≤ 2 ^ ((e - 2).toNat + 55) * 10 ^ b := h
    _ = 2 ^ (e - 2).toNat * 10 ^ b * 2 ^ 55 := by rw [Nat.pow_add, Nat.mul_right_comm]
    _ ≤ 2 ^ (e - 2).toNat * 10 ^ b * 10 ^ 18 := Nat.mul_le_mul_left _ (by decide)

/-- `10^(p - 19) ≤ 2^(e - 2)` (sign-free), `p` the decimal exponent estimate of `mkSD`: the value is below
    `2^(e + 53)`, so `p ≤ ⌊(e + 52) * 0.30103⌋ + 1` -/
theorem quarter_ulp (m : Nat) (e : Int) (bl : Bool) (hm2 : m < 9007199254740992) (he2 : e ≤ 971)
    (a b : Nat) (hab : (a : Int) - b = (mkSD m e bl).p - 19) :
    2 ^ (-(e - 2)).toNat * 10 ^ a ≤ 2 ^ (e - 2).toNat * 10 ^ b := by
  have hp := mkSD_p_le m e bl
  have hv : bitLen (mkSD m e bl).vN ≤ 55 + (e - 2).toNat := by
    apply bitLen_le_of_lt
    rw [mkSD_vN, Nat.pow_add]
    exact Nat.mul_lt_mul_of_pos_right (by omega) (Nat.pow_pos (by decide))
  have hd : bitLen (mkSD m e bl).den = (-(e - 2)).toNat + 1 := by
    rw [mkSD_den, bitLen_two_pow]
  have hlg : ((bitLen (mkSD m e bl).vN : Int) - (bitLen (mkSD m e bl).den : Int)) * 30103 ≤ (e + 52) * 30103 := by
    rw [hd]; omega
  have hap := Int.ediv_le_ediv (show (0 : Int) < 100000 by decide) hlg
  have hest := est_bound e he2
  generalize (e + 52) * 30103 / 100000 = ap at hap hest
  generalize (mkSD m e bl).p = p at hp hab
  obtain ⟨t, ht⟩ : ∃ t : Nat, (t : Int) = ap - 18 - (p - 19) := ⟨(ap - 18 - (p - 19)).toNat, by omega⟩
  refine Nat.le_trans ?_ (hest (a + t) b (by omega))
  exact Nat.mul_le_mul_left _ (Nat.pow_le_pow_right (by decide) (Nat.le_add_right a t))

theorem trunc_inside (m lo Y W : Nat) (hm : 1 ≤ m) (hlo : lo ≤ 4 * m - 1) (hW : 0 < W) (hWY : W ≤ Y) :
    lo * Y < 4 * m * Y / W * W ∧ 4 * m * Y / W * W < (4 * m + 2) * Y := by
  have h1 : 4 * m * Y / W * W ≤ 4 * m * Y := Nat.div_mul_le_self _ _
  have h2 : 4 * m * Y < 4 * m * Y / W * W + W := Nat.lt_div_mul_add hW
  have h3 : lo * Y ≤ (4 * m - 1) * Y := Nat.mul_le_mul_right _ hlo
  have h4 : Y ≤ 4 * m * Y := Nat.le_mul_of_pos_left Y (by omega)
  -- linear in `4 * m * Y`, `Y` and the truncated value
  rw [Nat.sub_mul] at h3
  rw [Nat.add_mul]
  omega

theorem inside20 (m : Nat) (e : Int) (bl : Bool) (hm1 : 1 ≤ m) (hm2 : m < 9007199254740992)
    (he2 : e ≤ 971) : insideB (mkSD m e bl) (kOf (mkSD m e bl) 20) (flOf (mkSD m e bl) 20) = true := by
  have hk : kOf (mkSD m e bl) 20 = (mkSD m e bl).p - 19 := by unfold kOf; omega
  have hq := quarter_ulp m e bl hm2 he2 (kOf (mkSD m e bl) 20).toNat (-kOf (mkSD m e bl) 20).toNat (by omega)
  rw [insideB_canon]
  unfold flOf xNOf xDOf
  rw [ite_mul_pow_neg, ite_mul_pow, mkSD_vN, mkSD_loN, mkSD_hiN, mkSD_den]
  generalize kOf (mkSD m e bl) 20 = k at hq ⊢
  have hloC : (if bl then 4 * m - 1 else 4 * m - 2) ≤ 4 * m - 1 := by split <;> omega
  generalize (if bl then 4 * m - 1 else 4 * m - 2) = loC at hloC ⊢
  have hY : 0 < 2 ^ (-(e - 2)).toNat * 10 ^ k.toNat := Nat.mul_pos (Nat.pow_pos (by decide)) (Nat.pow_pos (by decide))
  generalize 2 ^ (e - 2).toNat = S at hq ⊢
  generalize 2 ^ (-(e - 2)).toNat = D at hq hY ⊢
  generalize 10 ^ k.toNat = P at hq hY ⊢
  generalize 10 ^ (-k).toNat = Q at hq ⊢
  obtain ⟨g1, g2⟩ := trunc_inside m loC (S * Q) (D * P) hm1 hloC hY hq
  have e2 : ∀ fl, fl * P * D = fl * (D * P) := fun fl => by rw [Nat.mul_assoc, Nat.mul_comm P]
  rw [Nat.mul_assoc (4 * m), e2, Nat.mul_assoc loC, Nat.mul_assoc (4 * m + 2)]
  exact ⟨⟨Nat.le_of_lt g1, fun _ => g1⟩, Nat.le_of_lt g2, fun _ => g2⟩

theorem shortestAux_inside (abs : Nat) (h0 : abs ≠ 0) (hfin : abs / p52 < 2047) :
    insideB (sdOf abs) (shortestAux (sdOf abs) 20 1).2 (shortestAux (sdOf abs) 20 1).1 = true := by
  obtain ⟨hm1, hm2, _, he2, _, _, _⟩ := decompose_canon abs h0 hfin
  rcases shortestAux_spec (sdOf abs) 20 1 with hin | hall
  · exact hin
  · -- a fall-through would mean that the test failed at 20 digits
    have h20 : true = false := (inside20 _ _ _ hm1 hm2 he2).symm.trans (hall 20 (by omega) (by omega)).1
    cases h20

theorem shortestAux_ne_zero (abs : Nat) (h0 : abs ≠ 0) (hfin : abs / p52 < 2047) :
    (shortestAux (sdOf abs) 20 1).1 ≠ 0 := by
  obtain ⟨hm1, _⟩ := decompose_canon abs h0 hfin
  exact Nat.pos_iff_ne_zero.1
    (insideV_pos _ _ _ ((insideB_iff _ _ _).1 (shortestAux_inside abs h0 hfin)) (mkSD_lo_pos _ _ _ hm1))

def LeadOk (ds : Bytes) (dp : Int) : Prop := (ds = [48] ∧ dp = 1) ∨ (∃ b r, ds = b :: r ∧ 49 ≤ b ∧ b ≤ 57)

/-- `digitsVal ds * 10^(dp - |ds|) < X`, in the sign-free form -/
def ValLt (ds : Bytes) (dp : Int) (X : Nat) : Prop :=
  ∀ a b : Nat, (a : Int) - b = dp - (ds.length : Int) → digitsVal ds * 10 ^ a < X * 10 ^ b

theorem ValLt.zero (dp : Int) (X : Nat) (hX : 0 < X) : ValLt [48] dp X := fun a b _ => by
  rw [show digitsVal [48] = 0 from rfl, Nat.zero_mul]
  exact Nat.mul_pos hX (Nat.pow_pos (by decide))

/-- `1085 = 1023 + 62`: the biased exponent up to which the value is below `2^63` -/
theorem shortest_sem (bits : Nat) (hfin : (bits % 9223372036854775808) / p52 < 2047) :
    Digs (shortest bits).1 ∧ LeadOk (shortest bits).1 (shortest bits).2 ∧
    ((bits % 9223372036854775808) / p52 ≤ 1085 → ValLt (shortest bits).1 (shortest bits).2 two63) := by
  refine ⟨shortest_digits bits, ?_⟩
  generalize habs : bits % 9223372036854775808 = abs at hfin ⊢
  by_cases h0 : abs = 0
  · rw [shortest_zero bits (habs.trans h0)]
    exact ⟨Or.inl ⟨rfl, rfl⟩, fun _ => ValLt.zero _ _ (by decide)⟩
  obtain ⟨hm1, hm2, _, he2, hsub, _, hbits⟩ := decompose_canon _ h0 hfin
  obtain ⟨hlead, hv⟩ :=
    shortest_insideV bits abs habs h0 (mkSD_lo_pos _ _ _ hm1) (shortestAux_inside abs h0 hfin)
  refine ⟨Or.inr hlead, fun hex => ?_⟩
  -- a biased exponent of at most 1085 means `e ≤ 10`
  refine insideV_bound _ _ _ 8 ?_ hm2 two63 (by decide) _ _ hv
  unfold p52 at hex hbits
  omega

/-- what `shortest` returns stands for the decimal `0.d1d2… * 10^dp` -/
theorem shortest_roundtrip (x : Nat) (h0 : x % 9223372036854775808 ≠ 0)
    (hfin : (x % 9223372036854775808) / p52 < 2047) :
    parseDecimal (digitsVal (shortest x).1) ((shortest x).2 - ((shortest x).1.length : Int)) =
      (x % 9223372036854775808, false) := by
  obtain ⟨hm1, _⟩ := decompose_canon _ h0 hfin
  exact insideV_parse _ h0 hfin _ _
    (shortest_insideV x _ rfl h0 (mkSD_lo_pos _ _ _ hm1) (shortestAux_inside _ h0 hfin)).2

theorem shortest_parse (x : Nat) (hfin : (x % 9223372036854775808) / p52 < 2047) :
    parseDecimal (digitsVal (shortest x).1) ((shortest x).2 - ((shortest x).1.length : Int)) =
      (x % 9223372036854775808, false) := by
  by_cases h0 : x % 9223372036854775808 = 0
  · rw [shortest_zero x h0, h0]
    rfl
  · exact shortest_roundtrip x h0 hfin

end Refmt.FloatL
