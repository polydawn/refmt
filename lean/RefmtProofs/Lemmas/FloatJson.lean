/-
  `FloatText.jsonFloat` of a finite bit pattern is a complete JSON number, and `numTok` reads it as the decimal
  `shortest` chose or, when the text is plain digits, as that integer.
-/
import RefmtProofs.Lemmas.NumTok
import RefmtProofs.Lemmas.FloatFuel
import RefmtProofs.Lemmas.JsonText
namespace Refmt.FloatL
open Refmt Refmt.FloatText Refmt.JsonDec Refmt.C03L

/-- the `e-0X` clean-up of `jsonFloat` -/
def cleanup (b : Bytes) : Bytes :=
  let n := b.length
  if n ≥ 4 && b.getD (n - 4) 0 == 101 && b.getD (n - 3) 0 == 45 && b.getD (n - 2) 0 == 48 then
    b.take (n - 2) ++ [b.getD (n - 1) 0]
  else b

theorem jsonFloat_eq (bits : Nat) : jsonFloat bits =
    if (bits % 9223372036854775808 != 0 &&
        (decide ((shortest bits).2 < -5) || decide (bits % 9223372036854775808 ≥ 0x43e0000000000000))) = true then
      cleanup (fmtE (decide (bits ≥ 9223372036854775808)) (shortest bits).1 (shortest bits).2)
    else fmtF (decide (bits ≥ 9223372036854775808)) (shortest bits).1 (shortest bits).2 := rfl

theorem two_last (l : List Nat) (h : 2 ≤ l.length) : ∃ l0 y z, l = l0 ++ [y, z] := by
  rcases List.eq_nil_or_concat l with rfl | ⟨l1, z, rfl⟩
  · simp at h
  · rcases List.eq_nil_or_concat l1 with rfl | ⟨l0, y, rfl⟩
    · simp at h
    · exact ⟨l0, y, z, by simp⟩

theorem getD_append_add : ∀ (Q t : Bytes) (i : Nat), (Q ++ t).getD (Q.length + i) 0 = t.getD i 0
  | [], t, i => by rw [List.nil_append, List.length_nil, Nat.zero_add]
  | q :: Q, t, i => by
    rw [List.cons_append, List.length_cons, Nat.add_right_comm, List.getD_cons_succ, getD_append_add Q t i]

theorem cleanup_last4 (Q : Bytes) (a c y z : Nat) :
    cleanup (Q ++ [a, c, y, z]) = if a = 101 ∧ c = 45 ∧ y = 48 then Q ++ [a, c, z] else Q ++ [a, c, y, z] := by
  have hn : (Q ++ [a, c, y, z]).length = Q.length + 4 := List.length_append
  unfold cleanup
  simp only [hn]
  rw [show Q.length + 4 - 4 = Q.length + 0 from rfl, show Q.length + 4 - 3 = Q.length + 1 from rfl,
    show Q.length + 4 - 2 = Q.length + 2 from rfl, show Q.length + 4 - 1 = Q.length + 3 from rfl,
    getD_append_add, getD_append_add, getD_append_add, getD_append_add, List.take_length_add_append]
  simp only [List.getD_cons_zero, List.getD_cons_succ, List.take_succ_cons, List.take_zero, Nat.le_add_left,
    decide_true, Bool.true_and, Bool.and_eq_true, beq_iff_eq, and_assoc, List.append_assoc, List.cons_append,
    List.nil_append]

theorem cleanup_shape (P : Bytes) (sg : Nat) (D : Bytes) (hD : Digs D) (hlen : 2 ≤ D.length) :
    cleanup (P ++ 101 :: sg :: D) = P ++ 101 :: sg :: D ∨
      (∃ z, D = [48, z] ∧ cleanup (P ++ 101 :: sg :: D) = P ++ 101 :: sg :: [z]) := by
  obtain ⟨D0, y, z, rfl⟩ := two_last D hlen
  rcases List.eq_nil_or_concat D0 with rfl | ⟨D1, w, rfl⟩
  · rw [List.nil_append, show P ++ 101 :: sg :: [y, z] = P ++ [101, sg, y, z] from rfl, cleanup_last4]
    split
    · rename_i h
      right
      exact ⟨z, by rw [h.2.2], rfl⟩
    · left; rfl
  · -- the byte before the last two is a digit, not `-`
    left
    obtain ⟨Q, a, hQ⟩ : ∃ Q a, P ++ 101 :: sg :: D1 = Q ++ [a] := by
      rcases List.eq_nil_or_concat (P ++ 101 :: sg :: D1) with h | ⟨Q, a, h⟩
      · exact absurd h (by simp)
      · exact ⟨Q, a, by rw [h, List.concat_eq_append]⟩
    have e : P ++ 101 :: sg :: (D1.concat w ++ [y, z]) = Q ++ [a, w, y, z] := by
      have : P ++ 101 :: sg :: (D1.concat w ++ [y, z]) = (P ++ 101 :: sg :: D1) ++ [w, y, z] := by simp
      rw [this, hQ, List.append_assoc]; rfl
    have hw := isDigit_iff.1 (hD w (by simp))
    rw [e, cleanup_last4, if_neg (by omega)]

theorem natDigits_len2 (n : Nat) (h : ¬ n < 10) : 2 ≤ (natDigits n).length := by
  rw [natDigits_ge n h]
  obtain ⟨b, r, e, _, _⟩ := natDigits_form (n / 10)
  rw [e]; simp

def expDigs (n : Nat) : Bytes := if n < 10 then 48 :: natDigits n else natDigits n

theorem expDigs_spec (n : Nat) : Digs (expDigs n) ∧ 2 ≤ (expDigs n).length ∧ digitsVal (expDigs n) = n := by
  unfold expDigs
  split
  · rename_i h
    refine ⟨Digs.cons (by decide) (Digs.nat n), ?_, ?_⟩
    · rw [natDigits_lt n h]; exact Nat.le_refl 2
    · rw [digitsVal_cons0, digitsVal_natDigits]
  · rename_i h
    exact ⟨Digs.nat n, natDigits_len2 n h, digitsVal_natDigits n⟩

theorem fmtE_eq (neg : Bool) (f : Nat) (r : Bytes) (dp : Int) : fmtE neg (f :: r) dp =
    ((if neg then [45] else []) ++ f :: (if r.isEmpty then [] else 46 :: r)) ++
      101 :: (if dp - 1 < 0 then 45 else 43) :: expDigs (dp - 1).natAbs := by
  simp only [fmtE, expDigs, List.headD_cons, List.drop_succ_cons, List.drop_zero, List.append_assoc,
    List.cons_append, List.nil_append]

theorem ExpPart.ofAbs (e10 : Int) {D : Bytes} (hd : Digs D) (hne : D ≠ []) (hv : digitsVal D = e10.natAbs) :
    ExpPart (101 :: (if e10 < 0 then 45 else 43) :: D) e10 := by
  refine Or.inr ⟨D, hd, hne, ?_⟩
  by_cases hneg : e10 < 0
  · right; rw [if_pos hneg, hv]; exact ⟨rfl, by omega⟩
  · left; rw [if_neg hneg, hv]; exact ⟨rfl, by omega⟩

theorem fmtE_parts (neg : Bool) (f : Nat) (r : Bytes) (dp : Int) :
    ∃ E, ExpPart E (dp - 1) ∧ E ≠ [] ∧ cleanup (fmtE neg (f :: r) dp) =
      (if neg then [45] else []) ++ f :: ((if r.isEmpty then [] else 46 :: r) ++ E) := by
  obtain ⟨hDd, hDl, hDv⟩ := expDigs_spec (dp - 1).natAbs
  rw [fmtE_eq]
  rcases cleanup_shape _ (if dp - 1 < 0 then 45 else 43) _ hDd hDl with h | ⟨z, hz, h⟩
  · have hne : expDigs (dp - 1).natAbs ≠ [] := by intro h0; rw [h0] at hDl; exact absurd hDl (by decide)
    exact ⟨_, ExpPart.ofAbs (dp - 1) hDd hne hDv, List.cons_ne_nil _ _, by rw [h, List.append_assoc]; rfl⟩
  · rw [hz] at hDd
    rw [hz, digitsVal_cons0] at hDv
    exact ⟨_, ExpPart.ofAbs (dp - 1) hDd.tail (List.cons_ne_nil _ _) hDv, List.cons_ne_nil _ _,
      by rw [h, List.append_assoc]; rfl⟩

theorem fmtE_tok (neg : Bool) (f : Nat) (r : Bytes) (dp : Int) (hd : Digs (f :: r)) :
    numberOk (cleanup (fmtE neg (f :: r) dp)) = true ∧
    numTok (cleanup (fmtE neg (f :: r) dp)) =
      floatRes neg (parseDecimal (digitsVal (f :: r)) (dp - ((f :: r).length : Int))) := by
  obtain ⟨E, hE, hne, h⟩ := fmtE_parts neg f r dp
  have hf : Digs [f] := Digs.cons hd.head Digs.nil
  have hF := FracPart.ofRest hd.tail
  have he : dp - 1 - (r.length : Int) = dp - ((f :: r).length : Int) := by
    simp only [List.length_cons]; omega
  rw [h]
  refine ⟨numberOk_parts neg f [] hf (fun _ => rfl) hF hE, ?_⟩
  have := numTok_parts neg f [] hf hF hE (Or.inr hne)
  rw [he] at this
  exact this

theorem LeadOk.ne_nil {ds : Bytes} {dp : Int} (h : LeadOk ds dp) : ds ≠ [] := by
  rcases h with ⟨rfl, _⟩ | ⟨b, r, rfl, _⟩ <;> simp

theorem LeadOk.zero {b : Nat} {r : Bytes} {dp : Int} (h : LeadOk (b :: r) dp) (hb : b = 48) : r = [] ∧ dp = 1 := by
  rcases h with ⟨h, hdp⟩ | ⟨b', r', h, hb'⟩
  · exact ⟨(List.cons.inj h).2, hdp⟩
  · have := (List.cons.inj h).1
    omega

theorem fmtF_zeros (neg : Bool) (ds : Bytes) (dp : Int) (h : dp ≤ 0) :
    fmtF neg ds dp = (if neg then [45] else []) ++ 48 :: 46 :: (List.replicate (-dp).toNat 48 ++ ds) := by
  unfold fmtF
  rw [if_pos h, List.append_assoc, List.append_assoc]
  rfl

theorem fmtF_inner (neg : Bool) (b : Nat) (r : Bytes) (dp : Int) (h1 : 0 < dp.toNat)
    (h2 : dp.toNat < (b :: r).length) :
    fmtF neg (b :: r) dp =
      (if neg then [45] else []) ++ b :: (r.take (dp.toNat - 1) ++ 46 :: (b :: r).drop dp.toNat) := by
  unfold fmtF
  rw [if_neg (by omega), if_neg (by omega), List.take_cons h1, List.append_assoc, List.append_assoc]
  rfl

theorem fmtF_digits (neg : Bool) (ds : Bytes) (dp : Int) (k : Nat) (hne : ds ≠ [])
    (hk : dp = (ds.length : Int) + k) :
    fmtF neg ds dp = (if neg then [45] else []) ++ (ds ++ List.replicate k 48) := by
  have hlen : 0 < ds.length := List.length_pos_iff.2 hne
  unfold fmtF
  rw [if_neg (by omega), if_pos (by omega), List.append_assoc, show dp.toNat - ds.length = k by omega]

theorem point_text (neg : Bool) (b : Nat) (r fp : Bytes) (hd : Digs (b :: r)) (hlead : b = 48 → r = [])
    (hfp : Digs fp) (hne : fp ≠ []) :
    numberOk ((if neg then [45] else []) ++ b :: (r ++ 46 :: fp)) = true ∧
    numTok ((if neg then [45] else []) ++ b :: (r ++ 46 :: fp)) =
      floatRes neg (parseDecimal (digitsVal (b :: r ++ fp)) (0 - (fp.length : Int))) := by
  have hF := FracPart.point hfp hne
  have h1 := numberOk_parts neg b r hd hlead hF ExpPart.none
  have h2 := numTok_parts neg b r hd hF ExpPart.none (Or.inl (List.cons_ne_nil _ _))
  rw [List.append_nil] at h1 h2
  exact ⟨h1, h2⟩

theorem fmtF_point (neg : Bool) (ds : Bytes) (dp : Int) (hd : Digs ds) (hl : LeadOk ds dp)
    (hfr : dp ≤ 0 ∨ dp.toNat < ds.length) :
    numberOk (fmtF neg ds dp) = true ∧
    numTok (fmtF neg ds dp) = floatRes neg (parseDecimal (digitsVal ds) (dp - (ds.length : Int))) := by
  by_cases h1 : dp ≤ 0
  · obtain ⟨ha, hb⟩ := point_text neg 48 [] (List.replicate (-dp).toNat 48 ++ ds) (Digs.cons (by decide) Digs.nil)
      (fun _ => rfl) ((Digs.zeros _).append hd) (fun h => hl.ne_nil (List.append_eq_nil_iff.1 h).2)
    rw [fmtF_zeros neg ds dp h1]
    refine ⟨ha, hb.trans ?_⟩
    congr 2
    · rw [List.cons_append, List.nil_append, digitsVal_cons0, digitsVal_zeros_left]
    · simp only [List.length_append, List.length_replicate]; omega
  · have h2 : dp.toNat < ds.length := by
      rcases hfr with h | h
      · exact absurd h h1
      · exact h
    have hpos : 0 < dp.toNat := by omega
    obtain ⟨b, r, rfl⟩ := List.exists_cons_of_ne_nil hl.ne_nil
    have htake : b :: r.take (dp.toNat - 1) = (b :: r).take dp.toNat := (List.take_cons hpos).symm
    obtain ⟨ha, hb⟩ := point_text neg b (r.take (dp.toNat - 1)) ((b :: r).drop dp.toNat)
      (by rw [htake]; exact hd.take _) (fun hb => by rw [(hl.zero hb).1, List.take_nil]) (hd.drop _)
      (fun h0 => by have := List.drop_eq_nil_iff.1 h0; omega)
    rw [fmtF_inner neg b r dp hpos h2]
    refine ⟨ha, hb.trans ?_⟩
    congr 2
    · rw [htake, List.take_append_drop]
    · simp only [List.length_drop]; omega

theorem fmtF_int (neg : Bool) (ds : Bytes) (dp : Int) (hd : Digs ds) (hl : LeadOk ds dp) (k : Nat)
    (hk : dp = (ds.length : Int) + k) (hv : digitsVal ds * 10 ^ k < two63) :
    fmtF neg ds dp = (if neg then [45] else []) ++ (ds ++ List.replicate k 48) ∧
    numberOk (fmtF neg ds dp) = true ∧
    numTok (fmtF neg ds dp) =
      .ok (.int (if neg then -((digitsVal ds * 10 ^ k : Nat) : Int) else ((digitsVal ds * 10 ^ k : Nat) : Int))) := by
  have hfm := fmtF_digits neg ds dp k hl.ne_nil hk
  refine ⟨hfm, ?_⟩
  rw [hfm]
  obtain ⟨b, r, rfl⟩ := List.exists_cons_of_ne_nil hl.ne_nil
  have hdz : Digs (b :: (r ++ List.replicate k 48)) := hd.append (Digs.zeros k)
  have hlead : b = 48 → r ++ List.replicate k 48 = [] := by
    intro hb
    obtain ⟨hr, hdp⟩ := hl.zero hb
    have : k = 0 := by rw [hdp, hr] at hk; simp only [List.length_cons, List.length_nil] at hk; omega
    rw [hr, this]; rfl
  constructor
  · exact numberOk_digits neg b _ hdz hlead
  · rw [List.cons_append, numTok_signed neg b _ hd.head, numTokCore_digits neg _ hdz, ← List.cons_append,
      digitsVal_zeros, intTok_small neg hv]

theorem finite_abs (x : Nat) (hfin : floatNonFinite x = false) : x % 9223372036854775808 / p52 < 2047 := by
  unfold floatNonFinite at hfin
  simp only [beq_eq_false_iff_ne, ne_eq] at hfin
  unfold p52
  omega

theorem plain_exp (abs : Nat) (dp : Int)
    (hu : ¬ (abs != 0 && (decide (dp < -5) || decide (abs ≥ 0x43e0000000000000))) = true) : abs / p52 ≤ 1085 := by
  unfold p52
  simp only [Bool.and_eq_true, bne_iff_ne, ne_eq, Bool.or_eq_true, decide_eq_true_eq, not_and, not_or] at hu
  by_cases h0 : abs = 0
  · rw [h0]; decide
  · omega

theorem jsonFloat_reads (x : Nat) (hfin : floatNonFinite x = false) :
    numberOk (jsonFloat x) = true ∧
    (numTok (jsonFloat x) = floatRes (decide (x ≥ 9223372036854775808)) (x % 9223372036854775808, false) ∨
      ∃ k : Nat, (shortest x).2 = ((shortest x).1.length : Int) + k ∧
        jsonFloat x = (if decide (x ≥ 9223372036854775808) then [45] else []) ++
          ((shortest x).1 ++ List.replicate k 48) ∧
        numTok (jsonFloat x) = .ok (.int (if decide (x ≥ 9223372036854775808)
          then -((digitsVal (shortest x).1 * 10 ^ k : Nat) : Int)
          else ((digitsVal (shortest x).1 * 10 ^ k : Nat) : Int))) ∧
        parseDecimal (digitsVal (shortest x).1) k = (x % 9223372036854775808, false)) := by
  obtain ⟨hd, hl, hlt⟩ := shortest_sem x (finite_abs x hfin)
  have hsp := shortest_parse x (finite_abs x hfin)
  rw [jsonFloat_eq]
  generalize (shortest x).1 = ds at *
  generalize (shortest x).2 = dp at *
  split
  · obtain ⟨f, r, rfl⟩ := List.exists_cons_of_ne_nil hl.ne_nil
    obtain ⟨h1, h2⟩ := fmtE_tok (decide (x ≥ 9223372036854775808)) f r dp hd
    exact ⟨h1, .inl (hsp ▸ h2)⟩
  · rename_i hu
    by_cases hfr : dp ≤ 0 ∨ dp.toNat < ds.length
    · obtain ⟨h1, h2⟩ := fmtF_point (decide (x ≥ 9223372036854775808)) ds dp hd hl hfr
      exact ⟨h1, .inl (hsp ▸ h2)⟩
    · have hk : dp = (ds.length : Int) + ((dp.toNat - ds.length : Nat) : Int) := by omega
      have h3 := hlt (plain_exp _ _ hu) (dp.toNat - ds.length) 0 (by omega)
      rw [Nat.pow_zero, Nat.mul_one] at h3
      obtain ⟨h0, h1, h2⟩ := fmtF_int (decide (x ≥ 9223372036854775808)) ds dp hd hl _ hk h3
      refine ⟨h1, .inr ⟨_, hk, h0, h2, ?_⟩⟩
      rwa [show dp - (ds.length : Int) = ((dp.toNat - ds.length : Nat) : Int) by omega] at hsp

theorem jsonFloat_ok (x : Nat) (hfin : floatNonFinite x = false) :
    numberOk (jsonFloat x) = true ∧ ∃ b, numTok (jsonFloat x) = .ok b := by
  obtain ⟨h1, h2 | ⟨k, _, _, h2, _⟩⟩ := jsonFloat_reads x hfin
  · exact ⟨h1, _, h2⟩
  · exact ⟨h1, _, h2⟩

theorem floatOk_finite (x : Nat) (hfin : floatNonFinite x = false) : floatOk x = true := by
  obtain ⟨h1, b, h2⟩ := jsonFloat_ok x hfin
  unfold floatOk
  rw [h1, h2]
  rfl

end Refmt.FloatL
