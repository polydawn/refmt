/-
  For C02's round trip.  The reference parser's `headOf` reads back the heads the reference encoder writes
  (HeadReads.lean); through the rules of the decoder's big step `C04.AcceptRuns` this says what the decoder does on
  an encoding followed by anything (`EncRuns`, one rule per kind of item).
-/
import RefmtProofs.Lemmas.HeadReads
import RefmtProofs.Lemmas.CborRun
namespace Refmt.C04
open Refmt Refmt.CborDec Refmt.Spec.Cbor
open Refmt.C02L (TagOk)

/-- From `E ++ rest`, whatever `rest` is, the machine decodes the tokens `ts` of one item, whose tag, if there is one,
it has read already, and leaves `rest`. -/
def EncRuns (coerce : Bool) (tag : Option Int) (E : Bytes) (ts : List Tok) : Prop :=
  ∃ b tl, E = b :: tl ∧ b ≠ 0xff ∧ ∀ rest, AcceptRuns coerce b (tl ++ rest) tag ts rest

theorem EncRuns.scalar {coerce : Bool} {tag : Option Int} {E : Bytes} {body : Body}
    (h : HeadReads E fun r => .scalar body r) : EncRuns coerce tag E [⟨body, tag⟩] := by
  obtain ⟨b, tl, e, hb, hne, hh⟩ := h
  exact ⟨b, tl, e, hne, fun rest => .scalar hb (hh coerce rest)⟩

theorem EncRuns.tagged {coerce : Bool} {tag : Option Int} {E : Bytes} {ts : List Tok} (ht : TagOk tag)
    (h : EncRuns coerce tag E ts) : EncRuns coerce none (tagBytes tag ++ E) ts := by
  cases tag with
  | none => exact h
  | some g =>
    obtain ⟨g0, g1⟩ := ht g rfl
    obtain ⟨mb, tl', rfl, _, hA⟩ := h
    obtain ⟨b, tl, e, hb, hne, hh⟩ := HeadReads.tag g0 g1
    refine ⟨b, tl ++ mb :: tl', by rw [e]; rfl, hne, fun rest => ?_⟩
    have := hA rest
    rw [← Int.toNat_of_nonneg g0] at this
    exact .tagged hb (by rw [List.append_assoc]; exact hh coerce _) this

theorem EncRuns.container {coerce isMap d : Bool} {tag : Option Int} {n : Nat} {E : Bytes} {ts : List Tok}
    (hn : d = true → n ≤ CborDec.maxInt) (hItems : ∀ rest, ContentRuns coerce isMap d n (E ++ rest) ts rest) :
    EncRuns coerce tag
      ((if d then head (if isMap then 0xa0 else 0x80) n else [if isMap then 0xbf else 0x9f]) ++ E ++ closer d)
      (openTok isMap (openLen d n) tag :: (ts ++ [closeTok isMap])) := by
  cases d with
  | false =>
    refine ⟨if isMap then 0xbf else 0x9f, E ++ [0xff], rfl, by cases isMap <;> decide, fun rest => ?_⟩
    refine .container (d := false) (n := 0) (by cases isMap <;> decide) (by cases isMap <;> rfl) ?_
    rw [List.append_assoc]; exact hItems (0xff :: rest)
  | true =>
    obtain ⟨b, tl, e, hb, hne, hh⟩ := HeadReads.counted (m := if isMap then 0xa0 else 0x80)
      (Head.container isMap true) (by cases isMap <;> decide) (by cases isMap <;> decide) (hn rfl)
      fun r => by cases isMap <;> rfl
    refine ⟨b, tl ++ E, by simp [e, closer], hne, fun rest => ?_⟩
    exact .container hb (by rw [List.append_assoc]; exact hh coerce _) (hItems rest)

theorem EncRuns.item {coerce : Bool} {E : Bytes} {ts : List Tok} (h : EncRuns coerce none E ts) (rest : Bytes) :
    ItemRuns coerce (E ++ rest) ts rest := by
  obtain ⟨b, tl, rfl, hne, hA⟩ := h
  exact .of_accept ⟨b, tl ++ rest, rfl, hne, hA rest⟩

theorem EncRuns.decode {coerce : Bool} {E : Bytes} {ts : List Tok} (h : EncRuns coerce none E ts) (rest : Bytes)
    (hlen : ts.length ≤ 2 * E.length) :
    let o := CborDec.decode coerce (Rd.ofBytes (E ++ rest))
    o.toks = ts ∧ o.res = .ok () ∧ o.rd = Rd.ofBytes rest := by
  obtain ⟨b, tl, rfl, _, hA⟩ := h
  have hts := (hA rest).1
  have hr := run_eq coerce (2 * (b :: (tl ++ rest)).length + 2) init ⟨b :: (tl ++ rest), none, 0⟩ [] 0 0
  have := (hA rest).run (2 * (b :: (tl ++ rest)).length + 2 - ts.length)
  rw [show 2 * (b :: (tl ++ rest)).length + 2 - ts.length + (ts.length - 1) + 1 = 2 * (b :: (tl ++ rest)).length + 2 by
    simp only [List.length_cons, List.length_append] at hlen ⊢; omega] at this
  rw [this] at hr
  simp only [Prod.mk.injEq] at hr
  exact hr

end Refmt.C04
