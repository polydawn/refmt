/-
  Stateful object unmarshaller: the pointer machine.  Its `Reset` only records target and type; the first `Step` answers
  a null token itself and otherwise Resets the machine it points to for the pointee and hands it the token
  (`ptr_first`, an instance of `Wr.first`).  `simV_succ`: `SimB n → SimV (n+1)`.
-/
import RefmtProofs.Lemmas.UnmarshalMachReset
namespace Refmt.UMachU
open Refmt Refmt.Obj Refmt.Obj.UM

variable {ts : Types} {a : Atlas} {trs : Trs} {it : IfaceTys} {ub : Nat}

theorem simV_zero (S : List Nat) : SimV ts a trs it ub S 0 := by
  intro id hid cur row ck hcfg lo hi stk be toks fr sf1 sf hfr hsf1 hsf
  rw [unmV_zero]; trivial

theorem simB_zero (S : List Nat) (wi : Option Nat) : SimB ts a trs it ub S wi 0 := by
  intro base hok hU row k hcfg cur lo hi stk be c w d toks fr sf1 sf hw hfr hsf1 hsf
  rw [unmBare_zero]; trivial

def rowP (row : URow) (cur : Val) (id : Nat) (b : Bool) : URow :=
  { row with ptr := { row.ptr with ptr_rv := cur, ptr_rt := id, firstStep := b } }

theorem rowP_sameC (row : URow) (cur : Val) (id : Nat) (b : Bool) : SameCfgC row (rowP row cur id b) :=
  ⟨rfl, rfl, rfl, rfl, rfl, rfl, rfl, rfl⟩

theorem stepPtr_first {g : Nat} {lo hi : List URow} {row : URow} {stk st be} {k : MK} {t : Tok} {id : Nat} {cur : Val}
    (hm : row.ptr.mach = some k) (hnull : t.body ≠ .null) :
    stepM ts a trs it (g+1+1) ⟨lo.length, .ptr⟩ ⟨lo ++ rowP row cur id true :: hi, stk, st, be⟩ t
    = match resetM ts a (g+1) ⟨lo.length, k⟩ (peel ts 64 0 id).2 (innerCur ts row.ptr.peelCount id cur)
          (lo ++ rowP row cur id false :: hi) with
      | .error x => .error x
      | .ok R1 => mapDone (wrapPtr row.ptr.peelCount) (stepM ts a trs it (g+1) ⟨lo.length, k⟩ ⟨R1, stk, st, be⟩ t) := by
  show stepBody ts a trs it (g+1) (stepM ts a trs it (g+1)) (recurse ts a trs it (g+1)) _ _ t = _
  simp only [stepBody, RowL.getRow, stepPtr, rowP, hm, if_true, UState.upd, updRow_at]
  cases resetM ts a (g+1) ⟨lo.length, k⟩ (peel ts 64 0 id).2 (innerCur ts row.ptr.peelCount id cur)
          (lo ++ rowP row cur id false :: hi) with
  | error x => rfl
  | ok R1 =>
    cases stepM ts a trs it (g+1) ⟨lo.length, k⟩ ⟨R1, stk, st, be⟩ t <;> rfl

theorem rtp_ptr {fr sf1 sf : Nat} {lo hi : List URow} {row : URow} {stk be} {id : Nat} {cur : Val} {t : Tok}
    {rest : List Tok} :
    rtp ts a trs it (fr+1) sf1 sf (lo ++ row :: hi) stk be ⟨lo.length, .ptr⟩ id cur (t :: rest)
    = pump1 ts a trs it sf1 sf
        ⟨lo ++ rowP row cur id true :: hi, stk, some ⟨lo.length, .ptr⟩, be⟩ (t :: rest) := by
  simp only [rtp, resetM, resetBody, RowL.getRow, resetPtr, updRow_at, rowP]

theorem ptr_first {g sf : Nat} {lo hi : List URow} {row : URow} {stk be} {k : MK} {t : Tok} {rest : List Tok}
    {id base : Nat} {cur : Val} {M : UMach} (hb : CfgBare ts a row base k M) (hm : row.ptr.mach = some k)
    (hnull : t.body ≠ .null) :
    pump1 ts a trs it (g+3) sf ⟨lo ++ rowP row cur id true :: hi, stk, some ⟨lo.length, .ptr⟩, be⟩ (t :: rest)
      = rtpB ts a trs it (g+1) (g+3) sf (lo ++ rowP row cur id false :: hi) stk be ⟨lo.length, .ptr⟩ ⟨lo.length, k⟩
          (peel ts 64 0 id).2 (innerCur ts row.ptr.peelCount id cur) (t :: rest) :=
  Wr.first (Wr.refl lo (rowP row cur id true) .ptr)
    (fun st => stepPtr_first hm hnull)
    (fun R2 hr => by
      obtain ⟨row3, hi3, rfl, hp3, _⟩ := cfg_frame hb _ _ _ (rowP row cur id false) _ _ rfl hr
      have := Wr.ptr (U := trs.u) (RowL.getRow lo row3 []) (by rw [hp3]; exact hm) (by rw [hp3]; rfl) (Wr.refl lo row3 k)
      rw [hp3] at this
      exact ⟨row3, hi3, rfl, this⟩) rfl

theorem ptr_null {g sf : Nat} {lo hi : List URow} {row : URow} {stk be} {k : MK} {t : Tok} {rest : List Tok} {id : Nat}
    {cur : Val} (hm : row.ptr.mach = some k) (hnull : t.body = .null) :
    pump1 ts a trs it (g+3) sf ⟨lo ++ rowP row cur id true :: hi, stk, some ⟨lo.length, .ptr⟩, be⟩ (t :: rest)
    = kont ts a trs it (g+2) sf be stk (.ptr none) (lo ++ rowP row cur id false :: hi) rest := by
  apply (Drv.first _ _).done (c' := some ⟨lo.length, .ptr⟩)
  show stepBody ts a trs it (g+1) (stepM ts a trs it (g+1)) (recurse ts a trs it (g+1)) _ _ t = _
  simp only [stepBody, RowL.getRow, stepPtr, rowP, hm, if_true, UState.upd, updRow_at, hnull, fin]

theorem simV_succ {S : List Nat} {wi : Option Nat} {n : Nat} (hS : Closed ts a S wi)
    (hU : ∀ id ∈ S, ∀ ms, upickBare ts a (peel ts 64 0 id).2 = .union ms → 1 ≤ ub) (hB : SimB ts a trs it ub S wi n) :
    SimV ts a trs it ub S (n+1) := by
  intro id hid cur row ck hcfg lo hi stk be toks fr sf1 sf hfr hsf1 hsf
  cases toks with
  | nil => rw [unmV_succ_nil]; exact Agree.nil
  | cons t rest =>
    have hcfg0 := hcfg
    obtain ⟨k, hb, hp⟩ := hcfg
    have hok := hS id hid
    have hU := hU id hid
    rw [unmV_cons]
    by_cases h0 : (peel ts 64 0 id).1 = 0
    · have hbase := ObjL.peel_zero h0
      simp only [beq_iff_eq, h0, if_true] at hp ⊢
      subst hp
      rw [hbase] at hb hok hU ⊢
      rw [rtp_eq]
      exact (hB id hok hU row ck hb cur lo hi stk be ⟨lo.length, ck⟩ _root_.id 0 (t :: rest) fr sf1 sf (WrP.refl lo row ck)
        (by omega) (by omega) hsf).rekeep fun r' h => ⟨ck, by rw [hbase]; exact h.cfg, by rw [if_pos h0]⟩
    · simp only [beq_iff_eq, h0, if_false] at hp ⊢
      obtain ⟨rfl, hm, hpc⟩ := hp
      obtain ⟨fr', rfl⟩ : ∃ f, fr = f + 1 := ⟨fr - 1, by omega⟩
      obtain ⟨g, rfl⟩ : ∃ g, sf1 = g + 3 := ⟨sf1 - 3, by omega⟩
      rw [rtp_ptr]
      by_cases hnull : t.body = .null
      · rw [ptr_null hm hnull]
        simp only [hnull]
        exact ⟨Nat.le_refl 1, rowP row cur id false, hi, g + 2, hcfg0.sameC (rowP_sameC ..) rfl rfl, by omega, by simp⟩
      · rw [ptr_first hb hm hnull, hpc]
        have hw : WrP ⟨lo.length, .ptr⟩ lo (rowP row cur id false) k (wrapPtr (peel ts 64 0 id).1 ∘ _root_.id) 1 := by
          have := WrP.ptrS (lo := lo) (row := rowP row cur id false) hm rfl
          rw [show (rowP row cur id false).ptr.peelCount = (peel ts 64 0 id).1 from hpc] at this
          exact this
        have hA := hB _ hok hU (rowP row cur id false) k (hb.sameC (rowP_sameC ..)) (innerCur ts (peel ts 64 0 id).1 id cur) lo hi stk be
          ⟨lo.length, .ptr⟩ _ 1 (t :: rest) (g + 1) (g + 3) sf hw (by omega) (by omega) hsf
        have hA' := Agree.map (w := _root_.id) (g := wrapPtr (peel ts 64 0 id).1) (hA.rekeep fun r' h =>
          (⟨k, h.cfg, by rw [if_neg h0]; exact ⟨rfl, h.mach.trans hm, h.peelCount.trans hpc⟩⟩ : CfgV ts a r' id .ptr))
        split
        · next hb => exact absurd hb hnull
        · exact hA'

end Refmt.UMachU
