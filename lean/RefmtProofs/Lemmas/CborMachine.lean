/-
  One call of the decoder's `acceptValue` against `headOf`, the head of the reference parser (`accept_head`); every
  run of the machine in CborRun, along a parse (C04) or along the encoder's output (C02), is made of such calls.  The terminal decoders are related to
  `Option`-valued readers by `TermRel`: `decUint` reads what `arg` reads, `decLen` adds the Go `int` range, strings and floats add their payload.
-/
import RefmtProofs.Lemmas.CborParse
import RefmtProofs.Lemmas.CborReads
import RefmtProofs.Lemmas.HalfTable
namespace Refmt.C04
open Refmt Refmt.CborDec Refmt.Spec.Cbor
open Refmt.CborEnc (majUint majNeg majBytes majStr majArr majMap majTag sigFalse sigTrue sigNil sigUndef sigF16 sigF32 sigF64 sigIndefBytes sigIndefStr sigIndefArr sigIndefMap sigBreak)

/-- The decoder model and the reference parser each carry their own copy of the two bounds. -/
theorem maxInt_eq : CborDec.maxInt = Spec.Cbor.maxInt := rfl
theorem cap32M_eq : CborDec.cap32M = Spec.Cbor.cap32M := rfl

-- Here and in CborRun the reader on the bytes `r` is written `⟨r, none, 0⟩`: that is `Rd.ofBytes r` unfolded (the data, no
-- injected fault, no byte pushed back).

def TermRel {α : Type} (o : Option (α × Bytes)) (res : R α) : Prop :=
  match o with
  | some (v, r) => res.res = .ok v ∧ res.rd = ⟨r, none, 0⟩
  | none => ∃ e, res.res = .error e

theorem TermRel.ok {α : Type} {res : R α} {v : α} {r : Bytes} (h1 : res.res = .ok v) (h2 : res.rd = ⟨r, none, 0⟩) :
    TermRel (some (v, r)) res := ⟨h1, h2⟩

theorem TermRel.err {α : Type} {res : R α} {e : Err} (h : res.res = .error e) : TermRel none res := ⟨e, h⟩

theorem TermRel.alloc {α : Type} {o : Option (α × Bytes)} {res : R α} (h : TermRel o res) (a : Nat) :
    TermRel o { res with alloc := a } := by
  cases o <;> exact h

theorem readN_rel {α : Type} (r : Bytes) (k : Nat) (g : Bytes → α) (al al' : Nat) :
    TermRel (if r.length ≥ k then some (g (r.take k), r.drop k) else none)
      (match Rd.readN ⟨r, none, 0⟩ k with
        | (.ok bs, rd') => ⟨.ok (g bs), rd', al⟩
        | (.error e, rd') => ⟨.error e, rd', al'⟩) := by
  by_cases hl : r.length ≥ k
  · rw [if_pos hl, Rd.readN_ok _ _ hl]; exact .ok rfl rfl
  · obtain ⟨e, he⟩ := Rd.readN_err r k (by omega)
    rw [if_neg hl, he]; exact .err rfl

theorem readVal_rel (r : Bytes) (k : Nat) (g : Bytes → Nat) :
    TermRel (if r.length ≥ k then some (g (r.take k), r.drop k) else none) (readVal ⟨r, none, 0⟩ k g) :=
  readN_rel r k g 0 0

theorem decUint_rel (b : Nat) (r : Bytes) : TermRel (arg (b % 32) r) (decUint ⟨r, none, 0⟩ b) := by
  rcases decUint_cases b with ⟨h, e⟩ | ⟨h, e⟩ | ⟨k, hk, e⟩ | ⟨h, e⟩ <;> rw [e]
  · rw [(IsArg.imm _ r h).arg_eq]; exact .ok rfl rfl
  · rw [h]
    cases r with
    | nil => exact .err rfl
    | cons x t => exact .ok rfl rfl
  · rw [arg_be_eq hk]; exact readVal_rel r k beVal
  · rw [arg_none_of_gt h]; exact .err rfl

def lenOf (p : Nat × Bytes) : Option (Nat × Bytes) := if p.1 > Spec.Cbor.maxInt then none else some p

theorem decLen_rel (b : Nat) (r : Bytes) : TermRel ((arg (b % 32) r).bind lenOf) (decLen ⟨r, none, 0⟩ b) := by
  have h := decUint_rel b r
  cases ha : arg (b % 32) r with
  | none => rw [ha] at h; obtain ⟨e, he⟩ := h; rw [decLen_err he]; exact .err rfl
  | some p =>
    rw [ha] at h
    rw [decLen_ok h.1, h.2, Option.bind_some, lenOf, maxInt_eq]
    by_cases hn : p.1 > Spec.Cbor.maxInt
    · rw [if_pos hn, if_pos hn]; exact .err rfl
    · rw [if_neg hn, if_neg hn]; exact .ok rfl rfl

theorem decNegInt_rel (b : Nat) (r : Bytes) :
    TermRel ((arg (b % 32) r).bind fun p => if p.1 < two63 then some (-1 - (p.1 : Int), p.2) else none)
      (decNegInt ⟨r, none, 0⟩ b) := by
  have h := decUint_rel b r
  cases ha : arg (b % 32) r with
  | none => rw [ha] at h; obtain ⟨e, he⟩ := h; rw [decNegInt_err he]; exact .err rfl
  | some p =>
    rw [ha] at h
    rw [decNegInt_ok h.1, h.2, Option.bind_some]
    -- `two63 = maxInt + 1`
    by_cases hn : p.1 < two63
    · rw [if_pos hn, if_neg (by unfold two63 at hn; unfold CborDec.maxInt; omega)]; exact .ok rfl rfl
    · rw [if_neg hn, if_pos (by unfold two63 at hn; unfold CborDec.maxInt; omega)]; exact .err rfl

/-- `decLen_rel` case by case, for `chunks` and `strOf`, which test the Go `int` range together with their own caps. -/
theorem decLen_cases (b : Nat) (r : Bytes) :
    (arg (b % 32) r = none ∧ ∃ e, (decLen ⟨r, none, 0⟩ b).res = .error e) ∨
    (∃ n r', arg (b % 32) r = some (n, r') ∧ n > Spec.Cbor.maxInt ∧ ∃ e, (decLen ⟨r, none, 0⟩ b).res = .error e) ∨
    (∃ n r', arg (b % 32) r = some (n, r') ∧ ¬ n > Spec.Cbor.maxInt ∧
      (decLen ⟨r, none, 0⟩ b).res = .ok n ∧ (decLen ⟨r, none, 0⟩ b).rd = ⟨r', none, 0⟩) := by
  have h := decLen_rel b r
  cases ha : arg (b % 32) r with
  | none => rw [ha] at h; exact .inl ⟨rfl, h⟩
  | some p =>
    rw [ha, Option.bind_some, lenOf] at h
    by_cases hn : p.1 > Spec.Cbor.maxInt
    · rw [if_pos hn] at h; exact .inr (.inl ⟨p.1, p.2, rfl, hn, h⟩)
    · rw [if_neg hn] at h; exact .inr (.inr ⟨p.1, p.2, rfl, hn, h⟩)

theorem decChunks_chunks (maj : Nat) : ∀ (f : Nat) (bs acc : Bytes) (cap al : Nat),
    TermRel (chunks maj f bs acc) (decChunks f ⟨bs, none, 0⟩ maj acc cap al)
  | 0, bs, acc, cap, al => .err rfl
  | f+1, [], acc, cap, al => .err rfl
  | f+1, b :: t, acc, cap, al => by
    rw [chunks, decChunks, Rd.read1_cons]
    dsimp only
    by_cases h1 : (b == 0xff) = true
    · have h1' : (b == sigBreak) = true := h1
      rw [if_pos h1, if_pos h1']
      exact .ok rfl rfl
    have h1' : ¬ (b == sigBreak) = true := h1
    rw [if_neg h1, if_neg h1']
    by_cases h2 : (b / 32 * 32 != maj) = true
    · rw [if_pos h2, if_pos h2]; exact .err rfl
    rw [if_neg h2, if_neg h2]
    rcases decLen_cases b t with ⟨ha, e, he⟩ | ⟨n, r', ha, hn, e, he⟩ | ⟨n, r', ha, hn, he, hrd⟩ <;> rw [ha, he]
    · exact .err rfl
    · dsimp only; rw [if_pos (by simp [hn])]; exact .err rfl
    dsimp only
    by_cases hc : n > Spec.Cbor.cap32M
    · rw [cap32M_eq, if_pos hc, if_pos (by simp [hc])]
      exact .err rfl
    rw [cap32M_eq, if_neg hc, hrd]
    by_cases hl : r'.length < n
    · obtain ⟨e, he⟩ := Rd.readN_err r' n hl
      rw [he, if_pos (by simp [hl])]
      exact .err rfl
    · rw [if_neg (capped_false.2 ⟨by omega, by omega, by omega⟩), Rd.readN_ok _ _ (by omega)]
      exact decChunks_chunks maj f _ _ _ _

def itemPhase : (isMap d : Bool) → Phase
  | false, false => .arrIndef
  | false, true => .arrDef
  | true, false => .mapIndefKey
  | true, true => .mapDefKey
def valPhase (d : Bool) : Phase := if d then .mapDefVal else .mapIndefVal
def leftWith (d : Bool) (n : Nat) (l : List Nat) : List Nat := if d then n :: l else l
def openLen (d : Bool) (n : Nat) : Int := if d then n else -1

def AcceptRel (coerce : Bool) (s : St) (tag : Option Int) (fuel : Nat) (o : Out) : Option Head → Prop
  | none => ∃ e, o.ret = .err e
  | some (.scalar body r') => ∃ al, o = ⟨s, ⟨r', none, 0⟩, .tok ⟨body, tag⟩ true, al⟩
  | some (.container isMap d n r') =>
    o = ⟨push { s with left := leftWith d n s.left } (itemPhase isMap d), ⟨r', none, 0⟩,
      .tok (openTok isMap (openLen d n) tag) false, 0⟩
  | some (.tag n r') =>
    match tag with
    | some _ => ∃ e, o.ret = .err e
    | none =>
      match r' with
      | [] => ∃ e, o.ret = .err e
      | mb :: r1 =>
        match fuel with
        | 0 => ∃ e, o.ret = .err e
        | fuel+1 => o = acceptValue coerce s ⟨r1, none, 0⟩ mb (some (n : Int)) fuel

theorem accept_scalar {α : Type} (coerce : Bool) (s : St) (tag : Option Int) (fuel : Nat) {o : Option (α × Bytes)}
    {res : R α} (h : TermRel o res) (mk : α → Body) :
    AcceptRel coerce s tag fuel (scalarOut s res mk tag) (o.map fun (v, r') => .scalar (mk v) r') := by
  obtain ⟨rs, rd, al⟩ := res
  cases o with
  | none => obtain ⟨e, he⟩ := h; exact ⟨e, scalarOut_mk_err _ _ _ _ _ _ e he⟩
  | some p =>
    obtain ⟨h1, h2⟩ := h
    cases h2
    exact ⟨al, scalarOut_mk_ok _ _ _ _ _ _ _ h1⟩

theorem accept_open (coerce : Bool) (s : St) (tag : Option Int) (fuel : Nat) (isMap : Bool) {o : Option (Nat × Bytes)}
    {l : R Nat} (h : TermRel o l) :
    AcceptRel coerce s tag fuel
      (match l.res with
        | .ok n => ⟨push { s with left := n :: s.left } (itemPhase isMap true), l.rd, .tok (openTok isMap n tag) false, 0⟩
        | .error e => ⟨s, l.rd, .err e, 0⟩)
      (o.map fun (n, r') => .container isMap true n r') := by
  cases o with
  | none => obtain ⟨e, he⟩ := h; rw [he]; exact ⟨e, rfl⟩
  | some p => obtain ⟨h1, h2⟩ := h; rw [h1, h2]; rfl

theorem accept_tag (coerce : Bool) (s : St) (rd : Rd) (tag : Option Int) (fuel : Nat) {o : Option (Nat × Bytes)}
    {l : R Nat} (h : TermRel o l) :
    AcceptRel coerce s tag fuel
      (match tag with
        | some _ => ⟨s, rd, .err .syntax, 0⟩
        | none =>
          match l.res with
          | .error e => ⟨s, l.rd, .err e, 0⟩
          | .ok t =>
            match l.rd.read1 with
            | (.error e, rd') => ⟨s, rd', .err e, 0⟩
            | (.ok (mb, rd1), _) =>
              match fuel with
              | 0 => ⟨s, rd1, .err .other, 0⟩
              | fuel+1 => acceptValue coerce s rd1 mb (some (t : Int)) fuel)
      (o.map fun (n, r') => .tag n r') := by
  cases o with
  | none =>
    obtain ⟨e, he⟩ := h
    cases tag with
    | some t => exact ⟨_, rfl⟩
    | none => dsimp only; rw [he]; exact ⟨e, rfl⟩
  | some p =>
    obtain ⟨n, r'⟩ := p
    obtain ⟨h1, h2⟩ := h
    cases tag with
    | some t => exact ⟨_, rfl⟩
    | none =>
      dsimp only; rw [h1, h2]
      cases r' with
      | nil => exact ⟨_, rfl⟩
      | cons mb r1 =>
        cases fuel with
        | zero => exact ⟨_, rfl⟩
        | succ fuel => rfl

def floatOf (b : Nat) (r : Bytes) : Option (Nat × Bytes) :=
  if b = sigF16 then (if r.length ≥ 2 then some (halfToF64 (beVal (r.take 2)), r.drop 2) else none)
  else if b = sigF32 then (if r.length ≥ 4 then some (f32to64 (beVal (r.take 4)), r.drop 4) else none)
  else (if r.length ≥ 8 then some (beVal (r.take 8), r.drop 8) else none)

/-- For half precision the decoder widens through single precision, which is exact (`HalfTable.half_exact_all`). -/
theorem decFloat_rel (b : Nat) (r : Bytes) : TermRel (floatOf b r) (decFloat ⟨r, none, 0⟩ b) := by
  unfold floatOf
  rcases decFloat_cases b with ⟨h, e⟩ | ⟨h, e⟩ | ⟨h1, h2, e⟩ <;> rw [e]
  · rw [if_pos h]
    have := readVal_rel r 2 fun bs => f32to64 (halfToFloatBits (beVal bs))
    rwa [HalfTable.half_exact_all] at this
  · rw [if_neg (by rw [h]; decide), if_pos h]; exact readVal_rel r 4 fun bs => f32to64 (beVal bs)
  · rw [if_neg h1, if_neg h2]; exact readVal_rel r 8 beVal

theorem headOf_float (coerce : Bool) {b : Nat} (r : Bytes) (h : b = sigF16 ∨ b = sigF32 ∨ b = sigF64) :
    headOf coerce (b :: r) = (floatOf b r).map fun (x, r') => .scalar (.float x) r' := by
  unfold floatOf
  rcases h with rfl | rfl | rfl
  · rw [if_pos rfl, Option.map_if]; rfl
  · rw [if_neg (by decide), if_pos rfl, Option.map_if]; rfl
  · rw [if_neg (by decide), if_neg (by decide), Option.map_if]; rfl

def strOf (p : Nat × Bytes) : Option (Bytes × Bytes) :=
  if p.1 > Spec.Cbor.maxInt || p.1 > Spec.Cbor.cap32M || p.2.length < p.1 then none
  else some (p.2.take p.1, p.2.drop p.1)

theorem decStr_rel (b : Nat) (r : Bytes) (al al' : Nat → Nat) :
    TermRel ((arg (b % 32) r).bind strOf) (lenRead ⟨r, none, 0⟩ b al al') := by
  unfold lenRead
  dsimp only
  rcases decLen_cases b r with ⟨ha, e, he⟩ | ⟨n, r', ha, hn, e, he⟩ | ⟨n, r', ha, hn, he, hrd⟩ <;> rw [ha, he]
  · exact .err rfl
  · show TermRel (strOf (n, r')) _
    unfold strOf
    rw [if_pos (by simp [hn])]; exact .err rfl
  show TermRel (strOf (n, r')) _
  unfold strOf
  dsimp only
  by_cases hc : n > Spec.Cbor.cap32M
  · rw [cap32M_eq, if_pos hc, if_pos (by simp [hc])]; exact .err rfl
  rw [cap32M_eq, if_neg hc, hrd]
  have := readN_rel r' n id (al n) (al' n)
  by_cases hl : r'.length < n
  · rw [if_pos (by simp [hl])]; rwa [if_neg (by omega)] at this
  · rw [if_neg (capped_false.2 ⟨by omega, by omega, by omega⟩)]; rwa [if_pos (by omega)] at this

theorem decBytes_rel (b : Nat) (r : Bytes) : TermRel ((arg (b % 32) r).bind strOf) (decBytes ⟨r, none, 0⟩ b) :=
  decStr_rel b r id id

theorem decString_rel (b : Nat) (r : Bytes) : TermRel ((arg (b % 32) r).bind strOf) (decString ⟨r, none, 0⟩ b) :=
  decStr_rel b r (fun n => (if n < 32 then 0 else n) + n) (fun n => if n < 32 then 0 else n)

theorem headOf_bind (coerce : Bool) {b : Nat} (r : Bytes) (h7 : b / 32 ≠ 7)
    (hi : b ≠ 0x5f ∧ b ≠ 0x7f ∧ b ≠ 0x9f ∧ b ≠ 0xbf) :
    headOf coerce (b :: r) = (arg (b % 32) r).bind fun p => definiteOf (b / 32) p.1 p.2 := by
  by_cases h31 : b % 32 = 31
  · rw [headOf_indef coerce r h7 h31, h31, arg_31]
    simp only [indefOf, beq_iff_eq, show b / 32 ≠ 2 by omega, show b / 32 ≠ 3 by omega, show b / 32 ≠ 4 by omega,
      show b / 32 ≠ 5 by omega, if_false]
    rfl
  · cases ha : arg (b % 32) r with
    | none => rw [headOf_arg_none coerce h7 h31 ha]; rfl
    | some p => exact headOf_definite coerce h7 ha

/-! The heads with an argument, as the image of the reader the terminal decoder is related to. -/

theorem definiteOf_uint (o : Option (Nat × Bytes)) :
    (o.bind fun p => definiteOf 0 p.1 p.2) = o.map fun (n, r') => .scalar (.uint n) r' := by
  cases o <;> rfl

theorem definiteOf_nint (o : Option (Nat × Bytes)) :
    (o.bind fun p => definiteOf 1 p.1 p.2) =
      (o.bind fun p => if p.1 < two63 then some (-1 - (p.1 : Int), p.2) else none).map
        fun (i, r') => .scalar (.int i) r' := by
  cases o with
  | none => rfl
  | some p => rw [Option.bind_some, Option.bind_some, Option.map_if]; rfl

theorem definiteOf_bytes (o : Option (Nat × Bytes)) :
    (o.bind fun p => definiteOf 2 p.1 p.2) = (o.bind strOf).map fun (s, r') => .scalar (.bytes s) r' := by
  cases o with
  | none => rfl
  | some p => rw [Option.bind_some, Option.bind_some, strOf, map_guard_not]; rfl

theorem definiteOf_str (o : Option (Nat × Bytes)) :
    (o.bind fun p => definiteOf 3 p.1 p.2) = (o.bind strOf).map fun (s, r') => .scalar (.str s) r' := by
  cases o with
  | none => rfl
  | some p => rw [Option.bind_some, Option.bind_some, strOf, map_guard_not]; rfl

theorem definiteOf_arrD (o : Option (Nat × Bytes)) :
    (o.bind fun p => definiteOf 4 p.1 p.2) = (o.bind lenOf).map fun (n, r') => .container false true n r' := by
  cases o with
  | none => rfl
  | some p => rw [Option.bind_some, Option.bind_some, lenOf, map_guard_not]; rfl

theorem definiteOf_mapD (o : Option (Nat × Bytes)) :
    (o.bind fun p => definiteOf 5 p.1 p.2) = (o.bind lenOf).map fun (n, r') => .container true true n r' := by
  cases o with
  | none => rfl
  | some p => rw [Option.bind_some, Option.bind_some, lenOf, map_guard_not]; rfl

theorem definiteOf_tag (o : Option (Nat × Bytes)) :
    (o.bind fun p => definiteOf 6 p.1 p.2) = (o.bind lenOf).map fun (n, r') => .tag n r' := by
  cases o with
  | none => rfl
  | some p => rw [Option.bind_some, Option.bind_some, lenOf, map_guard_not]; rfl

theorem accept_head (coerce : Bool) (s : St) (b : Nat) (hb : b < 256) (r : Bytes) (tag : Option Int) (fuel : Nat) :
    AcceptRel coerce s tag fuel (acceptValue coerce s ⟨r, none, 0⟩ b tag fuel) (headOf coerce (b :: r)) := by
  unfold acceptValue
  by_cases h1 : (b == sigNil) = true
  · rw [if_pos h1]; cases eq_of_beq h1; exact ⟨0, rfl⟩
  rw [if_neg h1]
  by_cases h2 : (b == sigUndef) = true
  · rw [if_pos h2]; cases eq_of_beq h2
    cases coerce
    · exact ⟨_, rfl⟩
    · exact ⟨0, rfl⟩
  rw [if_neg h2]
  by_cases h3 : (b == sigFalse) = true
  · rw [if_pos h3]; cases eq_of_beq h3; exact ⟨0, rfl⟩
  rw [if_neg h3]
  by_cases h4 : (b == sigTrue) = true
  · rw [if_pos h4]; cases eq_of_beq h4; exact ⟨0, rfl⟩
  rw [if_neg h4]
  by_cases h5 : (b == sigF16 || b == sigF32 || b == sigF64) = true
  · rw [if_pos h5, headOf_float coerce r (by simpa [or_assoc] using h5)]
    exact accept_scalar coerce s tag fuel (decFloat_rel b r) Body.float
  rw [if_neg h5]
  by_cases h6 : (b == sigIndefBytes) = true
  · rw [if_pos h6]; cases eq_of_beq h6
    exact accept_scalar coerce s tag fuel (decChunks_chunks 0x40 (r.length + 1) r [] 16 16) Body.bytes
  rw [if_neg h6]
  by_cases h7 : (b == sigIndefStr) = true
  · rw [if_pos h7]; cases eq_of_beq h7
    exact accept_scalar coerce s tag fuel ((decChunks_chunks 0x60 (r.length + 1) r [] 16 16).alloc _) Body.str
  rw [if_neg h7]
  by_cases h8 : (b == sigIndefArr) = true
  · rw [if_pos h8]; cases eq_of_beq h8; rfl
  rw [if_neg h8]
  by_cases h9 : (b == sigIndefMap) = true
  · rw [if_pos h9]; cases eq_of_beq h9; rfl
  rw [if_neg h9]
  simp only [beq_iff_eq, sigIndefBytes, sigIndefStr, sigIndefArr, sigIndefMap] at h6 h7 h8 h9
  have hd := fun h7' => headOf_bind coerce r (b := b) h7' ⟨h6, h7, h8, h9⟩
  unfold majNeg majBytes majStr majArr majMap majTag
  by_cases c0 : b < 0x20
  · rw [if_pos c0, hd (by omega), show b / 32 = 0 by omega, definiteOf_uint]
    exact accept_scalar coerce s tag fuel (decUint_rel b r) Body.uint
  rw [if_neg c0]
  by_cases c1 : b < 0x40
  · rw [if_pos c1, hd (by omega), show b / 32 = 1 by omega, definiteOf_nint]
    exact accept_scalar coerce s tag fuel (decNegInt_rel b r) Body.int
  rw [if_neg c1]
  by_cases c2 : b < 0x60
  · rw [if_pos c2, hd (by omega), show b / 32 = 2 by omega, definiteOf_bytes]
    exact accept_scalar coerce s tag fuel (decBytes_rel b r) Body.bytes
  rw [if_neg c2]
  by_cases c3 : b < 0x80
  · rw [if_pos c3, hd (by omega), show b / 32 = 3 by omega, definiteOf_str]
    exact accept_scalar coerce s tag fuel (decString_rel b r) Body.str
  rw [if_neg c3]
  by_cases c4 : b < 0xa0
  · rw [if_pos c4, hd (by omega), show b / 32 = 4 by omega, definiteOf_arrD]
    exact accept_open coerce s tag fuel false (decLen_rel b r)
  rw [if_neg c4]
  by_cases c5 : b < 0xc0
  · rw [if_pos c5, hd (by omega), show b / 32 = 5 by omega, definiteOf_mapD]
    exact accept_open coerce s tag fuel true (decLen_rel b r)
  rw [if_neg c5]
  by_cases c6 : b < 0xe0
  · rw [if_pos c6, hd (by omega), show b / 32 = 6 by omega, definiteOf_tag]
    exact accept_tag coerce s _ tag fuel (decLen_rel b r)
  · rw [if_neg c6, headOf_simple coerce r (by omega)]
    simp only [beq_iff_eq, sigNil, sigUndef, sigFalse, sigTrue, sigF16, sigF32, sigF64, Bool.or_eq_true, not_or] at h1 h2 h3 h4 h5
    simp only [simpleOf, beq_iff_eq, h1, h2, h3, h4, h5, if_false]
    exact ⟨_, rfl⟩
end Refmt.C04
