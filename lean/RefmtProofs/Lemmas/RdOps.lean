/-
  The three reader operations (`read1`, `unread1`, `readN`): what they do on a reader without a fault, how they
  change the number of undelivered bytes (C06, C15), and what they do under an injected fault (C16).
  `C16R.inj M stop b` is the fault-free reader `b` with a fault that fires when exactly `M` bytes of `b.data`
  are left; every reader operation either reports the injected error or commutes with `inj M stop`.
-/
import RefmtModel
namespace Refmt.Rd
open Refmt

theorem read1_nofault (r : Rd) (h : r.fault = none) :
    r.read1 = match r.data with
      | [] => (.error .eof, r)
      | b :: rest => (.ok (b, ⟨rest, none, 0⟩), ⟨rest, none, 0⟩) := by
  unfold Rd.read1
  rw [h]
  cases r.data <;> simp

theorem readN_nofault (r : Rd) (n : Nat) (h : r.fault = none) :
    r.readN n = if n = 0 then (.ok [], r) else
      if n ≤ r.data.length then (.ok (r.data.take n), ⟨r.data.drop n, none, 0⟩)
      else (.error (if r.data.isEmpty then .eof else .unexpectedEof), ⟨[], none, 0⟩) := by
  unfold Rd.readN
  rw [h]
  simp

@[simp] theorem read1_cons (b : Nat) (r : Bytes) (pb : Nat) :
    Rd.read1 ⟨b :: r, none, pb⟩ = (.ok (b, ⟨r, none, 0⟩), ⟨r, none, 0⟩) :=
  read1_nofault ⟨b :: r, none, pb⟩ rfl

@[simp] theorem read1_nil (pb : Nat) : Rd.read1 ⟨[], none, pb⟩ = (.error .eof, ⟨[], none, pb⟩) :=
  read1_nofault ⟨[], none, pb⟩ rfl

theorem readN_ok (bs : Bytes) (n : Nat) (h : n ≤ bs.length) :
    Rd.readN ⟨bs, none, 0⟩ n = (.ok (bs.take n), ⟨bs.drop n, none, 0⟩) := by
  rw [readN_nofault _ n rfl]
  by_cases h0 : n = 0
  · subst h0; simp
  · rw [if_neg h0, if_pos h]

theorem readN_err (bs : Bytes) (n : Nat) (h : bs.length < n) :
    ∃ e, Rd.readN ⟨bs, none, 0⟩ n = (.error e, ⟨[], none, 0⟩) := by
  rw [readN_nofault _ n rfl, if_neg (by omega), if_neg (Nat.not_le_of_lt h)]
  exact ⟨_, rfl⟩

end Refmt.Rd

namespace Refmt.C06
open Refmt

theorem afterFault_data (r : Rd) : r.afterFault.data = r.data := by
  unfold Rd.afterFault
  split <;> rfl

theorem read1_cases (r : Rd) :
    (∃ b r1, r.read1 = (.ok (b, r1), r1) ∧ r.data = b :: r1.data) ∨
    (∃ e r', r.read1 = (.error e, r') ∧ r'.data = r.data) := by
  unfold Rd.read1
  split
  · exact .inr ⟨_, _, rfl, afterFault_data r⟩
  · split
    · exact .inr ⟨_, _, rfl, rfl⟩
    · rename_i b rest hd
      exact .inl ⟨b, _, rfl, hd⟩

theorem read1_ok_len {r : Rd} {b : Nat} {r1 r2 : Rd} (h : r.read1 = (.ok (b, r1), r2)) :
    r1.data.length + 1 = r.data.length := by
  rcases read1_cases r with ⟨b', r', h1, hd⟩ | ⟨e, r', h1, -⟩
  · rw [h1] at h
    cases h
    rw [hd, List.length_cons]
  · rw [h1] at h
    cases h

theorem read1_err_len {r : Rd} {e : Err} {r' : Rd} (h : r.read1 = (.error e, r')) :
    r'.data.length ≤ r.data.length := by
  rcases read1_cases r with ⟨b', r1, h1, -⟩ | ⟨e1, r1, h1, hd⟩
  · rw [h1] at h
    cases h
  · rw [h1] at h
    cases h
    exact Nat.le_of_eq (congrArg List.length hd)

theorem unread1_len (r : Rd) (b : Nat) : (r.unread1 b).data.length = r.data.length + 1 := rfl

theorem readN_cases (r : Rd) (n : Nat) :
    (∃ r', r.readN n = (.ok (r.data.take n), r') ∧ r'.data = r.data.drop n ∧ n ≤ r.data.length) ∨
    (∃ e r', r.readN n = (.error e, r') ∧ r'.data.length ≤ r.data.length) := by
  unfold Rd.readN
  by_cases h0 : n = 0
  · subst h0
    exact .inl ⟨r, rfl, rfl, Nat.zero_le _⟩
  rw [if_neg h0]
  cases hf : r.fault with
  | none =>
    by_cases hle : n ≤ r.data.length
    · rw [if_pos hle]
      exact .inl ⟨_, rfl, rfl, hle⟩
    · rw [if_neg hle]
      exact .inr ⟨_, _, rfl, Nat.zero_le _⟩
  | some p =>
    obtain ⟨k, s⟩ := p
    dsimp only
    by_cases hle : n ≤ min k r.data.length
    · rw [if_pos hle]
      exact .inl ⟨_, rfl, rfl, Nat.le_trans hle (Nat.min_le_right _ _)⟩
    · rw [if_neg hle]
      split
      · refine .inr ⟨_, _, rfl, ?_⟩
        rw [afterFault_data, List.length_drop]
        exact Nat.sub_le _ _
      · exact .inr ⟨_, _, rfl, Nat.zero_le _⟩

theorem readN_ok_len {r : Rd} {n : Nat} {bs : Bytes} {r' : Rd} (h : r.readN n = (.ok bs, r')) :
    r'.data.length + n = r.data.length ∧ bs.length = n := by
  rcases readN_cases r n with ⟨r1, h1, hd, hle⟩ | ⟨e, r1, h1, -⟩
  · rw [h1] at h
    cases h
    rw [hd, List.length_drop, List.length_take, Nat.min_eq_left hle]
    exact ⟨Nat.sub_add_cancel hle, rfl⟩
  · rw [h1] at h
    cases h

theorem readN_err_len {r : Rd} {n : Nat} {e : Err} {r' : Rd} (h : r.readN n = (.error e, r')) :
    r'.data.length ≤ r.data.length := by
  rcases readN_cases r n with ⟨r1, h1, -, -⟩ | ⟨e1, r1, h1, hl⟩
  · rw [h1] at h
    cases h
  · rw [h1] at h
    cases h
    exact hl
end Refmt.C06

namespace Refmt.C16R
open Refmt

def inj (M : Nat) (stop : Bool) (b : Rd) : Rd := ⟨b.data, some (b.data.length - M, stop), b.pb⟩

def Ok (M : Nat) (b : Rd) : Prop := b.fault = none ∧ M ≤ b.data.length

@[simp] theorem inj_data (M : Nat) (stop : Bool) (b : Rd) : (inj M stop b).data = b.data := rfl

theorem inj_ofBytes (bs : Bytes) (k : Nat) (stop : Bool) (hk : k ≤ bs.length) :
    (⟨bs, some (k, stop), 0⟩ : Rd) = inj (bs.length - k) stop (Rd.ofBytes bs) := by
  simp only [inj, Rd.ofBytes, Rd.mk.injEq, true_and, and_true, Option.some.injEq, Prod.mk.injEq]
  omega

theorem ok_ofBytes (bs : Bytes) (k : Nat) : Ok (bs.length - k) (Rd.ofBytes bs) := ⟨rfl, Nat.sub_le _ _⟩

theorem read1_sim {M : Nat} {stop : Bool} (b : Rd) (h : Ok M b) :
    (∃ r', (inj M stop b).read1 = (.error .injected, r')) ∨
    (∃ x b1, b.read1 = (.ok (x, b1), b1) ∧
      (inj M stop b).read1 = (.ok (x, inj M stop b1), inj M stop b1) ∧ Ok M b1) := by
  obtain ⟨data, fault, pb⟩ := b
  obtain ⟨hf, hM⟩ := h
  subst hf
  rcases Nat.eq_or_lt_of_le hM with hlen | hlt
  · left
    subst hlen
    unfold inj
    rw [Nat.sub_self]
    exact ⟨_, rfl⟩
  · right
    cases data with
    | nil => exact absurd hlt (Nat.not_lt_zero _)
    | cons x rest =>
      have e : (x :: rest).length - M = (rest.length - M) + 1 := Nat.succ_sub (Nat.le_of_lt_succ hlt)
      refine ⟨x, ⟨rest, none, 0⟩, Rd.read1_cons x rest pb, ?_, rfl, Nat.le_of_lt_succ hlt⟩
      unfold inj
      rw [e]
      rfl

theorem unread1_inj {M : Nat} {stop : Bool} (b : Rd) (x : Nat) (h : Ok M b) :
    (inj M stop b).unread1 x = inj M stop (b.unread1 x) ∧ Ok M (b.unread1 x) := by
  obtain ⟨data, fault, pb⟩ := b
  obtain ⟨hf, hM⟩ := h
  subst hf
  have e : (x :: data).length - M = (data.length - M) + 1 := Nat.succ_sub hM
  refine ⟨?_, rfl, Nat.le_succ_of_le hM⟩
  unfold inj Rd.unread1
  rw [e]
  rfl

theorem readN_sim {M : Nat} {stop : Bool} (b : Rd) (n : Nat) (h : Ok M b) :
    (∃ r', (inj M stop b).readN n = (.error .injected, r')) ∨
    (∃ res b1, b.readN n = (res, b1) ∧ (inj M stop b).readN n = (res, inj M stop b1) ∧ Ok M b1) := by
  obtain ⟨hf, hM⟩ := h
  by_cases hn : n = 0
  · subst hn
    exact .inr ⟨.ok [], b, rfl, rfl, hf, hM⟩
  have hmin : min (b.data.length - M) b.data.length = b.data.length - M := Nat.min_eq_left (Nat.sub_le _ _)
  by_cases hle : n ≤ b.data.length - M
  · right
    have h1 : n ≤ b.data.length := Nat.le_trans hle (Nat.sub_le _ _)
    refine ⟨.ok (b.data.take n), ⟨b.data.drop n, none, 0⟩, ?_, ?_, rfl, ?_⟩
    · rw [Rd.readN_nofault b n hf, if_neg hn, if_pos h1]
    · unfold inj Rd.readN
      dsimp only
      rw [if_neg hn, hmin, if_pos hle, List.length_drop, Nat.sub_right_comm]
      rfl
    · show M ≤ (b.data.drop n).length
      rw [List.length_drop]
      omega
  · left
    unfold inj Rd.readN
    dsimp only
    rw [if_neg hn, hmin, if_neg hle, if_pos (Nat.sub_le _ _)]
    exact ⟨_, rfl⟩

end Refmt.C16R
