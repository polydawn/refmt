/-
  Lemmas for C01 (CBOR transport): from "every token of the marshaller's output is carriable" plus the
  tree facts of C07 to the hypotheses of C02 (`WFv`, `Supported`, declared lengths ≥ -1; proved here as `lenNN`, ≥ 0: the
  marshaller never declares the unknown length -1, `marshal_lenNN`).
-/
import RefmtProofs.Props.C02
import RefmtProofs.Props.C07
namespace Refmt.C01L
open Refmt Refmt.Obj

/-- `C01.carryCbor` is this predicate (`C01.carryCbor_eq`) -/
def cborOk (t : Tok) : Bool :=
  (match t.body with
   | .uint n => decide (n < two64)
   | .int i => decide (-(two63 : Int) ≤ i) && decide (i < (two63 : Int))
   | .float b => decide (b < two64)
   | .str s => decide (s.length ≤ 33554432)
   | .bytes b => decide (b.length ≤ 33554432)
   | .mapOpen l | .arrOpen l => decide (l < (two63 : Int))
   | _ => true) &&
  (match t.tag with | some g => decide (0 ≤ g) && decide (g < (two63 : Int)) | none => true)

def lenNN (t : Tok) : Bool :=
  match t.body with
  | .arrOpen l => decide (0 ≤ l)
  | .mapOpen l => decide (0 ≤ l)
  | _ => true

theorem retag_lenNN (tag : Option Int) (toks : List Tok) (h : toks.all lenNN = true) :
    (MRun.retag tag toks).all lenNN = true := by
  -- `retag` changes at most the tag of the first token, and `lenNN` reads bodies
  cases tag with
  | none => exact h
  | some g =>
    cases toks with
    | nil => exact h
    | cons t rest => exact h

theorem bad_lenNN (f : Fail) : (MOut.bad f).toks.all lenNN = true := rfl

theorem all_bracket {p : Tok → Bool} {o c : Tok} {toks : List Tok} (ho : p o = true) (h : toks.all p = true) (hc : p c = true) :
    (o :: (toks ++ [c])).all p = true := by
  simp [ho, h, hc]

theorem all_keyed {p : Tok → Bool} {k : Tok} {t1 t2 : List Tok} (hk : p k = true) (h1 : t1.all p = true) (h2 : t2.all p = true) :
    (k :: (t1 ++ t2)).all p = true := by
  simp [hk, h1, h2]

theorem lenNN_len (tag : Option Int) (n : Nat) : lenNN ⟨.arrOpen n, tag⟩ = true ∧ lenNN ⟨.mapOpen n, tag⟩ = true := by
  simp [lenNN]

theorem writes_lenNN {ts : Types} {a : Atlas} {trs : Trs} {f : Nat} {job : MRun.Job} {toks : List Tok}
    (h : MRun.Writes ts a trs f job toks) : toks.all lenNN = true := by
  induction h with
  | v_direct _ _ ih | v_deref _ _ _ ih | wild _ ih => exact ih
  | v_nil | wildNil | sliceNil | mapNil | listNil | entriesNil | fieldsNil => rfl
  | prim h => obtain ⟨b, rfl, hb, _⟩ := ObjL.primTok_inv h; cases b <;> first | rfl | cases hb
  | slice _ ih | array _ ih => exact all_bracket (lenNN_len _ _).1 ih rfl
  | map _ _ _ ih | struct _ ih => exact all_bracket (lenNN_len _ _).2 ih rfl
  | union _ _ _ ih => exact all_bracket (toks := _ :: _) (lenNN_len none 1).2 (List.all_cons.trans (by rw [ih]; rfl)) rfl
  | transform _ _ ih => exact retag_lenNN _ _ ih
  | listCons _ _ ih1 ih2 => rw [List.all_append, ih1, ih2]; rfl
  | entriesCons _ _ ih1 ih2 | fieldsCons _ _ _ ih1 ih2 => exact all_keyed rfl ih1 ih2

theorem marshal_lenNN (ts : Types) (a : Atlas) (trs : Trs) (fuel id : Nat) (v : Val) (toks : List Tok)
    (h : marshalV ts a trs fuel id v = ⟨toks, none⟩) : toks.all lenNN = true :=
  writes_lenNN (MRun.of_out (job := .v id v) h)

theorem cborOk_tag {t : Tok} (h : cborOk t = true) :
    (match t.tag with | some g => decide (0 ≤ g) && decide (g < (two63 : Int)) | none => true) = true := by
  unfold cborOk at h; simp only [Bool.and_eq_true] at h; exact h.2

theorem cborOk_arrOpen {l : Int} {tag : Option Int} (h : cborOk ⟨.arrOpen l, tag⟩ = true) : l < (two63 : Int) := by
  unfold cborOk at h; simp only [Bool.and_eq_true, decide_eq_true_eq] at h; exact h.1

theorem cborOk_mapOpen {l : Int} {tag : Option Int} (h : cborOk ⟨.mapOpen l, tag⟩ = true) : l < (two63 : Int) := by
  unfold cborOk at h; simp only [Bool.and_eq_true, decide_eq_true_eq] at h; exact h.1

theorem cborOk_scalar {t : Tok} (h : cborOk t = true) (hs : t.body.isScalar = true) : C02.tokInRange t = true := by
  obtain ⟨body, tag⟩ := t
  have ht := cborOk_tag h
  unfold cborOk at h
  unfold C02.tokInRange
  simp only [Bool.and_eq_true] at h ⊢
  refine ⟨?_, ht⟩
  -- numbers: the two predicates have the same clause; other scalars: no condition; opens and closes are not scalars
  cases body <;> first | exact h.1 | rfl | cases hs

theorem cborOk_supported {t : Tok} (h : cborOk t = true) : C02.Supported (.scalar t) = true := by
  obtain ⟨body, tag⟩ := t
  unfold cborOk at h
  simp only [Bool.and_eq_true] at h
  cases body <;> first | exact h.1 | rfl

mutual
  theorem wf_of_flat : ∀ (tv : TV), tv.flatten.all cborOk = true → C07.Leaves tv = true → C07.KeysStr tv = true →
      C02.WFv tv = true
    | .scalar t, h, hl, _ => by
      simp only [TV.flatten, List.all_cons, List.all_nil, Bool.and_true] at h
      exact cborOk_scalar h hl
    | .arr tag len items, h, hl, hk => by
      simp only [TV.flatten, List.all_cons, List.all_append, Bool.and_eq_true] at h
      simp only [C02.WFv, Bool.and_eq_true, decide_eq_true_eq]
      exact ⟨⟨cborOk_tag h.1, cborOk_arrOpen h.1⟩, wfl_of_flat items h.2.1 hl hk⟩
    | .map tag len es, h, hl, hk => by
      simp only [TV.flatten, List.all_cons, List.all_append, Bool.and_eq_true] at h
      simp only [C02.WFv, Bool.and_eq_true, decide_eq_true_eq]
      exact ⟨⟨cborOk_tag h.1, cborOk_mapOpen h.1⟩, wfe_of_flat es h.2.1 hl hk⟩
  theorem wfl_of_flat : ∀ (vs : List TV), (TV.flattenList vs).all cborOk = true → C07.LeavesL vs = true →
      C07.KeysStrL vs = true → C02.WFl vs = true
    | [], _, _, _ => rfl
    | v :: vs, h, hl, hk => by
      simp only [TV.flattenList, List.all_append, Bool.and_eq_true] at h
      simp only [C07.LeavesL, Bool.and_eq_true] at hl
      simp only [C07.KeysStrL, Bool.and_eq_true] at hk
      simp only [C02.WFl, Bool.and_eq_true]
      exact ⟨wf_of_flat v h.1 hl.1 hk.1, wfl_of_flat vs h.2 hl.2 hk.2⟩
  theorem wfe_of_flat : ∀ (es : List (TV × TV)), (TV.flattenEntries es).all cborOk = true → C07.LeavesE es = true →
      C07.KeysStrE es = true → C02.WFe es = true
    | [], _, _, _ => rfl
    | (k, v) :: es, h, hl, hk => by
      obtain ⟨s, hs⟩ := C07.keysStrE_key hk
      simp only [TV.flattenEntries, List.all_append, Bool.and_eq_true] at h
      simp only [C07.LeavesE, Bool.and_eq_true] at hl
      simp only [C07.KeysStrE, Bool.and_eq_true] at hk
      simp only [C02.WFe, Bool.and_eq_true]
      exact ⟨⟨⟨by rw [hs]; rfl, wf_of_flat k h.1 hl.1.1 (by rw [hs]; rfl)⟩, wf_of_flat v h.2.1 hl.1.2 hk.1.2⟩,
        wfe_of_flat es h.2.2 hl.2 hk.2⟩
end

mutual
  theorem sup_of_flat : ∀ (tv : TV), tv.flatten.all cborOk = true → tv.lengthsOk = true → C02.Supported tv = true
    | .scalar t, h, _ => by
      simp only [TV.flatten, List.all_cons, List.all_nil, Bool.and_true] at h
      exact cborOk_supported h
    | .arr tag len items, h, hl => by
      simp only [TV.flatten, List.all_cons, List.all_append, Bool.and_eq_true] at h
      simp only [TV.lengthsOk, Bool.and_eq_true] at hl
      simp only [C02.Supported, Bool.and_eq_true]
      exact ⟨hl.1, supl_of_flat items h.2.1 hl.2⟩
    | .map tag len es, h, hl => by
      simp only [TV.flatten, List.all_cons, List.all_append, Bool.and_eq_true] at h
      simp only [TV.lengthsOk, Bool.and_eq_true] at hl
      simp only [C02.Supported, Bool.and_eq_true]
      exact ⟨hl.1, supe_of_flat es h.2.1 hl.2⟩
  theorem supl_of_flat : ∀ (vs : List TV), (TV.flattenList vs).all cborOk = true → TV.lengthsOkList vs = true →
      C02.SupportedL vs = true
    | [], _, _ => rfl
    | v :: vs, h, hl => by
      simp only [TV.flattenList, List.all_append, Bool.and_eq_true] at h
      simp only [TV.lengthsOkList, Bool.and_eq_true] at hl
      simp only [C02.SupportedL, Bool.and_eq_true]
      exact ⟨sup_of_flat v h.1 hl.1, supl_of_flat vs h.2 hl.2⟩
  theorem supe_of_flat : ∀ (es : List (TV × TV)), (TV.flattenEntries es).all cborOk = true →
      TV.lengthsOkEntries es = true → C02.SupportedE es = true
    | [], _, _ => rfl
    | (k, v) :: es, h, hl => by
      simp only [TV.flattenEntries, List.all_append, Bool.and_eq_true] at h
      simp only [TV.lengthsOkEntries, Bool.and_eq_true] at hl
      simp only [C02.SupportedE, Bool.and_eq_true]
      exact ⟨⟨sup_of_flat k h.1 hl.1.1, sup_of_flat v h.2.1 hl.1.2⟩, supe_of_flat es h.2.2 hl.2⟩
end

theorem transport_tree (tv : TV) (hc : tv.flatten.all cborOk = true) (hn : tv.flatten.all lenNN = true)
    (hl : tv.lengthsOk = true) (hk : C07.KeysStr tv = true) (hv : C07.Leaves tv = true) :
    (runOut CborEnc.step CborEnc.init tv.flatten).1.getLast? = some Flag.done ∧
    (let o := CborDec.decode false (Rd.ofBytes (runOut CborEnc.step CborEnc.init tv.flatten).2.flatten)
     o.toks = tv.flatten.map C02.canonTok ∧ o.res = .ok () ∧ o.rd.data = []) := by
  have hwf := wf_of_flat tv hc hv hk
  have hsup := sup_of_flat tv hc hl
  obtain ⟨h1, h2⟩ := C02.enc_eq_spec tv hwf
  refine ⟨by rw [h1]; simp, ?_⟩
  rw [h2]
  have := C02.roundtrip_norm tv [] hwf hsup
  simp only [List.append_nil] at this
  have e : tv.flatten.map C02.normTok = tv.flatten.map C02.canonTok := by
    apply List.map_congr_left
    intro t ht
    apply C02.normTok_eq_canonTok
    intro l hl'
    have := List.all_eq_true.mp hn t ht
    unfold lenNN at this
    rcases hl' with hb | hb <;> rw [hb] at this <;> simp at this <;> omega
  rw [e] at this
  exact this

end Refmt.C01L
