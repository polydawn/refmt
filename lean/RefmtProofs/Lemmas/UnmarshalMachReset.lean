/-
  Stateful object unmarshaller: what `Reset` leaves untouched (the frame lemmas conclude "every chain over the row is
  still one"), `requisitionMachine` on a closed set of types, a wrapping machine's `Step` that Resets its delegate and
  hands it the token (`Wr.first`).
-/
import RefmtProofs.Lemmas.UnmarshalMachDefs
namespace Refmt.UMachU
open Refmt Refmt.Obj Refmt.Obj.UM

variable {ts : Types} {a : Atlas} {trs : Trs} {it : IfaceTys} {ub : Nat}

theorem requisition_inv {f R id R1 d} (h : requisition ts a f R id = .ok (R1, d)) :
    ∃ crow, R1 = R ++ [crow] ∧ d.row = R.length := by
  unfold requisition at h
  split at h
  · cases h
  · rename_i row k _
    cases h
    exact ⟨row, rfl, rfl⟩

theorem updRow_snoc (lo : List URow) (row : URow) (hi : List URow) (x : URow) (f : URow → URow) :
    updRow ((lo ++ row :: hi) ++ [x]) lo.length f = lo ++ f row :: (hi ++ [x]) := by
  rw [List.append_assoc, List.cons_append, updRow_at]

def rowTr (row : URow) (tm : TransM) : URow := { row with transform := tm }
def trReset (ts : Types) (tm : TransM) (v : Val) : TransM :=
  { tm with target_rv := v, recv_rv := zeroVal ts 64 tm.recv_rt }

theorem rowTr_same (ts : Types) (row : URow) (v : Val) : SameCfg row (rowTr row (trReset ts row.transform v)) :=
  ⟨rfl, rfl, rfl, rfl, rfl, rfl, rfl, rfl, rfl, rfl, rfl, rfl⟩

theorem transform_reset {f : Nat} {lo hi : List URow} {row : URow} {rt : Nat} {v : Val} {k' : MK}
    (hdl : row.transform.delegate = some k') :
    resetM ts a (f+1) ⟨lo.length, .transform⟩ rt v (lo ++ row :: hi)
      = resetM ts a f ⟨lo.length, k'⟩ row.transform.recv_rt (zeroVal ts 64 row.transform.recv_rt)
          (lo ++ rowTr row (trReset ts row.transform v) :: hi) := by
  simp only [resetM, resetBody, RowL.getRow, resetTransform, hdl, updRow_at]
  simp [rowTr, trReset, hdl]

/-- a `Reset` may rewrite the state of its own machine, hence the two alternatives for `wild` and `union`; the union
    machine's keeps its members and `tmp_rt` -/
theorem frame_fields {k : MK} {row row' : URow} (hp : row'.ptr = row.ptr)
    (hpr : row'.prim.ty = row.prim.ty ∧ row'.prim.anyKind = row.prim.anyKind) (he : row'.err = row.err)
    (hst : row'.struct.fields = row.struct.fields) (htr : row'.transform = row.transform)
    (hw : k = .wild ∨ row'.wild = row.wild)
    (hu : (k = .union ∧ row'.union.members = row.union.members ∧ row'.union.tmp_rt = row.union.tmp_rt) ∨
      row'.union = row.union) :
    row'.ptr = row.ptr ∧ SameCfg row row' ∧ (k ≠ .wild → row'.wild = row.wild) ∧
      (k ≠ .union → row'.union = row.union) := by
  have hum : row'.union.members = row.union.members ∧ row'.union.tmp_rt = row.union.tmp_rt := by
    rcases hu with ⟨_, h1, h2⟩ | h
    · exact ⟨h1, h2⟩
    · rw [h]; exact ⟨rfl, rfl⟩
  refine ⟨hp, ⟨by rw [hp], by rw [hp], hpr.1, hpr.2, he, hst, by rw [htr], by rw [htr], by rw [htr], hum.1, hum.2,
    by rw [hp]⟩, fun hk => hw.resolve_left hk, fun hk => ?_⟩
  rcases hu with ⟨h, _⟩ | h
  · exact absurd h hk
  · exact h

theorem reset_frame {f k rt v lo row hi R1} (hk : k ≠ .ptr) (hk2 : k ≠ .transform)
    (h : resetM ts a f ⟨lo.length, k⟩ rt v (lo ++ row :: hi) = .ok R1) :
    ∃ row' hi', R1 = lo ++ row' :: hi' ∧ row'.ptr = row.ptr ∧ SameCfg row row' ∧
      (k ≠ .wild → row'.wild = row.wild) ∧ (k ≠ .union → row'.union = row.union) := by
  cases f with
  | zero => simp [resetM] at h
  | succ f =>
    simp only [resetM, resetBody, RowL.getRow] at h
    cases k with
    | ptr => exact absurd rfl hk
    | transform => exact absurd rfl hk2
    | prim | struct =>
      simp only [resetPrim, resetStruct, updRow_at] at h
      cases h; exact ⟨_, _, rfl, frame_fields rfl ⟨rfl, rfl⟩ rfl rfl rfl (.inr rfl) (.inr rfl)⟩
    | wild =>
      simp only [resetWild, updRow_at] at h
      cases h; exact ⟨_, _, rfl, frame_fields rfl ⟨rfl, rfl⟩ rfl rfl rfl (.inl rfl) (.inr rfl)⟩
    | union =>
      simp only [resetUnion, updRow_at] at h
      cases h; exact ⟨_, _, rfl, frame_fields rfl ⟨rfl, rfl⟩ rfl rfl rfl (.inr rfl) (.inl ⟨rfl, rfl, rfl⟩)⟩
    | errThunk =>
      simp only [resetErr] at h
      split at h
      · cases h
      · cases h; exact ⟨_, _, rfl, frame_fields rfl ⟨rfl, rfl⟩ rfl rfl rfl (.inr rfl) (.inr rfl)⟩
    | map =>
      simp only [resetMap] at h
      split at h
      · split at h
        · cases h
        · rename_i R2 d hreq
          obtain ⟨crow, rfl, _⟩ := requisition_inv hreq
          split at h
          · cases h
          · simp only [updRow_snoc] at h
            cases h; exact ⟨_, _, rfl, frame_fields rfl ⟨rfl, rfl⟩ rfl rfl rfl (.inr rfl) (.inr rfl)⟩
      · cases h
    | slice | array =>
      simp only [resetSlice, resetArray] at h
      split at h
      · split at h
        · cases h
        · rename_i R2 d hreq
          obtain ⟨crow, rfl, _⟩ := requisition_inv hreq
          simp only [updRow_snoc] at h
          cases h; exact ⟨_, _, rfl, frame_fields rfl ⟨rfl, rfl⟩ rfl rfl rfl (.inr rfl) (.inr rfl)⟩
      · cases h

theorem reset_frame_chain {f k rt v lo row hi R1} (hk : k ≠ .ptr ∧ k ≠ .transform ∧ k ≠ .wild ∧ k ≠ .union)
    (h : resetM ts a f ⟨lo.length, k⟩ rt v (lo ++ row :: hi) = .ok R1) :
    ∃ row' hi', R1 = lo ++ row' :: hi' ∧ row'.ptr = row.ptr ∧
      ∀ {U c mk F w d un}, Wr U c lo row mk F w d un → Wr U c lo row' mk F w d un := by
  obtain ⟨r3, h3, e1, e2, e3, e4, e5⟩ := reset_frame hk.1 hk.2.1 h
  exact ⟨r3, h3, e1, e2, fun hw => hw.of_fields e2 (e4 hk.2.2.1) (e5 hk.2.2.2) e3.trDelegate e3.trFunc⟩

theorem reset_frame_tr {f k' rt v lo row hi R1} (hdl : row.transform.delegate = some k') (hk : k' ≠ .ptr)
    (hk2 : k' ≠ .transform)
    (h : resetM ts a f ⟨lo.length, .transform⟩ rt v (lo ++ row :: hi) = .ok R1) :
    ∃ row' hi', R1 = lo ++ row' :: hi' ∧ row'.ptr = row.ptr ∧ SameCfg row row' ∧
      (k' ≠ .wild → row'.wild = row.wild) ∧ (k' ≠ .union → row'.union = row.union) := by
  cases f with
  | zero => simp [resetM] at h
  | succ f =>
    rw [transform_reset hdl] at h
    obtain ⟨row', hi', h1, h2, h3, h4, h5⟩ := reset_frame hk hk2 h
    exact ⟨row', hi', h1, h2, (rowTr_same ts row v).trans h3, h4, h5⟩

theorem CfgLeaf.leaf {row : URow} {base : Nat} {k : MK} {M : UMach} (h : CfgLeaf row base k M) :
    k ≠ .ptr ∧ k ≠ .transform ∧ k ≠ .wild ∧ k ≠ .union := by
  cases M <;> simp_all [CfgLeaf]

theorem cfgLeaf_cov {S : List Nat} {wi : Option Nat} {M : UMach} (h : okLeaf S wi M) (r0 : URow) (base : Nat)
    (hak : M = .prim → r0.prim.anyKind = false) :
    ∃ row' k, (∀ f, cfgU ts a (f+1) r0 base M = .ok (row', k)) ∧ CfgLeaf row' base k M ∧
      (row'.ptr, row'.wild, row'.transform, row'.union) = (r0.ptr, r0.wild, r0.transform, r0.union) := by
  cases M with
  | prim =>
    -- the primitive machine reads the row's `anyKind` flag, which no machine ever sets: it has to be clear already
    exact ⟨{ r0 with prim := { r0.prim with ty := base } }, .prim, fun _ => rfl, ⟨rfl, rfl, hak rfl⟩, rfl⟩
  | errThunk => exact ⟨{ r0 with err := { err := some .err } }, .errThunk, fun _ => rfl, ⟨rfl, rfl⟩, rfl⟩
  | slice e => exact ⟨r0, .slice, fun _ => rfl, rfl, rfl⟩
  | array n e => exact ⟨r0, .array, fun _ => rfl, rfl, rfl⟩
  | map kt e => exact ⟨r0, .map, fun _ => rfl, rfl, rfl⟩
  | structMap fs =>
    exact ⟨{ r0 with struct := { r0.struct with fields := fs } }, .struct, fun _ => rfl, ⟨rfl, rfl⟩, rfl⟩
  | _ => exact h.elim

theorem cfgTr_cov {S : List Nat} {wi : Option Nat} {fn uty : Nat} (hp : isPtrTy ts uty = false)
    (h : okLeaf S wi (upickBare ts a uty)) (r0 : URow) (ty : Nat) (hak : upickBare ts a uty = .prim → r0.prim.anyKind = false) :
    ∃ row' k', (∀ f, cfgU ts a (f+3) r0 ty (.transform fn uty) = .ok (row', .transform)) ∧
      CfgBare ts a row' ty .transform (.transform fn uty) ∧ row'.transform.delegate = some k' ∧ k' ≠ .union ∧
      row'.ptr = r0.ptr ∧ row'.wild = r0.wild ∧ row'.union = r0.union := by
  obtain ⟨row1, k', hy, hc, hfr⟩ := cfgLeaf_cov (ts := ts) (a := a) h r0 uty hak
  refine ⟨{ row1 with transform := { row1.transform with trFunc := fn, recv_rt := uty, delegate := some k' } }, k',
    fun f => ?_, ⟨rfl, rfl, rfl, k', rfl, hc.of_fields rfl rfl rfl rfl⟩, rfl, hc.leaf.2.2.2, congrArg (·.1) hfr, congrArg (·.2.1) hfr,
    congrArg (·.2.2.2) hfr⟩
  have hb : (k' == MK.transform) = false := by simp [hc.leaf.2.1]
  have hyb : yieldBare ts a (f+2) r0 uty = .ok (row1, k') := hy f
  simp only [cfgU, hp, hyb, hb, Bool.false_eq_true, if_false]

/-- fuel 4: `yieldBare` and `cfgU` for a transform machine, and the same two for its delegate -/
theorem yieldBare_cov {S : List Nat} {wi : Option Nat} {base : Nat} (h : okMach ts a S wi (upickBare ts a base)) :
    ∃ row' k, (∀ f, yieldBare ts a (f+4) URow.zero base = .ok (row', k)) ∧
      CfgBare ts a row' base k (upickBare ts a base) ∧ row'.ptr = URow.zero.ptr := by
  simp only [yieldBare]
  cases hM : upickBare ts a base with
  | wildcard => exact ⟨URow.zero, .wild, fun _ => rfl, rfl, rfl⟩
  | transform fn uty =>
    rw [hM] at h
    obtain ⟨row', k', hy, hc, _, _, hp, _, _⟩ := cfgTr_cov (fn := fn) h.1 h.2 URow.zero base fun _ => rfl
    exact ⟨row', .transform, hy, hc, hp⟩
  | union ms =>
    exact ⟨{ URow.zero with union := { URow.zero.union with members := ms } }, .union, fun _ => rfl, ⟨rfl, rfl⟩, rfl⟩
  | prim | errThunk | slice _ | array _ _ | map _ _ | structMap _ =>
    rw [hM] at h
    simp only [okMach] at h
    obtain ⟨row1, k', hy, hc, hfr⟩ := cfgLeaf_cov (ts := ts) (a := a) h URow.zero base fun _ => rfl
    exact ⟨row1, k', fun f => hy (f + 2), hc, congrArg (·.1) hfr⟩
  | panic => rw [hM] at h; exact h.elim

theorem requisition_cov {S : List Nat} {wi : Option Nat} (R : List URow) {id : Nat} (hS : Closed ts a S wi) (hid : id ∈ S) :
    ∃ crow ck, (∀ f, requisition ts a (f+4) R id = .ok (R ++ [crow], ⟨R.length, ck⟩)) ∧ CfgV ts a crow id ck := by
  obtain ⟨row', k, hy, hc, hp⟩ := yieldBare_cov (hS id hid)
  simp only [requisition, yieldU, hy]
  by_cases h0 : (peel ts 64 0 id).1 = 0
  · refine ⟨row', k, fun _ => by simp [h0], k, hc, by simp [h0]⟩
  · have hc' : CfgBare ts a { row' with ptr := { row'.ptr with mach := some k, peelCount := (peel ts 64 0 id).1 } }
        (peel ts 64 0 id).2 k (upickBare ts a (peel ts 64 0 id).2) := hc.sameC ⟨rfl, rfl, rfl, rfl, rfl, rfl, rfl, rfl⟩
    exact ⟨_, .ptr, fun _ => by simp [h0], k, hc', by simp [h0]⟩

theorem cfgMember {S : List Nat} {wi : Option Nat} {f : Nat} (trow : URow) (ty : Nat) {M : UMach}
    (h : okMember ts a S wi M) :
    ∃ trow' k, cfgU ts a (f+3) trow ty M = .ok (trow', k) ∧ trow'.ptr = trow.ptr ∧ trow'.wild = trow.wild ∧
      trow'.union = trow.union ∧ CfgBare ts a trow' ty k M ∧ k ≠ .union ∧
      (k = .transform → trow'.transform.delegate ≠ some .union) := by
  cases M with
  | structMap fs => exact ⟨_, _, rfl, rfl, rfl, rfl, ⟨rfl, rfl⟩, nofun, nofun⟩
  | map kt e => exact ⟨_, _, rfl, rfl, rfl, rfl, rfl, nofun, nofun⟩
  | transform fn uty =>
    obtain ⟨row', k', hy, hc, hdl, hku, hp, hw, hu⟩ := cfgTr_cov (fn := fn) h.1 h.2.toLeaf trow ty
      fun hM => by have := h.2; rw [hM] at this; exact this.elim
    exact ⟨row', .transform, hy f, hp, hw, hu, hc, nofun, fun _ => by rw [hdl]; exact fun e => hku (Option.some.inj e)⟩
  | _ => exact h.elim

theorem pump1_congr {f sf R R' stk c be t rest}
    (h : stepM ts a trs it f c ⟨R, stk, some c, be⟩ t = stepM ts a trs it f c ⟨R', stk, some c, be⟩ t) :
    pump1 ts a trs it (f+1) sf ⟨R, stk, some c, be⟩ (t :: rest)
      = pump1 ts a trs it (f+1) sf ⟨R', stk, some c, be⟩ (t :: rest) := by
  simp only [pump1, ustep, ustepBody, h]

/-- `hstep`: at the `Step` at which the wrapping machine `⟨lo.length, mkW⟩` below the chain `hw` selects its delegate
    `⟨L.length, k⟩`, the delegate is Reset on the rows `RG` the machine has prepared and given the same token; `hfr`: its
    `Reset` leaves rows over which the chain goes one link further, down to the delegate -/
theorem Wr.first {f d sf1 sf : Nat} {c : URef} {lo hi : List URow} {row1 : URow} {mkW : MK} {w : Val → Val} {stk be}
    {t : Tok} {rest : List Tok} {RG L : List URow} {k : MK} {ty : Nat} {cur0 : Val} {g : Val → Val}
    (hw : Wr trs.u c lo row1 mkW some w d none)
    (hstep : ∀ st, stepM ts a trs it (f+1) ⟨lo.length, mkW⟩ ⟨lo ++ row1 :: hi, stk, st, be⟩ t
      = match resetM ts a f ⟨L.length, k⟩ ty cur0 RG with
        | .error x => .error x
        | .ok R2 => mapDone g (stepM ts a trs it f ⟨L.length, k⟩ ⟨R2, stk, st, be⟩ t))
    (hfr : ∀ R2, resetM ts a f ⟨L.length, k⟩ ty cur0 RG = .ok R2 →
      ∃ G2 hi2, R2 = L ++ G2 :: hi2 ∧ Wr trs.u c L G2 k some (w ∘ g) (d + 1) none)
    (hsf1 : sf1 = f + 1 + d + 1) :
    pump1 ts a trs it sf1 sf ⟨lo ++ row1 :: hi, stk, some c, be⟩ (t :: rest)
      = rtpB ts a trs it f sf1 sf RG stk be c ⟨L.length, k⟩ ty cur0 (t :: rest) := by
  subst hsf1
  simp only [rtpB]
  have hs := hw.step (ts := ts) (a := a) (trs := trs) (it := it) hi stk (some c) be t (f + 1)
  rw [hstep] at hs
  cases hr : resetM ts a f ⟨L.length, k⟩ ty cur0 RG with
  | error x =>
    rw [hr] at hs
    exact (Drv.first _ _).err hs
  | ok R2 =>
    rw [hr] at hs
    obtain ⟨G2, hi2, rfl, hw2⟩ := hfr R2 hr
    apply pump1_congr
    rw [hs, show f + 1 + d = f + (d + 1) by rw [Nat.add_assoc, Nat.add_comm 1 d], hw2.step hi2 stk (some c) be t f,
      mapDoneO_some, mapDoneO_some, mapDone_comp]

/-- the machines that lend a row (`slab.tip()`, possibly their own) to a delegate they configure there: their `Reset`
    rewrites what a chain link reads -/
def borrows : UMach → Bool
  | .union _ | .wildcard => true
  | _ => false

theorem okMember.noBorrow {S : List Nat} {wi : Option Nat} {M : UMach} (h : okMember ts a S wi M) : borrows M = false := by
  cases M <;> first | rfl | exact h.elim

theorem cfg_frame {row : URow} {base : Nat} {k : MK} {M : UMach} {lo : List URow} (h : CfgBare ts a row base k M) :
    ∀ f rt v (rowx : URow) hi R1, rowx.transform = row.transform →
      resetM ts a f ⟨lo.length, k⟩ rt v (lo ++ rowx :: hi) = .ok R1 →
      ∃ row3 hi3, R1 = lo ++ row3 :: hi3 ∧ row3.ptr = rowx.ptr ∧
        (borrows M = false → ∀ {U c mk F w d un}, Wr U c lo rowx mk F w d un → Wr U c lo row3 mk F w d un) := by
  intro f rt v rowx hi R1 htr hr
  cases M with
  | wildcard =>
    obtain rfl : k = .wild := h
    obtain ⟨r3, h3, e1, e2, _⟩ := reset_frame (by simp) (by simp) hr
    exact ⟨r3, h3, e1, e2, fun hb => nomatch hb⟩
  | transform fn uty =>
    obtain ⟨rfl, _, _, k', hdl, hl⟩ := h
    have hk' := hl.leaf
    obtain ⟨r3, h3, e1, e2, e3, e4, e5⟩ := reset_frame_tr (by rw [htr]; exact hdl) hk'.1 hk'.2.1 hr
    exact ⟨r3, h3, e1, e2, fun _ => fun hw => hw.of_fields e2 (e4 hk'.2.2.1) (e5 hk'.2.2.2) e3.trDelegate e3.trFunc⟩
  | union ms =>
    obtain ⟨rfl, _⟩ := h
    obtain ⟨r3, h3, e1, e2, _⟩ := reset_frame (by simp) (by simp) hr
    exact ⟨r3, h3, e1, e2, fun hb => nomatch hb⟩
  | _ =>
    simp only [CfgBare] at h
    obtain ⟨r3, h3, e1, e2, hc⟩ := reset_frame_chain h.leaf hr
    exact ⟨r3, h3, e1, e2, fun _ => hc⟩

end Refmt.UMachU
