/-
  Trees read from bytes are in the JSON encoder's domain (`C03.JWF`; `C16.JWF` is the same predicate written
  again, `jwf_eqV`).  From CBOR: the leaf ranges of `CborLeaves` together with the common data model of C10
  (`parse_common_JWF`).  From JSON: the shape `JT` and the finite floats `FinT` of `JsonTree` (`parse_JWF`).
  Used by the transcoding and fault theorems (C10Value, C16Pump).
-/
import RefmtProofs.Lemmas.CborLeaves
import RefmtProofs.Lemmas.JsonTree
import RefmtProofs.Props.C03
import RefmtProofs.Props.C10
import RefmtProofs.Props.C16
namespace Refmt.CborLeaves
open Refmt Refmt.Spec.Cbor Refmt.C04 Refmt.PumpL

/-- Kind by kind: `leafOk` gives the numeric ranges and the byte strings, `common` the finiteness of floats;
`common` excludes byte strings, `leafOk` the container tokens. -/
theorem scalar_ok03 (t : Tok) (hc : C10.common (.scalar t) = true) (hl : leafOk t.body = true) :
    C03.jsonScalarOk t = true := by
  simp only [C10.common, Bool.and_eq_true] at hc
  obtain ⟨_, hc⟩ := hc
  unfold C03.jsonScalarOk
  cases hb : t.body with
  | uint n | int i | str s => rw [hb] at hl; exact hl
  | null | bool x => rfl
  | float x => rw [hb] at hc hl; simp only [leafOk] at hl; simp only [hl, hc, Bool.and_self]
  | bytes x => rw [hb] at hc; cases hc
  | mapOpen l | mapClose | arrOpen l | arrClose => rw [hb] at hl; cases hl

mutual
  theorem jwf03V : ∀ (v : TV), C10.common v = true → LB v = true → C03.JWF v = true
    | .scalar t, hc, hl => by
      simp only [C03.JWF]
      exact scalar_ok03 t hc (by simpa [LB] using hl)
    | .arr tag len items, hc, hl => by
      simp only [C10.common, Bool.and_eq_true] at hc
      simp only [C03.JWF]
      exact jwf03L items hc.2 (by simpa [LB] using hl)
    | .map tag len es, hc, hl => by
      simp only [C10.common, Bool.and_eq_true] at hc
      simp only [C03.JWF]
      exact jwf03E es hc.2 (by simpa [LB] using hl)
  theorem jwf03L : ∀ (vs : List TV), C10.commonL vs = true → LBl vs = true → C03.JWFl vs = true
    | [], _, _ => rfl
    | v :: vs, hc, hl => by
      simp only [C10.commonL, Bool.and_eq_true] at hc
      simp only [LBl, Bool.and_eq_true] at hl
      simp only [C03.JWFl, Bool.and_eq_true]
      exact ⟨jwf03V v hc.1 hl.1, jwf03L vs hc.2 hl.2⟩
  theorem jwf03E : ∀ (es : List (TV × TV)), C10.commonE es = true → LBe es = true → C03.JWFe es = true
    | [], _, _ => rfl
    | (k, v) :: es, hc, hl => by
      simp only [C10.commonE, Bool.and_eq_true] at hc
      obtain ⟨⟨hk, hv⟩, hes⟩ := hc
      simp only [LBe, Bool.and_eq_true] at hl
      obtain ⟨⟨lk, lv⟩, les⟩ := hl
      simp only [C03.JWFe, Bool.and_eq_true]
      refine ⟨⟨?_, jwf03V v hv lv⟩, jwf03E es hes les⟩
      cases k with
      | scalar t =>
        simp only [Bool.and_eq_true] at hk
        simp only [LB] at lk
        cases hb : t.body <;> rw [hb] at hk lk <;> simp at hk
        simp only [hb]
        simpa [leafOk] using lk
      | arr _ _ _ => simp at hk
      | map _ _ _ => simp at hk
end

theorem scalarOk_eq (t : Tok) : C16.jsonScalarOk t = C03.jsonScalarOk t := rfl

mutual
  theorem jwf_eqV : ∀ (v : TV), C16.JWF v = C03.JWF v
    | .scalar t => by simp only [C16.JWF, C03.JWF, scalarOk_eq]
    | .arr _ _ items => by simp only [C16.JWF, C03.JWF, jwf_eqL items]
    | .map _ _ es => by simp only [C16.JWF, C03.JWF, jwf_eqE es]
  theorem jwf_eqL : ∀ (vs : List TV), C16.JWFl vs = C03.JWFl vs
    | [] => rfl
    | v :: vs => by simp only [C16.JWFl, C03.JWFl, jwf_eqV v, jwf_eqL vs]
  theorem jwf_eqE : ∀ (es : List (TV × TV)), C16.JWFe es = C03.JWFe es
    | [] => rfl
    | (k, v) :: es => by
      simp only [C16.JWFe, C03.JWFe, jwf_eqV v, jwf_eqE es]
      cases k with
      | scalar t => obtain ⟨b, tg⟩ := t; cases b <;> rfl
      | arr _ _ _ => rfl
      | map _ _ _ => rfl
end

theorem parse_common_JWF (coerce : Bool) (bs : Bytes) (v : TV) (rest : Bytes) (hb : ∀ x ∈ bs, x < 256)
    (hp : Spec.Cbor.parse coerce bs = some (v, rest)) (hc : C10.common v = true) : C03.JWF v = true :=
  jwf03V v hc (parse_LB coerce bs v rest hb hp)

theorem parse_common_JWF16 (coerce : Bool) (bs : Bytes) (v : TV) (rest : Bytes) (hb : ∀ x ∈ bs, x < 256)
    (hp : Spec.Cbor.parse coerce bs = some (v, rest)) (hc : C10.common v = true) : C16.JWF v = true := by
  rw [jwf_eqV]; exact parse_common_JWF coerce bs v rest hb hp hc

end Refmt.CborLeaves

namespace Refmt.JsonFinite
open Refmt Refmt.JsonDec Refmt.Spec.Json Refmt.C05L Refmt.PumpL

theorem jsonScalarOk_eq (t : Tok) : C03.jsonScalarOk t = (jscalar t.body && finB t.body) := by
  unfold C03.jsonScalarOk
  cases t.body <;> simp [jscalar, finB]

theorem jwf_all : (∀ v, JT v = true → FinT v = true → C03.JWF v = true) ∧
    (∀ vs, JTl vs = true → FinTl vs = true → C03.JWFl vs = true) ∧
    (∀ es, JTe es = true → FinTe es = true → C03.JWFe es = true) := by
  refine JT_induct (PV := fun v => FinT v = true → C03.JWF v = true)
    (PL := fun vs => FinTl vs = true → C03.JWFl vs = true)
    (PE := fun es => FinTe es = true → C03.JWFe es = true) ?_ ?_ ?_ (fun _ => rfl) ?_ (fun _ => rfl) ?_
  · intro body hj hf
    simpa only [C03.JWF, jsonScalarOk_eq, hj, FinT, Bool.true_and] using hf
  · intro items h hf
    simp only [C03.JWF]
    exact h (by simpa [FinT] using hf)
  · intro es h hf
    simp only [C03.JWF]
    exact h (by simpa [FinT] using hf)
  · intro v vs h1 h2 hf
    simp only [FinTl, Bool.and_eq_true] at hf
    simp only [C03.JWFl, Bool.and_eq_true]
    exact ⟨h1 hf.1, h2 hf.2⟩
  · intro s v es hs h1 h2 hf
    simp only [FinTe, Bool.and_eq_true] at hf
    simp only [C03.JWFe, Bool.and_eq_true]
    exact ⟨⟨all_of_B256 hs, h1 hf.1⟩, h2 hf.2⟩

theorem jwfV : ∀ (v : TV), JT v = true → FinT v = true → C03.JWF v = true := jwf_all.1
theorem jwfL : ∀ (vs : List TV), JTl vs = true → FinTl vs = true → C03.JWFl vs = true := jwf_all.2.1
theorem jwfE : ∀ (es : List (TV × TV)), JTe es = true → FinTe es = true → C03.JWFe es = true := jwf_all.2.2

theorem parse_JWF (bs : Bytes) (v : TV) (rest : Bytes) (hb : ∀ x ∈ bs, x < 256)
    (hp : Spec.Json.parse bs = some (v, rest)) : C03.JWF v = true :=
  jwfV v (parse_JT bs v rest hb hp) (parse_FinT bs v rest hb hp)

theorem parse_JWF16 (bs : Bytes) (v : TV) (rest : Bytes) (hb : ∀ x ∈ bs, x < 256)
    (hp : Spec.Json.parse bs = some (v, rest)) : C16.JWF v = true := by
  rw [CborLeaves.jwf_eqV]; exact parse_JWF bs v rest hb hp

end Refmt.JsonFinite
