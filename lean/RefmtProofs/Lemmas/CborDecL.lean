/-
  A finer-grained description of the decoder on encoder output than the round trip needs: `AV` / `AVT` say what
  one call of `acceptValue` does on an encoded head, `DRuns` what a run does over a prefix of the input, step and
  allocation counters included.  No proof of the round trip uses them: that goes through `C04.AcceptRuns`.
-/
import RefmtProofs.Lemmas.CborEncRun
namespace Refmt.C02L
open Refmt Refmt.CborDec

@[simp] theorem ofBytes_data (bs : Bytes) : (Rd.ofBytes bs).data = bs := rfl

/-- `bs` is the untagged encoding of an item head that `acceptValue` turns into the token body `body`, moving the
    decoder state by `f`; the first byte is neither a break nor a tag. -/
def AV (bs : Bytes) (f : St → St) (body : Body) (done : Bool) : Prop :=
  ∃ hd tl, bs = hd :: tl ∧ hd ≠ 0xff ∧ (hd < 0xc0 ∨ 0xe0 ≤ hd) ∧
    ∀ (coerce : Bool) (s : St) (rest : Bytes) (tag : Option Int) (fuel : Nat),
      ∃ a, acceptValue coerce s (Rd.ofBytes (tl ++ rest)) hd tag fuel = ⟨f s, (Rd.ofBytes (rest)), .tok ⟨body, tag⟩ done, a⟩

/-- Same, for a complete (possibly tagged) item head as the sub-steps call it. -/
def AVT (bs : Bytes) (f : St → St) (t : Tok) (done : Bool) : Prop :=
  ∃ hd tl, bs = hd :: tl ∧ hd ≠ 0xff ∧
    ∀ (coerce : Bool) (s : St) (rest : Bytes),
      ∃ a, acceptValue coerce s (Rd.ofBytes (tl ++ rest)) hd none 1 = ⟨f s, (Rd.ofBytes (rest)), .tok t done, a⟩

theorem AV.tagged {bs : Bytes} {f : St → St} {body : Body} {done : Bool} (h : AV bs f body done)
    (tag : Option Int) (ht : ∀ g, tag = some g → 0 ≤ g ∧ g < (two63 : Int)) :
    AVT (Spec.Cbor.tagBytes tag ++ bs) f ⟨body, tag⟩ done := by
  obtain ⟨hd, tl, rfl, hne, hnt, hav⟩ := h
  cases tag with
  | none =>
    exact ⟨hd, tl, by simp [Spec.Cbor.tagBytes], hne, fun c s rest => hav c s rest none 1⟩
  | some g =>
    obtain ⟨g0, g1⟩ := ht g rfl
    obtain ⟨b, tl', e, hb, hne', hh⟩ := C04.HeadReads.tag g0 g1
    refine ⟨b, tl' ++ hd :: tl, by rw [e]; rfl, hne', fun c s rest => ?_⟩
    -- the decoder follows the parser's `headOf` (`C04.accept_head`), which reads the tag head back
    have hA : acceptValue c s ⟨tl' ++ (hd :: (tl ++ rest)), none, 0⟩ b none 1 =
        acceptValue c s ⟨tl ++ rest, none, 0⟩ hd (some ((g.toNat : Nat) : Int)) 0 := by
      have := C04.accept_head c s b hb (tl' ++ (hd :: (tl ++ rest))) none 1
      rwa [hh c] at this
    obtain ⟨a, ha⟩ := hav c s rest (some g) 0
    refine ⟨a, ?_⟩
    rw [Int.toNat_of_nonneg g0] at hA
    simp only [List.append_assoc, List.cons_append]
    exact hA.trans ha

def DRuns (coerce : Bool) (s : St) (bs : Bytes) (ts : List Tok) (s' : St) : Prop :=
  ∀ (fuel : Nat) (rest : Bytes) (acc : List Tok) (steps alloc : Nat),
    ∃ alloc', run coerce (ts.length + fuel) s (Rd.ofBytes (bs ++ rest)) acc steps alloc =
      run coerce fuel s' (Rd.ofBytes (rest)) (ts.reverse ++ acc) (steps + ts.length) alloc'

theorem DRuns.single {coerce : Bool} {s s' : St} {bs : Bytes} {t : Tok}
    (h : ∀ rest, ∃ a, step coerce s (Rd.ofBytes (bs ++ rest)) = ⟨s', (Rd.ofBytes (rest)), .tok t false, a⟩) :
    DRuns coerce s bs [t] s' := by
  intro fuel rest acc steps alloc
  obtain ⟨a, ha⟩ := h rest
  refine ⟨alloc + a, ?_⟩
  have : [t].length + fuel = fuel + 1 := by simp [Nat.add_comm]
  rw [this, run]
  simp [ha]

theorem DRuns.append {coerce : Bool} {s s' s'' : St} {bs bs' : Bytes} {ts ts' : List Tok}
    (h1 : DRuns coerce s bs ts s') (h2 : DRuns coerce s' bs' ts' s'') :
    DRuns coerce s (bs ++ bs') (ts ++ ts') s'' := by
  intro fuel rest acc steps alloc
  obtain ⟨a1, e1⟩ := h1 (ts'.length + fuel) (bs' ++ rest) acc steps alloc
  obtain ⟨a2, e2⟩ := h2 fuel rest (ts.reverse ++ acc) (steps + ts.length) a1
  refine ⟨a2, ?_⟩
  have : (ts ++ ts').length + fuel = ts.length + (ts'.length + fuel) := by simp [Nat.add_assoc]
  rw [this, List.append_assoc, e1, e2]
  simp [Nat.add_assoc]

theorem DRuns.finish {coerce : Bool} {s s' : St} {bs bs' : Bytes} {ts : List Tok} {t : Tok}
    (h : DRuns coerce s bs ts s')
    (hstep : ∀ rest, ∃ st a, step coerce s' (Rd.ofBytes (bs' ++ rest)) = ⟨st, (Rd.ofBytes (rest)), .tok t true, a⟩)
    (fuel : Nat) (rest : Bytes) (hf : ts.length + 1 ≤ fuel) :
    (run coerce fuel s (Rd.ofBytes ((bs ++ bs') ++ rest)) [] 0 0).toks = ts ++ [t] ∧
    (run coerce fuel s (Rd.ofBytes ((bs ++ bs') ++ rest)) [] 0 0).res = .ok () ∧
    (run coerce fuel s (Rd.ofBytes ((bs ++ bs') ++ rest)) [] 0 0).rd.data = rest := by
  obtain ⟨k, rfl⟩ : ∃ k, fuel = ts.length + (k + 1) := ⟨fuel - ts.length - 1, by omega⟩
  obtain ⟨a1, e1⟩ := h (k + 1) (bs' ++ rest) [] 0 0
  obtain ⟨st, a, e2⟩ := hstep rest
  rw [List.append_assoc, e1, run]
  simp [e2]

end Refmt.C02L
