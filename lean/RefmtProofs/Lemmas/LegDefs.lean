/-
  C12, claim (ii), the typed leg of re-marshalling: what the marshaller writes for a value, read into an untyped slot and
  marshalled again, still reads at the value's own type as the round-trip value of the value.  This file: what the two
  inductions of the typed leg (`IDM`, `LEGT`) conclude, and how runs over the members of a list are put together.
  Everything is said of runs (`Reads`, `MRun.Writes`), each on SOME fuel; fuel is compared only
  where several runs are brought to a common one (`exists_fuel`, the `max` in `writes_list` and its like, the three runs of
  `C12Typed.typed_leg_tokens`).  See RefmtProofs/Props/C12Typed.lean, C12Tagged.lean.
-/
import RefmtProofs.Lemmas.FullWire
import RefmtProofs.Lemmas.MarshalRun
import RefmtProofs.Lemmas.ObjRunSeq
namespace Refmt.Obj
open Refmt Refmt.C13 Refmt.C11 Refmt.C12
open Refmt.MachL

def SameOpen (b b' : Body) : Prop :=
  (∀ l, b = .arrOpen l → ∃ l', b' = .arrOpen l') ∧ (∀ l, b = .mapOpen l → ∃ l', b' = .mapOpen l')

/-- one item of a rendering: its tokens, what an untyped slot reads from them, the re-rendering of that, and what the
    re-rendering reads as at the item's own type -/
structure Item where
  tk : List Tok
  u : Val
  tk2 : List Tok
  r : Val

/-- what a rendering and its re-rendering have in common at the head, which is all an untyped slot or a pointer in front
    looks at.  A tag need not survive: a tagged null behind a pointer comes back as a plain null (where a tag matters:
    `MRun.Writes.tag_first`). -/
def Hd2T (tk tk2 : List Tok) : Prop :=
  ∃ t r t' r', tk = t :: r ∧ tk2 = t' :: r' ∧ (t.tag = none → t'.tag = none) ∧
    t.body ≠ .arrClose ∧ t.body ≠ .mapClose ∧ t'.body ≠ .arrClose ∧ t'.body ≠ .mapClose ∧
    SameOpen t.body t'.body ∧
    ((t.body = .null ∧ r = [] ∧ t'.body = .null ∧ r' = []) ∨ (t.body ≠ .null ∧ t'.body ≠ .null))

theorem SameOpen.refl (b : Body) : SameOpen b b := ⟨fun l h => ⟨l, h⟩, fun l h => ⟨l, h⟩⟩

theorem hd2T_null {tg tg' : Option Int} (h : tg = none → tg' = none) : Hd2T [⟨.null, tg⟩] [⟨.null, tg'⟩] :=
  ⟨_, _, _, _, rfl, rfl, h, by simp, by simp, by simp, by simp, SameOpen.refl _, Or.inl ⟨rfl, rfl, rfl, rfl⟩⟩

theorem hd2T_arr (l l' : Int) (tag : Option Int) (r r' : List Tok) : Hd2T (⟨.arrOpen l, tag⟩ :: r) (⟨.arrOpen l', tag⟩ :: r') :=
  ⟨_, _, _, _, rfl, rfl, id, by simp, by simp, by simp, by simp, by simp [SameOpen], Or.inr ⟨by simp, by simp⟩⟩

theorem hd2T_map (l l' : Int) (tag : Option Int) (r r' : List Tok) : Hd2T (⟨.mapOpen l, tag⟩ :: r) (⟨.mapOpen l', tag⟩ :: r') :=
  ⟨_, _, _, _, rfl, rfl, id, by simp, by simp, by simp, by simp, by simp [SameOpen], Or.inr ⟨by simp, by simp⟩⟩

theorem hd2T_scalar {b b' : Body} (hb : b.isScalar = true) (hb' : b'.isScalar = true) (hn : b' = .null ↔ b = .null) :
    Hd2T [⟨b, none⟩] [⟨b', none⟩] := by
  refine ⟨_, _, _, _, rfl, rfl, id, ?_, ?_, ?_, ?_, ⟨?_, ?_⟩, ?_⟩
  · rintro (rfl : b = _); cases hb
  · rintro (rfl : b = _); cases hb
  · rintro (rfl : b' = _); cases hb'
  · rintro (rfl : b' = _); cases hb'
  · rintro l (rfl : b = _); cases hb
  · rintro l (rfl : b = _); cases hb
  · by_cases h : b = .null
    · exact Or.inl ⟨h, rfl, hn.2 h, rfl⟩
    · exact Or.inr ⟨h, mt hn.1 h⟩

theorem HeadSpec.hd2T {tk : List Tok} (h : HeadSpec tk) : Hd2T tk tk := by
  rcases h with ⟨tg, rfl⟩ | ⟨t, r, rfl, h1, h2, h3⟩
  · exact hd2T_null id
  · exact ⟨t, r, t, r, rfl, rfl, id, h2, h3, h2, h3, SameOpen.refl _, Or.inr ⟨h1, h1⟩⟩

theorem Hd2T.head1 {tk tk2 : List Tok} (h : Hd2T tk tk2) : ∃ t r, tk = t :: r := by
  obtain ⟨t, r, -, -, rfl, -⟩ := h
  exact ⟨t, r, rfl⟩

theorem Hd2T.head2 {tk tk2 : List Tok} (h : Hd2T tk tk2) : ∃ t r, tk2 = t :: r := by
  obtain ⟨-, -, t', r', -, rfl, -⟩ := h
  exact ⟨t', r', rfl⟩

theorem Hd2T.of_null {tg : Option Int} {tk2 : List Tok} (h : Hd2T [⟨.null, tg⟩] tk2) : ∃ tg', tk2 = [⟨.null, tg'⟩] := by
  obtain ⟨t, r, ⟨b', tg'⟩, r', h0, rfl, -, -, -, -, -, -, hnl⟩ := h
  cases h0
  rcases hnl with ⟨-, -, rfl, rfl⟩ | ⟨hn, -⟩
  · exact ⟨tg', rfl⟩
  · exact absurd rfl hn

theorem Hd2T.nonnull {t t' : Tok} {r r' : List Tok} (h : Hd2T (t :: r) (t' :: r')) (hn : t.body ≠ .null) : t'.body ≠ .null := by
  obtain ⟨_, _, _, _, h0, h0', -, -, -, -, -, -, hnl⟩ := h
  cases h0
  cases h0'
  exact (hnl.resolve_left fun h => hn h.1).2

theorem Hd2T.untag {t t' : Tok} {r r' : List Tok} (h : Hd2T (t :: r) (t' :: r')) (ht : t.tag = none) : t'.tag = none := by
  obtain ⟨_, _, _, _, h0, h0', htag, -⟩ := h
  cases h0
  cases h0'
  exact htag ht

theorem Hd2T.sameOpen {t t' : Tok} {r r' : List Tok} (h : Hd2T (t :: r) (t' :: r')) : SameOpen t.body t'.body := by
  obtain ⟨_, _, _, _, h0, h0', -, -, -, -, -, hso, -⟩ := h
  cases h0
  cases h0'
  exact hso

variable {ts : Types} {a : Atlas} {trs : Trs} {it : IfaceTys}

theorem Hd2T.retag {tk tk2 : List Tok} (h : Hd2T tk tk2) (tag : Option Int) : Hd2T (MRun.retag tag tk) (MRun.retag tag tk2) := by
  obtain ⟨t, r, t', r', rfl, rfl, h0, h1, h2, h3, h4, h5, h6⟩ := h
  cases tag with
  | none => exact ⟨t, r, t', r', rfl, rfl, h0, h1, h2, h3, h4, h5, h6⟩
  | some g => exact ⟨_, _, _, _, rfl, rfl, id, h1, h2, h3, h4, h5, h6⟩

theorem exists_fuel {α : Type} {P : Nat → α → Prop} (hmono : ∀ f g x, P f x → f ≤ g → P g x) :
    ∀ l : List α, (∀ x ∈ l, ∃ f, P f x) → ∃ f, ∀ x ∈ l, P f x
  | [], _ => ⟨0, fun _ hx => nomatch hx⟩
  | x :: xs, h => by
    obtain ⟨f1, h1⟩ := h x (by simp)
    obtain ⟨f2, h2⟩ := exists_fuel hmono xs (fun y hy => h y (by simp [hy]))
    refine ⟨max f1 f2, fun y hy => ?_⟩
    rcases List.mem_cons.mp hy with rfl | hy
    · exact hmono _ _ _ h1 (Nat.le_max_left _ _)
    · exact hmono _ _ _ (h2 y hy) (Nat.le_max_right _ _)

theorem Reads.unmV_eq {f F id : Nat} {tk : List Tok} {r : Val} (h : Reads ts a trs it f (.v id (zeroVal ts 64 id)) tk r)
    (hF : f ≤ F) : unmV ts a trs it F id (zeroVal ts 64 id) tk = .ok r [] tk.length := by
  simpa using (h.mono hF).sound []

section
variable (ts : Types) (a : Atlas) (trs : Trs) (it : IfaceTys)

/-- the untyped pass: an untyped slot reads `tk` as `u`, which marshals to `tk2`, of the head shape of `tk` -/
structure Pass (tk : List Tok) (u : Val) (tk2 : List Tok) : Prop where
  head : Hd2T tk tk2
  reads : ∃ f, Reads ts a trs it f (.v it.iface (zeroVal ts 64 it.iface)) tk u
  writes : ∃ f, MRun.Writes ts a trs f (.v it.iface u) tk2

/-- the claim of the typed leg about an item, all four components named (in `Leg`, `u` and `tk2` are existential): the
    untyped pass takes `tk` to `tk2`, which the job `jr` reads as `r` -/
structure LegJ (jr : Job) (i : Item) : Prop where
  pass : Pass ts a trs it i.tk i.u i.tk2
  reads : ∃ f, Reads ts a trs it f jr i.tk2 i.r

def Leg (jr : Job) (tk : List Tok) (r : Val) : Prop := ∃ u tk2, LegJ ts a trs it jr ⟨tk, u, tk2, r⟩

/-- `i.u` is not used: one `Item` serves this and `LegJ`, so that the lemmas of LegItems serve both -/
structure IdmJ (jw : Val → MRun.Job) (jr : Job) (i : Item) : Prop where
  head : Hd2T i.tk i.tk2
  writes : ∃ f, MRun.Writes ts a trs f (jw i.r) i.tk2
  reads : ∃ f, Reads ts a trs it f jr i.tk2 i.r

def Idm (jw : Val → MRun.Job) (jr : Job) (tk : List Tok) (r : Val) : Prop := ∃ u tk2, IdmJ ts a trs it jw jr ⟨tk, u, tk2, r⟩

/-- what an induction over the marshaller's fuel proves at fuel `f`: `C` of the writing job, the reading job that answers
    it, the rendering and the round-trip value.  `g`, at least `f`, is the fuel at which the specification (`rtF`,
    `fullVal`) is evaluated; `H p id` is the side condition on the type that descends with `fullTy` (`StabTy` for `IDM`,
    `True` for `LEGT`). -/
structure Walk (H : Nat → Nat → Prop) (C : (Val → MRun.Job) → Job → List Tok → Val → Prop) (f : Nat) : Prop where
  v : ∀ {p id g}, p ≤ 64 → fullTy ts a p id = true → H p id → f ≤ g → ∀ k v toks, hasTy ts k id v = true →
      fullVal ts a trs it g id v = true → MRun.Writes ts a trs f (.v id v) toks →
      C (.v id) (.v id (zeroVal ts 64 id)) toks (rtF ts a trs it g id v)
  b : ∀ {p id g}, p + 1 ≤ 64 → fullTy ts a (p + 1) id = true → H (p + 1) id → (∀ e, ts.get id ≠ .ptr e) → f ≤ g →
      ∀ k v toks, hasTy ts k id v = true → fullValB ts a trs it g id (pickBare ts a id) v = true →
      MRun.Writes ts a trs f (.bare id (pickBare ts a id) v) toks →
      C (.bare id (pickBare ts a id)) (.bare id (upickBare ts a id) (zeroVal ts 64 id)) toks
        (rtFB ts a trs it g id (pickBare ts a id) v)

end

theorem Leg.intro {jr : Job} {tk tk2 : List Tok} {u r : Val} {f : Nat} (hp : Pass ts a trs it tk u tk2)
    (hr : Reads ts a trs it f jr tk2 r) : Leg ts a trs it jr tk r :=
  ⟨u, tk2, hp, f, hr⟩

theorem Idm.intro {jw : Val → MRun.Job} {jr : Job} {tk tk2 : List Tok} {r : Val} {f1 f2 : Nat} (hhd : Hd2T tk tk2)
    (hw : MRun.Writes ts a trs f1 (jw r) tk2) (hr : Reads ts a trs it f2 jr tk2 r) : Idm ts a trs it jw jr tk r :=
  ⟨r, tk2, hhd, ⟨f1, hw⟩, ⟨f2, hr⟩⟩

section
variable {H : Nat → Nat → Prop} {C : (Val → MRun.Job) → Job → List Tok → Val → Prop}

theorem Walk.zero : Walk ts a trs it H C 0 where
  v := by intro _ _ _ _ _ _ _ _ _ _ _ _ hm; cases hm
  b := by intro _ _ _ _ _ _ _ _ _ _ _ _ _ hm; cases hm

theorem Walk.all {N : Nat} (step : ∀ f, f + 1 ≤ N → Walk ts a trs it H C f → Walk ts a trs it H C (f + 1)) :
    ∀ f, f ≤ N → Walk ts a trs it H C f
  | 0, _ => .zero
  | f+1, hf => step f hf (Walk.all step f (by omega))

theorem bare_of_pick {id g f : Nat} {m : Mach} {um : UMach} {v : Val} {toks : List Tok}
    (hpk : pickBare ts a id = m ∧ upickBare ts a id = um)
    (h : fullValB ts a trs it g id m v = true → MRun.Writes ts a trs f (.bare id m v) toks →
      C (.bare id m) (.bare id um (zeroVal ts 64 id)) toks (rtFB ts a trs it g id m v)) :
    fullValB ts a trs it g id (pickBare ts a id) v = true → MRun.Writes ts a trs f (.bare id (pickBare ts a id) v) toks →
      C (.bare id (pickBare ts a id)) (.bare id (upickBare ts a id) (zeroVal ts 64 id)) toks
        (rtFB ts a trs it g id (pickBare ts a id) v) := by
  obtain ⟨rfl, rfl⟩ := hpk
  exact h

end

theorem reads_elems {α : Type} (tk : α → List Tok) (r : α → Val) (e : Nat) (cap : Option Nat) (l : List α)
    (h : ∀ x ∈ l, ∃ f, Reads ts a trs it f (.v e (zeroVal ts 64 e)) (tk x) (r x)) (hcap : ∀ n, cap = some n → l.length ≤ n) :
    ∃ f, Reads ts a trs it f (.elems e cap []) (l.flatMap tk ++ [⟨.arrClose, none⟩]) (.slice (some (l.map r))) := by
  obtain ⟨f, hf⟩ := exists_fuel (fun _ _ _ h hfg => h.mono hfg) l h
  exact ⟨_, Reads.elems_of tk r rfl l [] hf (by simpa using hcap)⟩

theorem reads_entries {α : Type} (kf : α → Bytes) (tk : α → List Tok) (r : α → Val) (vt : Nat) (l : List α)
    (h : ∀ x ∈ l, ∃ f, Reads ts a trs it f (.v vt (zeroVal ts 64 vt)) (tk x) (r x)) (hnd : (l.map kf).Nodup) :
    ∃ f, Reads ts a trs it f (.entries none vt []) (l.flatMap (fun x => ⟨.str (kf x), none⟩ :: tk x) ++ [⟨.mapClose, none⟩])
      (.map (some (l.map fun x => (Val.str (kf x), r x)))) := by
  obtain ⟨f, hf⟩ := exists_fuel (fun _ _ _ h hfg => h.mono hfg) l h
  exact ⟨_, Reads.entries_of kf tk r rfl l [] hf hnd (fun _ _ => rfl)⟩

theorem writes_list {α : Type} (uf : α → Val) (tkf : α → List Tok) (e : Nat) : ∀ l : List α,
    (∀ x ∈ l, ∃ f, MRun.Writes ts a trs f (.v e (uf x)) (tkf x)) →
    ∃ f, MRun.Writes ts a trs f (.list e (l.map uf)) (l.flatMap tkf)
  | [], _ => ⟨1, .listNil⟩
  | x :: xs, h => by
    obtain ⟨f1, h1⟩ := h x (by simp)
    obtain ⟨f2, h2⟩ := writes_list uf tkf e xs (fun y hy => h y (by simp [hy]))
    exact ⟨max f1 f2 + 1, .listCons (h1.mono (Nat.le_max_left _ _)) (h2.mono (Nat.le_max_right _ _))⟩

theorem writes_entries {α : Type} (kf : α → Bytes) (uf : α → Val) (tkf : α → List Tok) (e : Nat) : ∀ l : List α,
    (∀ x ∈ l, ∃ f, MRun.Writes ts a trs f (.v e (uf x)) (tkf x)) →
    ∃ f, MRun.Writes ts a trs f (.entries e (l.map fun x => (kf x, uf x))) (l.flatMap fun x => ⟨.str (kf x), none⟩ :: tkf x)
  | [], _ => ⟨1, .entriesNil⟩
  | x :: xs, h => by
    obtain ⟨f1, h1⟩ := h x (by simp)
    obtain ⟨f2, h2⟩ := writes_entries kf uf tkf e xs (fun y hy => h y (by simp [hy]))
    exact ⟨max f1 f2 + 1, .entriesCons (h1.mono (Nat.le_max_left _ _)) (h2.mono (Nat.le_max_right _ _))⟩

theorem writes_fields (ws : List Val) : ∀ (l : List (SMField × Item)),
    (∀ q ∈ l, traverse q.1.route (.struct ws) = some q.2.r ∧ ∃ f, MRun.Writes ts a trs f (.v q.1.ty q.2.r) q.2.tk2) →
    ∃ f, MRun.Writes ts a trs f (.fields (l.map (·.1)) (.struct ws)) (l.flatMap (fun q => ⟨.str q.1.name, none⟩ :: q.2.tk2))
  | [], _ => ⟨1, .fieldsNil⟩
  | q :: qs, h => by
    obtain ⟨ht, f1, h1⟩ := h q (by simp)
    obtain ⟨f2, h2⟩ := writes_fields ws qs (fun y hy => h y (by simp [hy]))
    exact ⟨max f1 f2 + 1, .fieldsCons ht (h1.mono (Nat.le_max_left _ _)) (h2.mono (Nat.le_max_right _ _))⟩

/-! The claims of the leg as equations of the model's functions (`unmV`, `unmBare`, `marshalV`, `marshalBare`) at every
  fuel from a threshold `N` on, and their monotonicity in `N`: `UP` / `UPT` say what `Pass` says, `GoodB` / `GoodBT` what
  `LegJ` says at a bare machine, `IdmBI` what `IdmJ` says; `Hd2` is `Hd2T` without tags.  The inductions go by the run
  relations above, not by these. -/

def NC (t : Tok) : Prop := t.body ≠ .null ∧ t.body ≠ .arrClose ∧ t.body ≠ .mapClose

def Hd2 (tk tk2 : List Tok) : Prop :=
  (tk = [⟨.null, none⟩] ∧ tk2 = [⟨.null, none⟩]) ∨
  (∃ t r t' r', tk = t :: r ∧ tk2 = t' :: r' ∧ t.tag = none ∧ t'.tag = none ∧ NC t ∧ NC t' ∧ SameOpen t.body t'.body)

section
variable (ts : Types) (a : Atlas) (trs : Trs) (it : IfaceTys)

def Rd (F id : Nat) (tk : List Tok) (r : Val) : Prop :=
  ∀ rest, unmV ts a trs it F id (zeroVal ts 64 id) (tk ++ rest) = .ok r rest tk.length

def RdB (F id : Nat) (tk : List Tok) (r : Val) : Prop :=
  ∀ rest, unmBare ts a trs it F id (upickBare ts a id) (zeroVal ts 64 id) (tk ++ rest) = .ok r rest tk.length

def UP (N : Nat) (tk : List Tok) (u : Val) (tk2 : List Tok) : Prop :=
  Hd2 tk tk2 ∧ ∀ F, N ≤ F → Rd ts a trs it F it.iface tk u ∧ marshalV ts a trs F it.iface u = ⟨tk2, none⟩

def GoodB (N id : Nat) (i : Item) : Prop :=
  UP ts a trs it N i.tk i.u i.tk2 ∧ ∀ F, N ≤ F → RdB ts a trs it F id i.tk2 i.r

def UPT (N : Nat) (tk : List Tok) (u : Val) (tk2 : List Tok) : Prop :=
  Hd2T tk tk2 ∧ ∀ F, N ≤ F → Rd ts a trs it F it.iface tk u ∧ marshalV ts a trs F it.iface u = ⟨tk2, none⟩

def GoodBT (N id : Nat) (i : Item) : Prop :=
  UPT ts a trs it N i.tk i.u i.tk2 ∧ ∀ F, N ≤ F → RdB ts a trs it F id i.tk2 i.r

def IdmBI (N id : Nat) (i : Item) : Prop :=
  Hd2T i.tk i.tk2 ∧ ∀ F, N ≤ F →
    marshalBare ts a trs F id (pickBare ts a id) i.r = ⟨i.tk2, none⟩ ∧ RdB ts a trs it F id i.tk2 i.r

end

theorem UP.mono {N M : Nat} {tk : List Tok} {u : Val} {tk2 : List Tok} (h : UP ts a trs it N tk u tk2) (hle : N ≤ M) :
    UP ts a trs it M tk u tk2 :=
  ⟨h.1, fun F hF => h.2 F (by omega)⟩

theorem GoodB.mono {N M id : Nat} {i : Item} (h : GoodB ts a trs it N id i) (hle : N ≤ M) : GoodB ts a trs it M id i :=
  ⟨h.1.mono hle, fun F hF => h.2 F (by omega)⟩

theorem UPT.mono {N M : Nat} {tk : List Tok} {u : Val} {tk2 : List Tok} (h : UPT ts a trs it N tk u tk2) (hle : N ≤ M) :
    UPT ts a trs it M tk u tk2 :=
  ⟨h.1, fun F hF => h.2 F (by omega)⟩

theorem GoodBT.mono {N M id : Nat} {i : Item} (h : GoodBT ts a trs it N id i) (hle : N ≤ M) : GoodBT ts a trs it M id i :=
  ⟨h.1.mono hle, fun F hF => h.2 F (by omega)⟩

theorem IdmBI.mono {N M id : Nat} {i : Item} (h : IdmBI ts a trs it N id i) (hle : N ≤ M) : IdmBI ts a trs it M id i :=
  ⟨h.1, fun F hF => h.2 F (by omega)⟩

end Refmt.Obj
