/-
  C12, claim (ii) — the untyped pass (`Pass`) on scalars, on arrays and on map-shaped renderings (Go maps, structs and
  keyed unions are one case: `Pass_map`, `writes_map` take the key as a function of the entry).  A slot may write a
  scalar back in another spelling (`slotSpelling`), which every machine reads as it reads the first.
  See RefmtProofs/Props/C12Typed.lean.
-/
import RefmtProofs.Lemmas.LegDefs
import RefmtProofs.Lemmas.UnmCanon
import RefmtProofs.Lemmas.UntypedRead
namespace Refmt.Obj
open Refmt Refmt.C13 Refmt.C11 Refmt.C12 Refmt.C12L Refmt.C01L

variable {ts : Types} {a : Atlas} {trs : Trs} {it : IfaceTys}

/-- the spelling in which an untyped slot writes back the scalar it read from a token with body `b`: it holds a `uint`
    below 2^63 as an `int` (`slotScalar`) -/
def slotSpelling : Body → Body
  | .uint n => if n < two63 then .int n else .uint n
  | b => b

theorem slotSpelling_uint (n : Nat) : slotSpelling (.uint n) = if n < two63 then .int n else .uint n := rfl

theorem slotScalar_slotSpelling {b : Body} {w : Val} (h : slotScalar it b = some w) : slotScalar it (slotSpelling b) = some w := by
  cases b with
  | uint n =>
    rw [slotSpelling_uint]
    by_cases hn : n < two63 <;> simpa [slotScalar, hn] using h
  | _ => exact h

theorem slotSpelling_null {b : Body} : slotSpelling b = .null ↔ b = .null := by
  cases b with
  | uint n => rw [slotSpelling_uint]; split <;> simp
  | _ => exact Iff.rfl

theorem hd2T_slotSpelling {b : Body} {w : Val} (h : slotScalar it b = some w) : Hd2T [⟨b, none⟩] [⟨slotSpelling b, none⟩] :=
  have hs : ∀ {b : Body} {w : Val}, slotScalar it b = some w → b.isScalar = true :=
    fun h => by rw [← slotScalar_isSome it, h]; rfl
  hd2T_scalar (hs h) (hs (slotScalar_slotSpelling h)) slotSpelling_null

theorem writes_slot_scalar (he : UEnv ts a it) {id : Nat} {b : Body} {w : Val} (h : slotScalar it b = some w) :
    MRun.Writes ts a trs 3 (.bare id .wildcard w) [⟨slotSpelling b, none⟩] := by
  -- the value held has one of the predeclared scalar types: its machine is the scalar machine, two units of fuel down
  have hv : ∀ {dt : Nat} {dv : Val} {b' : Body}, Predeclared ts dt → primTok ts dt dv = ⟨[⟨b', none⟩], none⟩ →
      MRun.Writes ts a trs 3 (.bare id .wildcard (.iface (some (dt, dv)))) [⟨b', none⟩] :=
    fun hd hp => .wild (MRun.of_out (job := .v _ _) ((mV_prim trs hd 0 _).trans hp))
  cases b with
  | null => cases h; exact .wildNil
  | str s => cases h; exact hv (.inl ⟨_, he.str⟩) rfl
  | bytes s => cases h; exact hv (.inr he.bytes) rfl
  | bool s => cases h; exact hv (.inl ⟨_, he.bool⟩) rfl
  | float s => cases h; exact hv (.inl ⟨_, he.f64⟩) rfl
  | int s => cases h; exact hv (.inl ⟨_, he.int⟩) rfl
  | uint n =>
    cases h
    rw [slotSpelling_uint]
    split
    · exact hv (.inl ⟨_, he.int⟩) rfl
    · exact hv (.inl ⟨_, he.uint64⟩) rfl
  | _ => cases h

theorem Pass_scalar (he : UEnv ts a it) {b : Body} {w : Val} (h : slotScalar it b = some w) :
    Pass ts a trs it [⟨b, none⟩] w [⟨slotSpelling b, none⟩] :=
  ⟨hd2T_slotSpelling h, ⟨_, Reads.slot trs he (.wild_scalar (f := 0) rfl rfl h)⟩,
    ⟨_, (writes_slot_scalar (id := it.iface) he h).slot he⟩⟩

theorem Pass_null (he : UEnv ts a it) : Pass ts a trs it [⟨.null, none⟩] (.iface none) [⟨.null, none⟩] :=
  Pass_scalar he (b := .null) rfl

theorem primTok_tok (it : IfaceTys) {id : Nat} {v : Val} {toks : List Tok} (hm : primTok ts id v = ⟨toks, none⟩) :
    ∃ b w, toks = [⟨b, none⟩] ∧ slotScalar it b = some w := by
  obtain ⟨b, rfl, hs, -⟩ := ObjL.primTok_inv hm
  obtain ⟨w, hw⟩ := Option.isSome_iff_exists.mp ((slotScalar_isSome it b).trans hs)
  exact ⟨b, w, rfl, hw⟩

theorem slotSpelling_respell (b : Body) : Respell False ⟨b, none⟩ ⟨slotSpelling b, none⟩ := by
  cases b with
  | uint n =>
    rw [slotSpelling_uint]
    split
    · exact .uint none (by assumption)
    · exact .same _
  | _ => exact .same _

theorem writes_map {α : Type} {id kt vt : Nat} {bk : Bool} (hkt : ts.get kt = .prim .string bk) (kf : α → Bytes) (uf : α → Val)
    (tkf : α → List Tok) (l : List α) (h : ∀ x ∈ l, ∃ f, MRun.Writes ts a trs f (.v vt (uf x)) (tkf x)) :
    ∃ f, MRun.Writes ts a trs f (.bare id (.map kt vt a.defaultSort) (.map (some (l.map fun x => (Val.str (kf x), uf x)))))
      (⟨.mapOpen l.length, none⟩ ::
        ((sortI a.defaultSort kf l).flatMap (fun x => ⟨.str (kf x), none⟩ :: tkf x) ++ [⟨.mapClose, none⟩])) := by
  obtain ⟨f, h2⟩ := writes_entries kf uf tkf vt (sortI a.defaultSort kf l) (fun x hx => h x ((sortI_perm _ _ _).mem_iff.mp hx))
  -- the marshaller turns the keys into strings, sorts, and writes the entries
  have e2 : ((l.map fun x => (Val.str (kf x), uf x)).map fun (k, x) => (keyStr k, x)) = l.map fun x => (kf x, uf x) := by
    simp [List.map_map, Function.comp_def, keyStr]
  rw [← sortKeys_map_sortI, ← e2] at h2
  have hw := h2.of_strKeys hkt (fun q hq => by obtain ⟨x, -, rfl⟩ := List.mem_map.mp hq; exact ⟨_, rfl⟩) id
  rw [List.length_map] at hw
  exact ⟨_, hw⟩

theorem Pass_arr (he : UEnv ts a it) (l : Int) (items : List Item) (h : ∀ i ∈ items, Pass ts a trs it i.tk i.u i.tk2) :
    Pass ts a trs it (⟨.arrOpen l, none⟩ :: (items.flatMap (·.tk) ++ [⟨.arrClose, none⟩]))
      (.iface (some (it.sliceI, .slice (some (items.map (·.u))))))
      (⟨.arrOpen items.length, none⟩ :: (items.flatMap (·.tk2) ++ [⟨.arrClose, none⟩])) := by
  obtain ⟨f1, h1⟩ := reads_elems (·.tk) (·.u) it.iface none items (fun i hi => (h i hi).reads) (by simp)
  obtain ⟨f2, h2⟩ := writes_list (·.u) (·.tk2) it.iface items (fun i hi => (h i hi).writes)
  have hw := MRun.Writes.v_of_bare (by simp [he.sliceI]) (C12.pick_sliceI he) (.slice h2)
  rw [List.length_map] at hw
  exact ⟨hd2T_arr _ _ _ _ _, ⟨_, Reads.slot trs he (.wild_arr rfl rfl rfl (.slice rfl h1))⟩,
    ⟨_, hw.slot_boxed he⟩⟩

theorem Pass_map {α : Type} (he : UEnv ts a it) (n : Int) (kf : α → Bytes) (itf : α → Item) (l : List α)
    (hnd : (l.map kf).Nodup) (h : ∀ x ∈ l, Pass ts a trs it (itf x).tk (itf x).u (itf x).tk2) :
    Pass ts a trs it (⟨.mapOpen n, none⟩ :: (l.flatMap (fun x => ⟨.str (kf x), none⟩ :: (itf x).tk) ++ [⟨.mapClose, none⟩]))
      (.iface (some (it.mapSI, .map (some (l.map fun x => (Val.str (kf x), (itf x).u))))))
      (⟨.mapOpen l.length, none⟩ ::
        ((sortI a.defaultSort kf l).flatMap (fun x => ⟨.str (kf x), none⟩ :: (itf x).tk2) ++ [⟨.mapClose, none⟩])) := by
  obtain ⟨f1, h1⟩ := reads_entries kf (fun x => (itf x).tk) (fun x => (itf x).u) it.iface l (fun x hx => (h x hx).reads) hnd
  obtain ⟨f2, h2⟩ := writes_map (trs := trs) (id := it.mapSI) he.str kf
    (fun x => (itf x).u) (fun x => (itf x).tk2) l (fun x hx => (h x hx).writes)
  exact ⟨hd2T_map _ _ _ _ _,
    ⟨_, Reads.slot trs he (.wild_map rfl rfl rfl (.map (keyFnOfU_string he.str a) rfl h1))⟩,
    ⟨_, (MRun.Writes.v_of_bare (by simp [he.mapSI]) (C12.pick_mapSI he) h2).slot_boxed he⟩⟩

end Refmt.Obj
