/-
  JSON strings on the reading side.  `JsonDec.parseString`, the decoder's unquoting, one equation per form of
  input.  The RFC 8259 string body as a grammar (`SBody`) and the scanner as a pure run over a text (`strRun`): the
  run accepts exactly the string bodies, the reference lexer returns the body the run accepts and what follows the
  quote, and unquoting a string body never fails.
-/
import RefmtProofs.Lemmas.Utf8
import RefmtProofs.Lemmas.Basics
namespace Refmt.C03L
open Refmt Refmt.JsonDec Refmt.PumpL

/-- What `parseString` makes of the letter behind a backslash; 39 (`'`) is here and not in `isEscLetter` because
    `parseString` (as in Go, json/jsonDecoderTerminals.go) takes `\'` while the scanner `strStep .esc` rejects it. -/
def unescape : Nat → Option Nat
  | 34 => some 34 | 92 => some 92 | 47 => some 47 | 39 => some 39
  | 98 => some 8 | 102 => some 12 | 110 => some 10 | 114 => some 13 | 116 => some 9
  | _ => none

theorem unescape_le {e y : Nat} (h : unescape e = some y) : y ≤ e := by
  unfold unescape at h
  split at h <;> simp only [Option.some.injEq, reduceCtorEq] at h <;> omega

def hex4 (a b c d : Nat) : Bool := isHex a && isHex b && isHex c && isHex d

def u4val (a b c d : Nat) : Nat := hexNib a * 4096 + hexNib b * 256 + hexNib c * 16 + hexNib d

theorem getu4_hex (a b c d : Nat) (r : Bytes) (hh : hex4 a b c d = true) :
    getu4 (92 :: 117 :: a :: b :: c :: d :: r) = some (u4val a b c d) := by
  unfold hex4 at hh
  simp only [getu4, hh, if_true, u4val]

theorem getu4_some {s : Bytes} {x : Nat} (h : getu4 s = some x) :
    ∃ a b c d r, s = 92 :: 117 :: a :: b :: c :: d :: r ∧ hex4 a b c d = true ∧ x = u4val a b c d := by
  unfold getu4 at h
  split at h
  · rename_i a b c d r
    split at h
    · rename_i hh
      exact ⟨a, b, c, d, r, rfl, hh, (Option.some.inj h).symm⟩
    · cases h
  · cases h

theorem ps_nil (fuel : Nat) : parseString (fuel + 1) [] = some [] := by simp [parseString]

theorem ps_ctl (fuel c : Nat) (rest : Bytes) (h : c = 34 ∨ c < 32) : parseString (fuel + 1) (c :: rest) = none := by
  have h1 : c ≠ 92 := by omega
  simp only [parseString, beq_iff_eq, h1, if_false, Bool.or_eq_true, decide_eq_true_eq, h, if_true]

theorem ps_plain (fuel c : Nat) (rest : Bytes) (h0 : 0x20 ≤ c) (h1 : c ≠ 92) (h2 : c ≠ 34) (h3 : c < 0x80) :
    parseString (fuel + 1) (c :: rest) = (parseString fuel rest).map (c :: ·) := by
  have : ¬ c < 32 := by omega
  simp [parseString, h1, h2, h3, this]

theorem ps_hi (fuel c : Nat) (rest : Bytes) (hc : 0x80 ≤ c) :
    parseString (fuel + 1) (c :: rest) =
      (parseString fuel ((c :: rest).drop (decodeRune (c :: rest)).2)).map (encodeRune (decodeRune (c :: rest)).1 ++ ·) := by
  have h1 : c ≠ 92 := by omega
  have h2 : ¬ (c = 34 ∨ c < 32) := by omega
  have h3 : ¬ c < 0x80 := by omega
  simp only [parseString, beq_iff_eq, h1, if_false, Bool.or_eq_true, decide_eq_true_eq, h2, h3,
    Nat.max_eq_left (decodeRune_size_pos c rest)]

theorem ps_bs_end (fuel : Nat) : parseString (fuel + 1) [92] = none := by simp [parseString]

theorem ps_esc (fuel e : Nat) (rest : Bytes) (he : e ≠ 117) :
    parseString (fuel + 1) (92 :: e :: rest) = (unescape e).bind fun y => (parseString fuel rest).map (y :: ·) := by
  by_cases h : e = 34 ∨ e = 92 ∨ e = 47 ∨ e = 39 ∨ e = 98 ∨ e = 102 ∨ e = 110 ∨ e = 114 ∨ e = 116
  · rcases h with rfl | rfl | rfl | rfl | rfl | rfl | rfl | rfl | rfl <;> simp [parseString, unescape]
  · have hn : unescape e = none := by
      unfold unescape
      split <;> simp at h ⊢
    simp only [not_or] at h
    simp [parseString, hn, he, h]

theorem ps_u_none (fuel : Nat) (rest : Bytes) (h : getu4 (92 :: 117 :: rest) = none) :
    parseString (fuel + 1) (92 :: 117 :: rest) = none := by
  simp [parseString, h]

theorem ps_u4 (fuel a b c d : Nat) (rest : Bytes) {r : Nat} (hh : hex4 a b c d = true)
    (hv : u4val a b c d = r) (hs : isSurrogate r = false) :
    parseString (fuel + 1) (92 :: 117 :: a :: b :: c :: d :: rest) =
      (parseString fuel rest).map (encodeRune r ++ ·) := by
  subst hv
  simp [parseString, getu4_hex a b c d rest hh, hs]

theorem ps_u4_sur (fuel a b c d : Nat) (rest : Bytes) (hh : hex4 a b c d = true)
    (hs : isSurrogate (u4val a b c d) = true) :
    parseString (fuel + 1) (92 :: 117 :: a :: b :: c :: d :: rest) =
        (parseString fuel rest).map (encodeRune runeError ++ ·) ∨
      ∃ a' b' c' d' r', rest = 92 :: 117 :: a' :: b' :: c' :: d' :: r' ∧ hex4 a' b' c' d' = true ∧
        parseString (fuel + 1) (92 :: 117 :: a :: b :: c :: d :: rest) =
          (parseString fuel r').map (encodeRune (utf16Decode (u4val a b c d) (u4val a' b' c' d')) ++ ·) := by
  cases hg : getu4 rest with
  | none => exact .inl (by simp [parseString, getu4_hex a b c d rest hh, hs, hg])
  | some v =>
    obtain ⟨a', b', c', d', r', rfl, hh', rfl⟩ := getu4_some hg
    by_cases hd : utf16Decode (u4val a b c d) (u4val a' b' c' d') = runeError
    · exact .inl (by simp [parseString, getu4_hex a b c d _ hh, hs, hg, hd])
    · exact .inr ⟨a', b', c', d', r', rfl, hh', by simp [parseString, getu4_hex a b c d _ hh, hs, hg, hd]⟩

theorem ps_mb (fuel : Nat) (u : Bytes) (r : Nat) (rest : Bytes) (h : MB u r) :
    parseString (fuel + 1) (u ++ rest) = (parseString fuel rest).map (u ++ ·) := by
  match u, h with
  | [], h => have := h.len; simp at this
  | c :: u', h =>
    rw [List.cons_append, ps_hi fuel c _ (h.hi c (by simp)).1, ← List.cons_append, h.dec rest, h.enc]
    simp

theorem hex4_each {a b c d : Nat} (h : hex4 a b c d = true) :
    isHex a = true ∧ isHex b = true ∧ isHex c = true ∧ isHex d = true := by
  simpa [hex4, and_assoc] using h

theorem isHex_ascii {x : Nat} (h : isHex x = true) : x < 0x80 := by
  simp [isHex] at h; omega

open Refmt.Spec.Json

/-- the letters of the eight two-character escapes of RFC 8259: `"` `\` `/` `b` `f` `n` `r` `t` -/
def isEscLetter (x : Nat) : Prop := x = 34 ∨ x = 92 ∨ x = 47 ∨ x = 98 ∨ x = 102 ∨ x = 110 ∨ x = 114 ∨ x = 116

theorem isEscLetter.unescape {x : Nat} (h : isEscLetter x) : x ≠ 117 ∧ ∃ y, unescape x = some y := by
  rcases h with rfl | rfl | rfl | rfl | rfl | rfl | rfl | rfl <;> exact ⟨by decide, _, rfl⟩

/-- the string body of RFC 8259, section 7 -/
inductive SBody : Bytes → Prop
  | nil : SBody []
  | plain (c : Nat) (r : Bytes) : 0x20 ≤ c → c ≠ 34 → c ≠ 92 → SBody r → SBody (c :: r)
  | esc (x : Nat) (r : Bytes) : isEscLetter x → SBody r → SBody (92 :: x :: r)
  | uni (a b c d : Nat) (r : Bytes) : isHex a = true → isHex b = true → isHex c = true → isHex d = true →
      SBody r → SBody (92 :: 117 :: a :: b :: c :: d :: r)

def strRun : SS → Bytes → Option SS
  | st, [] => some st
  | st, b :: r =>
    match strStep st b with
    | .ok (some st') => strRun st' r
    | _ => none

theorem strStep_plain (c : Nat) (h1 : 0x20 ≤ c) (h2 : c ≠ 34) (h3 : c ≠ 92) : strStep .normal c = .ok (some .normal) := by
  have : ¬ c < 32 := by omega
  simp [strStep, h2, h3, this]
theorem strStep_bs : strStep .normal 92 = .ok (some .esc) := by simp [strStep]
theorem strStep_quote : strStep .normal 34 = .ok none := by simp [strStep]
theorem strStep_esc (x : Nat) (hx : isEscLetter x) : strStep .esc x = .ok (some .normal) := by
  rcases hx with rfl | rfl | rfl | rfl | rfl | rfl | rfl | rfl <;> rfl
theorem strStep_u : strStep .esc 117 = .ok (some .u0) := by simp [strStep]

def hexNext : SS → Option SS
  | .u0 => some .u1 | .u1 => some .u2 | .u2 => some .u3 | .u3 => some .normal
  | _ => none

theorem strStep_hex {st st' : SS} (hn : hexNext st = some st') (b : Nat) :
    strStep st b = if isHex b then .ok (some st') else .error () := by
  cases st <;> cases hn <;> rfl

theorem strStep_hex_some {st st' st1 : SS} (hn : hexNext st = some st') {b : Nat}
    (h : strStep st b = .ok (some st1)) : isHex b = true ∧ st1 = st' := by
  rw [strStep_hex hn] at h
  split at h
  · rename_i hb; cases h; exact ⟨hb, rfl⟩
  · cases h

theorem strStep_none {st : SS} {b : Nat} (h : strStep st b = .ok none) : st = .normal ∧ b = 34 := by
  cases st
  case normal =>
    refine ⟨rfl, ?_⟩
    simp only [strStep] at h
    split at h
    · rename_i hb; simpa using hb
    · repeat' split at h
      all_goals cases h
  all_goals
    simp only [strStep] at h
    repeat' split at h
    all_goals cases h

theorem lexString_run : ∀ (body : Bytes) (st : SS) (acc : Bytes) (fuel : Nat) (rest : Bytes),
    strRun st body = some .normal → body.length < fuel →
    lexString fuel st (body ++ 34 :: rest) acc = some (acc.reverse ++ body, rest)
  | _, _, _, 0, _, _, hf => by omega
  | [], st, acc, k+1, rest, h, _ => by
    cases Option.some.inj h
    simp [lexString, strStep_quote]
  | b :: r, st, acc, k+1, rest, h, hf => by
    simp only [strRun] at h
    split at h
    · rename_i st1 hs
      simp only [List.cons_append, lexString, hs]
      rw [lexString_run r st1 (b :: acc) k rest h (by simp at hf; omega)]
      simp
    · cases h

theorem lexString_inv : ∀ (bs : Bytes) (fuel : Nat) (st : SS) (acc raw r' : Bytes),
    lexString fuel st bs acc = some (raw, r') →
      ∃ body, bs = body ++ 34 :: r' ∧ raw = acc.reverse ++ body ∧ strRun st body = some .normal
  | _, 0, _, _, _, _, h => by simp [lexString] at h
  | [], k+1, _, _, _, _, h => by simp [lexString] at h
  | b :: r, k+1, st, acc, raw, r', h => by
    simp only [lexString] at h
    cases hs : strStep st b with
    | error e => rw [hs] at h; cases h
    | ok o =>
      rw [hs] at h
      cases o with
      | none =>
        obtain ⟨rfl, rfl⟩ := Prod.mk.inj (Option.some.inj h)
        obtain ⟨rfl, rfl⟩ := strStep_none hs
        exact ⟨[], rfl, (List.append_nil _).symm, rfl⟩
      | some st1 =>
        obtain ⟨body, rfl, rfl, hrun⟩ := lexString_inv r k st1 (b :: acc) raw r' h
        exact ⟨b :: body, rfl, by simp, by simp only [strRun, hs, hrun]⟩

theorem SBody.run {body : Bytes} (h : SBody body) : strRun .normal body = some .normal := by
  induction h with
  | nil => rfl
  | plain c r h1 h2 h3 _ ih => simp only [strRun, strStep_plain c h1 h2 h3, ih]
  | esc x r hx _ ih => simp only [strRun, strStep_bs, strStep_esc x hx, ih]
  | uni a b c d r ha hb hc hd _ ih =>
    simp only [strRun, strStep_bs, strStep_u, strStep_hex (st := .u0) rfl, strStep_hex (st := .u1) rfl,
      strStep_hex (st := .u2) rfl, strStep_hex (st := .u3) rfl, ha, hb, hc, hd, if_true, ih]

/-- `Pending st p`: `p` is the unfinished escape behind which the scanner is in state `st`; a run over `body` from `st` to `.normal`
then makes `p ++ body` a string body (`SBody.of_pending`). -/
def Pending : SS → Bytes → Prop
  | .normal, p => p = []
  | .esc, p => p = [92]
  | .u0, p => p = [92, 117]
  | .u1, p => ∃ a, isHex a = true ∧ p = [92, 117, a]
  | .u2, p => ∃ a b, isHex a = true ∧ isHex b = true ∧ p = [92, 117, a, b]
  | .u3, p => ∃ a b c, isHex a = true ∧ isHex b = true ∧ isHex c = true ∧ p = [92, 117, a, b, c]

theorem strStep_normal_some {b : Nat} {st' : SS} (h : strStep .normal b = .ok (some st')) :
    (b = 92 ∧ st' = .esc) ∨ (0x20 ≤ b ∧ b ≠ 34 ∧ b ≠ 92 ∧ st' = .normal) := by
  by_cases h34 : b = 34
  · rw [h34, strStep_quote] at h; cases h
  by_cases h92 : b = 92
  · rw [h92, strStep_bs] at h; cases h; exact .inl ⟨h92, rfl⟩
  by_cases h32 : 0x20 ≤ b
  · rw [strStep_plain b h32 h34 h92] at h; cases h; exact .inr ⟨h32, h34, h92, rfl⟩
  · simp [strStep, h34, h92, show b < 32 by omega] at h

theorem strStep_esc_some {b : Nat} {st' : SS} (h : strStep .esc b = .ok (some st')) :
    (isEscLetter b ∧ st' = .normal) ∨ (b = 117 ∧ st' = .u0) := by
  by_cases he : isEscLetter b
  · rw [strStep_esc b he] at h; cases h; exact .inl ⟨he, rfl⟩
  by_cases h117 : b = 117
  · rw [h117, strStep_u] at h; cases h; exact .inr ⟨h117, rfl⟩
  · simp only [isEscLetter, not_or] at he
    simp [strStep, he, h117] at h

theorem SBody.of_pending : ∀ (body : Bytes) (st : SS) (p : Bytes), strRun st body = some .normal → Pending st p →
    SBody (p ++ body)
  | [], st, p, h, hp => by
    cases Option.some.inj h
    cases (hp : p = [])
    exact .nil
  | b :: r, st, p, h, hp => by
    simp only [strRun] at h
    split at h
    case h_2 => cases h
    rename_i st1 hs
    have next := SBody.of_pending r st1
    cases st with
    | normal =>
      cases (hp : p = [])
      rcases strStep_normal_some hs with ⟨rfl, rfl⟩ | ⟨h32, h34, h92, rfl⟩
      · exact next [92] h rfl
      · exact .plain b r h32 h34 h92 (next [] h rfl)
    | esc =>
      cases (hp : p = [92])
      rcases strStep_esc_some hs with ⟨he, rfl⟩ | ⟨rfl, rfl⟩
      · exact .esc b r he (next [] h rfl)
      · exact next [92, 117] h rfl
    | u0 =>
      cases (hp : p = [92, 117])
      obtain ⟨hb, rfl⟩ := strStep_hex_some rfl hs
      exact next [92, 117, b] h ⟨b, hb, rfl⟩
    | u1 =>
      obtain ⟨a, ha, rfl⟩ := hp
      obtain ⟨hb, rfl⟩ := strStep_hex_some rfl hs
      exact next [92, 117, a, b] h ⟨a, b, ha, hb, rfl⟩
    | u2 =>
      obtain ⟨a, a', ha, ha', rfl⟩ := hp
      obtain ⟨hb, rfl⟩ := strStep_hex_some rfl hs
      exact next [92, 117, a, a', b] h ⟨a, a', b, ha, ha', hb, rfl⟩
    | u3 =>
      obtain ⟨a, a', a'', ha, ha', ha'', rfl⟩ := hp
      obtain ⟨hb, rfl⟩ := strStep_hex_some rfl hs
      exact .uni a a' a'' b r ha ha' ha'' hb (next [] h rfl)

theorem SBody.of_run {body : Bytes} (h : strRun .normal body = some .normal) : SBody body :=
  SBody.of_pending body .normal [] h rfl

theorem SBody.plains : ∀ (u : Bytes) {e : Bytes}, (∀ x ∈ u, 0x20 ≤ x ∧ x ≠ 34 ∧ x ≠ 92) → SBody e → SBody (u ++ e)
  | [], _, _, he => he
  | x :: u, _, h, he => by
    have hx := h x (by simp)
    exact .plain x _ hx.1 hx.2.1 hx.2.2 (SBody.plains u (fun y hy => h y (by simp [hy])) he)

theorem SBody.drop_hi : ∀ (u : Bytes) {r : Bytes}, (∀ x ∈ u, 0x80 ≤ x) → SBody (u ++ r) → SBody r
  | [], _, _, h => h
  | c :: u, r, hu, h => by
    have hc := hu c (by simp)
    rw [List.cons_append] at h
    generalize hq : u ++ r = q at h
    cases h with
    | plain _ _ _ _ _ hr => exact SBody.drop_hi u (fun x hx => hu x (by simp [hx])) (hq ▸ hr)
    | esc _ _ _ _ => omega
    | uni _ _ _ _ _ _ _ _ _ _ => omega

theorem SBody.unquote (n : Nat) : ∀ (s : Bytes), s.length < n → SBody s →
    ∃ out, parseString n s = some out ∧ (B256 s → B256 out) := by
  induction n with
  | zero => intro s h; omega
  | succ n ih =>
    intro s hl hs
    have next : ∀ (pre s' : Bytes), s'.length < s.length → SBody s' → B256 pre → (B256 s → B256 s') →
        ∃ out, (parseString n s').map (pre ++ ·) = some out ∧ (B256 s → B256 out) := by
      intro pre s' hl' hs' hpre hsub
      obtain ⟨o, ho, hB⟩ := ih s' (by omega) hs'
      exact ⟨pre ++ o, by rw [ho]; rfl, fun hb => hpre.append (hB (hsub hb))⟩
    have rune : ∀ r, B256 (encodeRune r) := fun r x hx => (encodeRune_bytes r x hx).1
    cases hs with
    | nil => exact ⟨[], ps_nil n, fun _ => B256.nil⟩
    | plain c rest h32 h34 h92 hr =>
      by_cases h80 : c < 0x80
      · rw [ps_plain n c rest h32 h92 h34 h80]
        exact next [c] rest (by simp) hr (B256.cons (by omega) B256.nil) B256.tail
      · rw [ps_hi n c rest (by omega)]
        have hpos := decodeRune_size_pos c rest
        refine next _ _ (by simp only [List.length_drop, List.length_cons]; omega) ?_ (rune _) (fun hb => hb.drop _)
        -- the bytes `decodeRune` consumes at a byte that is not ASCII are not ASCII either
        rcases decodeRune_cons c rest with h1 | hmb
        · rw [h1]; exact hr
        · refine SBody.drop_hi _ (fun x hx => (hmb.hi x hx).1) ?_
          rw [List.take_append_drop]
          exact .plain c rest h32 h34 h92 hr
    | esc e rest he hr =>
      obtain ⟨h117, y, hy⟩ := he.unescape
      have hye := unescape_le hy
      rw [ps_esc n e rest h117, hy]
      exact next [y] rest (by simp only [List.length_cons]; omega) hr
        (B256.cons (by unfold isEscLetter at he; omega) B256.nil) (fun hb => hb.tail.tail)
    | uni a b c d r ha hb hc hd hr =>
      have hh : hex4 a b c d = true := by simp only [hex4, ha, hb, hc, hd, Bool.and_self]
      have hlr : r.length < (92 :: 117 :: a :: b :: c :: d :: r).length := by simp only [List.length_cons]; omega
      have hsub : B256 (92 :: 117 :: a :: b :: c :: d :: r) → B256 r := fun hb => hb.drop 6
      cases hsur : isSurrogate (u4val a b c d) with
      | false => rw [ps_u4 n a b c d r hh rfl hsur]; exact next _ r hlr hr (rune _) hsub
      | true =>
        rcases ps_u4_sur n a b c d r hh hsur with e | ⟨a', b', c', d', r', rfl, -, e⟩
        · rw [e]; exact next _ r hlr hr (rune _) hsub
        · rw [e]
          -- the second half of the pair is an escape of the body as well
          cases hr with
          | plain _ _ _ _ h92 _ => exact absurd rfl h92
          | esc _ _ hx _ => exact absurd rfl hx.unescape.1
          | uni _ _ _ _ _ _ _ _ _ hr' =>
            exact next _ r' (by simp only [List.length_cons]; omega) hr' (rune _) (fun hb => hb.drop 12)

end Refmt.C03L
