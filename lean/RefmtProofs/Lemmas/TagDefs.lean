/-
  C12, claim (ii) with TAGGED atlas entries — the hypotheses of the tagged theorem: `C12Typed.TagsOk`, and `TagStab`: every
  registered tagged type is re-marshal stable (`StabTy`); implied by `NoOmit` + `TrRetract`, vacuous under `NoTags`,
  checked by `tagStabB`.
  See RefmtProofs/Props/C12Tagged.lean.
-/
import RefmtProofs.Lemmas.FullBasic
import RefmtProofs.Lemmas.UntypedVal

namespace Refmt.C12Typed
open Refmt Refmt.Obj

def TagsOk (a : Atlas) : Prop := ∀ e ∈ a.pool, e.registered = true → e.tag.isSome = true → taggedB a e = true

end Refmt.C12Typed

namespace Refmt.Obj
open Refmt Refmt.C13 Refmt.C11 Refmt.C12 Refmt.C12L

def NoTags (a : Atlas) : Prop := ∀ e ∈ a.pool, e.tag = none

def RetractFn (trs : Trs) (fn : Nat) : Prop := ∀ (x w : Val), trs.u fn x = some w → trs.m fn w = some x

/-- field types whose round-trip value, when empty, is the zero value.  Excluded: struct-map and transform entries (a
    struct can be empty without being zero: `{P: nil, S: []int{}}`). -/
def plainField (ts : Types) (a : Atlas) (ty : Nat) : Bool :=
  match ts.get ty with
  | .ptr _ => true
  | _ =>
    match a.get ty with
    | none => true
    | some e => (match e.k with | .union _ => true | _ => false)

def OmitOk (ts : Types) (a : Atlas) (f : SMField) : Prop := f.omitEmpty = true → plainField ts a f.ty = true

/-- "re-marshal stable" types: at or below `id` (through pointers, elements, map values, struct fields, union members,
    transform targets: the recursion of `fullTy`) a struct-map field is `omitempty` only if its type is a pointer, has no
    atlas entry (scalars, byte strings, slices, arrays, maps, untyped slots) or is a keyed union (`OmitOk`), and every
    transform is a retraction (`RetractFn`).  Untyped slots impose nothing here: what they may hold is covered by
    `TagStab`. -/
def StabTy (ts : Types) (a : Atlas) (trs : Trs) : Nat → Nat → Prop
  | 0, _ => True
  | fuel+1, id =>
    match ts.get id with
    | .ptr e => StabTy ts a trs fuel e
    | d =>
      match a.get id with
      | none =>
        (match d with
         | .slice e => StabTy ts a trs fuel e
         | .arr _ e => StabTy ts a trs fuel e
         | .map _ e => StabTy ts a trs fuel e
         | _ => True)
      | some ⟨_, _, _, k⟩ =>
        (match k with
         | .structMap fields => ∀ f ∈ fields, OmitOk ts a f ∧ StabTy ts a trs fuel f.ty
         | .transform fn mty _ => RetractFn trs fn ∧ StabTy ts a trs fuel mty
         | .union members =>
           ∀ m ∈ members, (match a.pool[m.2]? with | some me => StabTy ts a trs fuel me.ty | none => True)
         | _ => True)

def TagStab (ts : Types) (a : Atlas) (trs : Trs) : Prop :=
  ∀ e ∈ a.pool, e.registered = true → e.tag.isSome = true → StabTy ts a trs 64 e.ty

def NoOmit (a : Atlas) : Prop :=
  ∀ e ∈ a.pool, ∀ fs, e.k = .structMap fs → ∀ f ∈ fs, f.omitEmpty = false

def TrRetract (trs : Trs) : Prop := ∀ (fn : Nat) (x w : Val), trs.u fn x = some w → trs.m fn w = some x

variable {ts : Types} {a : Atlas} {trs : Trs} {it : IfaceTys}

theorem stabTy_ptr {p id e : Nat} (hd : ts.get id = .ptr e) : StabTy ts a trs (p+1) id = StabTy ts a trs p e := by
  rw [StabTy]; simp [hd]

theorem stabTy_nonptr {p id : Nat} (hnp : ∀ e, ts.get id ≠ .ptr e) : StabTy ts a trs (p+1) id =
    (match a.get id with
     | none =>
       (match ts.get id with
        | .slice e => StabTy ts a trs p e
        | .arr _ e => StabTy ts a trs p e
        | .map _ e => StabTy ts a trs p e
        | _ => True)
     | some ⟨_, _, _, k⟩ =>
       (match k with
        | .structMap fields => ∀ f ∈ fields, OmitOk ts a f ∧ StabTy ts a trs p f.ty
        | .transform fn mty _ => RetractFn trs fn ∧ StabTy ts a trs p mty
        | .union members =>
          ∀ m ∈ members, (match a.pool[m.2]? with | some me => StabTy ts a trs p me.ty | none => True)
        | _ => True)) := by
  rw [StabTy]
  cases hd : ts.get id with
  | ptr e => exact absurd hd (hnp e)
  | _ => rfl

theorem stabTy_elem {p id e : Nat} (hn : a.get id = none)
    (hd : ts.get id = .slice e ∨ (∃ n, ts.get id = .arr n e) ∨ ∃ k, ts.get id = .map k e) :
    StabTy ts a trs (p+1) id = StabTy ts a trs p e := by
  rw [StabTy]
  rcases hd with hd | ⟨n, hd⟩ | ⟨k, hd⟩ <;> simp [hd, hn]

theorem stabTy_struct {p id : Nat} {reg : Bool} {ty : Nat} {tag : Option Int} {fields : List SMField}
    (hnp : ∀ e, ts.get id ≠ .ptr e) (hg : a.get id = some ⟨reg, ty, tag, .structMap fields⟩) (h : StabTy ts a trs (p+1) id) :
    ∀ f ∈ fields, OmitOk ts a f ∧ StabTy ts a trs p f.ty := by
  rw [stabTy_nonptr hnp] at h; simpa [hg] using h

theorem stabTy_transform {p id : Nat} {reg : Bool} {ty : Nat} {tag : Option Int} {fn mty uty : Nat}
    (hnp : ∀ e, ts.get id ≠ .ptr e) (hg : a.get id = some ⟨reg, ty, tag, .transform fn mty uty⟩) (h : StabTy ts a trs (p+1) id) :
    RetractFn trs fn ∧ StabTy ts a trs p mty := by
  rw [stabTy_nonptr hnp] at h; simpa [hg] using h

theorem stabTy_union {p id : Nat} {reg : Bool} {ty : Nat} {tag : Option Int} {members : List (Bytes × Nat)}
    (hnp : ∀ e, ts.get id ≠ .ptr e) (hg : a.get id = some ⟨reg, ty, tag, .union members⟩) (h : StabTy ts a trs (p+1) id) :
    ∀ mem ∈ members, ∀ me, a.pool[mem.2]? = some me → StabTy ts a trs p me.ty := by
  rw [stabTy_nonptr hnp] at h
  simp only [hg] at h
  intro mem hmem me hme
  have := h mem hmem
  simpa [hme] using this

theorem stabTy_wild {p id : Nat} {m : Bool} (hd : ts.get id = .iface m) (hn : a.get id = none) : StabTy ts a trs p id := by
  cases p with
  | zero => simp [StabTy]
  | succ p => rw [StabTy]; simp [hd, hn]

theorem stabTy_iface (he : UEnv ts a it) (p : Nat) : StabTy ts a trs p it.iface := stabTy_wild he.iface he.noIface

theorem stabTy_of_edges {H : Nat → Nat → Prop}
    (ptr : ∀ {p id e}, ts.get id = .ptr e → H (p+1) id → H p e)
    (elem : ∀ {p id e}, a.get id = none → (ts.get id = .slice e ∨ (∃ n, ts.get id = .arr n e) ∨ ∃ k, ts.get id = .map k e) →
      H (p+1) id → H p e)
    (field : ∀ {p id reg ty tag fields}, (∀ e, ts.get id ≠ .ptr e) → a.get id = some ⟨reg, ty, tag, .structMap fields⟩ →
      H (p+1) id → ∀ f ∈ fields, OmitOk ts a f ∧ H p f.ty)
    (transform : ∀ {p id reg ty tag fn mty uty}, (∀ e, ts.get id ≠ .ptr e) →
      a.get id = some ⟨reg, ty, tag, .transform fn mty uty⟩ → H (p+1) id → RetractFn trs fn ∧ H p mty)
    (member : ∀ {p id reg ty tag members}, (∀ e, ts.get id ≠ .ptr e) → a.get id = some ⟨reg, ty, tag, .union members⟩ →
      H (p+1) id → ∀ m ∈ members, ∀ me, a.pool[m.2]? = some me → H p me.ty) :
    ∀ p id, H p id → StabTy ts a trs p id := by
  intro p
  induction p with
  | zero => intro id _; simp [StabTy]
  | succ p ih =>
    intro id h
    by_cases hptr : ∃ e, ts.get id = .ptr e
    · obtain ⟨e, hd⟩ := hptr
      rw [stabTy_ptr hd]
      exact ih e (ptr hd h)
    · have hnp : ∀ e, ts.get id ≠ .ptr e := fun e he => hptr ⟨e, he⟩
      rw [stabTy_nonptr hnp]
      cases hg : a.get id with
      | none =>
        cases hd : ts.get id with
        | slice e => exact ih _ (elem hg (.inl hd) h)
        | arr n e => exact ih _ (elem hg (.inr (.inl ⟨n, hd⟩)) h)
        | map k e => exact ih _ (elem hg (.inr (.inr ⟨k, hd⟩)) h)
        | _ => trivial
      | some en =>
        obtain ⟨reg, ty, tag, k⟩ := en
        cases k with
        | structMap fields => exact fun f hf => ⟨(field hnp hg h f hf).1, ih _ (field hnp hg h f hf).2⟩
        | transform fn mty uty => exact ⟨(transform hnp hg h).1, ih _ (transform hnp hg h).2⟩
        | union members =>
          intro m hm
          cases hme : a.pool[m.2]? with
          | none => trivial
          | some me => exact ih _ (member hnp hg h m hm me hme)
        | mapMorph mode => trivial
        | invalid => trivial

theorem stabTy_pred : ∀ (p id : Nat), StabTy ts a trs (p+1) id → StabTy ts a trs p id :=
  stabTy_of_edges (H := fun p id => StabTy ts a trs (p+1) id) (fun hd h => stabTy_ptr hd ▸ h) (fun hn hd h => stabTy_elem hn hd ▸ h) stabTy_struct
    stabTy_transform stabTy_union

theorem stabTy_anti (q p id : Nat) (hp : p ≤ q) (h : StabTy ts a trs q id) : StabTy ts a trs p id := by
  induction hp with
  | refl => exact h
  | step _ ih => exact ih (stabTy_pred _ id h)

theorem stabTy_chain : ∀ (n q id base : Nat), chain ts n id base → StabTy ts a trs (q + n) id → StabTy ts a trs q base
  | 0, _, _, _, h, hs => h ▸ hs
  | n+1, q, id, base, ⟨e, hd, hc⟩, hs => stabTy_chain n q e base hc (by rwa [← Nat.add_assoc, stabTy_ptr hd] at hs)

theorem stab_peel (p k c id : Nat) (h : fullTy ts a p id = true) (hs : StabTy ts a trs p id) (hk : p ≤ k) :
    ∃ n base p', peel ts k c id = (c + n, base) ∧ fullTy ts a (p' + 1) base = true ∧ StabTy ts a trs (p' + 1) base ∧
      (∀ e, ts.get base ≠ .ptr e) ∧ chain ts n id base ∧ p' + 1 ≤ p := by
  obtain ⟨n, base, p', h1, h2, h3, h4, h5⟩ := full_peel ts a p k c id h hk
  exact ⟨n, base, p', h1, h2, stabTy_chain n (p' + 1) id base h4 (stabTy_anti p _ id h5 hs), h3, h4, by omega⟩

theorem stabTy_of_global (hno : NoOmit a) (hret : TrRetract trs) (p id : Nat) : StabTy ts a trs p id :=
  stabTy_of_edges (H := fun _ _ => True) (fun _ _ => trivial) (fun _ _ _ => trivial)
    (fun _ hg _ f hf => ⟨fun h => (by rw [hno _ (List.mem_of_find?_eq_some hg) _ rfl f hf] at h; cases h), trivial⟩)
    (fun _ _ _ => ⟨hret _, trivial⟩) (fun _ _ _ _ _ _ _ => trivial) p id trivial

theorem tagStab_of_global (hno : NoOmit a) (hret : TrRetract trs) : TagStab ts a trs :=
  fun e _ _ _ => stabTy_of_global hno hret 64 e.ty

theorem TagStab.get (h : TagStab ts a trs) {id : Nat} {e : Entry} {tg : Int} (hg : a.get id = some e)
    (ht : e.tag = some tg) : StabTy ts a trs 64 id := by
  obtain ⟨hmem, hreg, hty⟩ := atlas_get_some hg
  exact hty ▸ h e hmem hreg (by simp [ht])

theorem _root_.Refmt.C12Typed.TagsOk.get {a : Atlas} (h : C12Typed.TagsOk a) {id : Nat} {e : Entry} {tg : Int}
    (hg : a.get id = some e) (ht : e.tag = some tg) : a.getByTag tg = some e := by
  obtain ⟨hmem, hreg, -⟩ := atlas_get_some hg
  obtain ⟨tg', ht', hb⟩ := taggedB_iff.mp (h e hmem hreg (by simp [ht]))
  rw [ht] at ht'
  cases ht'
  exact hb

theorem NoTags.tagsOk {a : Atlas} (h : NoTags a) : C12Typed.TagsOk a := by
  intro e he _ ht
  rw [h e he] at ht
  cases ht

theorem NoTags.tagStab {a : Atlas} (h : NoTags a) (ts : Types) (trs : Trs) : TagStab ts a trs := by
  intro e he _ ht
  rw [h e he] at ht
  cases ht

def omitOkB (ts : Types) (a : Atlas) (f : SMField) : Bool := !f.omitEmpty || plainField ts a f.ty

/-- `rfn fn = true`: the transform pair `fn` is known to be a retraction -/
def stabTyB (ts : Types) (a : Atlas) (rfn : Nat → Bool) : Nat → Nat → Bool
  | 0, _ => true
  | fuel+1, id =>
    match ts.get id with
    | .ptr e => stabTyB ts a rfn fuel e
    | d =>
      match a.get id with
      | none =>
        (match d with
         | .slice e => stabTyB ts a rfn fuel e
         | .arr _ e => stabTyB ts a rfn fuel e
         | .map _ e => stabTyB ts a rfn fuel e
         | _ => true)
      | some ⟨_, _, _, k⟩ =>
        (match k with
         | .structMap fields => fields.all fun f => omitOkB ts a f && stabTyB ts a rfn fuel f.ty
         | .transform fn mty _ => rfn fn && stabTyB ts a rfn fuel mty
         | .union members =>
           members.all fun m => (match a.pool[m.2]? with | some me => stabTyB ts a rfn fuel me.ty | none => true)
         | _ => true)

def tagStabB (ts : Types) (a : Atlas) (rfn : Nat → Bool) : Bool :=
  a.pool.all fun e => !(e.registered && e.tag.isSome) || stabTyB ts a rfn 64 e.ty

theorem stabTyB_nonptr {rfn : Nat → Bool} {p id : Nat} (hnp : ∀ e, ts.get id ≠ .ptr e) : stabTyB ts a rfn (p+1) id =
    (match a.get id with
     | none =>
       (match ts.get id with
        | .slice e => stabTyB ts a rfn p e
        | .arr _ e => stabTyB ts a rfn p e
        | .map _ e => stabTyB ts a rfn p e
        | _ => true)
     | some ⟨_, _, _, k⟩ =>
       (match k with
        | .structMap fields => fields.all fun f => omitOkB ts a f && stabTyB ts a rfn p f.ty
        | .transform fn mty _ => rfn fn && stabTyB ts a rfn p mty
        | .union members =>
          members.all fun m => (match a.pool[m.2]? with | some me => stabTyB ts a rfn p me.ty | none => true)
        | _ => true)) := by
  rw [stabTyB]
  cases hd : ts.get id with
  | ptr e => exact absurd hd (hnp e)
  | _ => rfl

theorem stabTy_of_check {rfn : Nat → Bool} (hr : ∀ fn, rfn fn = true → RetractFn trs fn) :
    ∀ (p id : Nat), stabTyB ts a rfn p id = true → StabTy ts a trs p id := by
  refine stabTy_of_edges (H := fun p id => stabTyB ts a rfn p id = true) ?_ ?_ ?_ ?_ ?_
  · intro p id e hd h
    rw [stabTyB] at h
    simpa [hd] using h
  · intro p id e hn hd h
    rw [stabTyB] at h
    rcases hd with hd | ⟨n, hd⟩ | ⟨k, hd⟩ <;> simpa [hd, hn] using h
  · intro p id reg ty tag fields hnp hg h f hf
    rw [stabTyB_nonptr hnp, hg] at h
    simp only [List.all_eq_true, Bool.and_eq_true] at h
    exact ⟨fun ho => by simpa [omitOkB, ho] using (h f hf).1, (h f hf).2⟩
  · intro p id reg ty tag fn mty uty hnp hg h
    rw [stabTyB_nonptr hnp, hg] at h
    simp only [Bool.and_eq_true] at h
    exact ⟨hr fn h.1, h.2⟩
  · intro p id reg ty tag members hnp hg h m hm me hme
    rw [stabTyB_nonptr hnp, hg] at h
    simp only [List.all_eq_true] at h
    simpa [hme] using h m hm

theorem tagStab_of_check {rfn : Nat → Bool} (hr : ∀ fn, rfn fn = true → RetractFn trs fn)
    (h : tagStabB ts a rfn = true) : TagStab ts a trs := by
  intro e he hreg htag
  have := List.all_eq_true.mp h e he
  simp only [hreg, htag, Bool.and_self, Bool.not_true, Bool.false_or] at this
  exact stabTy_of_check hr 64 e.ty this

end Refmt.Obj
