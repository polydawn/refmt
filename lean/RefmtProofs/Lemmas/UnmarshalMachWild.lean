/-
  Stateful object unmarshaller: the wildcard machine (untyped slots): scalars, nested `[]interface{}` /
  `map[string]interface{}` and the machines of tagged atlas entries in `slab.tip()`.
-/
import RefmtProofs.Lemmas.UnmarshalMachSeq
import RefmtProofs.Lemmas.UnmarshalMachMap
namespace Refmt.UMachU
open Refmt Refmt.Obj Refmt.Obj.UM

variable {ts : Types} {a : Atlas} {trs : Trs} {it : IfaceTys} {ub : Nat}

def rowWd (row : URow) (wm : WildM) : URow := { row with wild := wm }

@[simp] theorem rowWd_ptr (row wm) : (rowWd row wm).ptr = row.ptr := rfl
@[simp] theorem rowWd_wild (row wm) : (rowWd row wm).wild = wm := rfl
theorem rowWd_same (row wm) : SameCfg row (rowWd row wm) := ⟨rfl, rfl, rfl, rfl, rfl, rfl, rfl, rfl, rfl, rfl, rfl, rfl⟩

def wdReset (wm : WildM) (v : Val) (rt : Nat) : WildM :=
  { wm with target_rv := v, target_rt := rt, delegate := none, holder := none }
def wdMap (it : IfaceTys) (wm : WildM) (d : URef) : WildM :=
  { wm with target_rv := .iface (some (it.mapSI, .map (some []))), dyn := it.mapSI, delegate := some d }
def wdSlice (it : IfaceTys) (wm : WildM) (d : URef) : WildM :=
  { wm with holder := some it.sliceI, delegate := some d }

theorem wild_reset {f : Nat} {lo hi : List URow} {row : URow} {rt : Nat} {v : Val} :
    resetM ts a (f+1) ⟨lo.length, .wild⟩ rt v (lo ++ row :: hi)
      = .ok (lo ++ rowWd row (wdReset row.wild v rt) :: hi) := by
  simp only [resetM, resetBody, RowL.getRow, resetWild, updRow_at]
  rfl

theorem wild_step_tag {f : Nat} {lo hi : List URow} {row : URow} {stk st be} {t : Tok} {g : Int}
    (hdl : row.wild.delegate = none) (ht : t.tag = some g) (hg : a.getByTag g = none) :
    stepM ts a trs it (f+1) ⟨lo.length, .wild⟩ ⟨lo ++ row :: hi, stk, st, be⟩ t = .error (.f .err) := by
  simp only [stepM, stepBody, RowL.getRow, stepWild, hdl, ht, hg]
  rfl

theorem wild_step_meth {f : Nat} {lo hi : List URow} {row : URow} {stk st be} {t : Tok}
    (hdl : row.wild.delegate = none) (ht : t.tag = none) (hm : hasMethods ts row.wild.target_rt = true)
    (h1 : t.body ≠ .null) (h2 : t.body ≠ .mapClose) (h3 : t.body ≠ .arrClose) :
    stepM ts a trs it (f+1) ⟨lo.length, .wild⟩ ⟨lo ++ row :: hi, stk, st, be⟩ t = .error (.f .err) := by
  simp only [stepM, stepBody, RowL.getRow, stepWild, hdl, ht, hm, Bool.true_and, if_true]
  rfl

theorem wild_step_close {f : Nat} {lo hi : List URow} {row : URow} {stk st be} {t : Tok}
    (hdl : row.wild.delegate = none) (ht : t.tag = none) (hb : t.body = .mapClose ∨ t.body = .arrClose) :
    stepM ts a trs it (f+1) ⟨lo.length, .wild⟩ ⟨lo ++ row :: hi, stk, st, be⟩ t = .error (.f .err) := by
  rcases hb with hb | hb <;>
    simp only [stepM, stepBody, RowL.getRow, stepWild, hdl, ht, hb, Bool.and_false, Bool.false_eq_true, if_false] <;> rfl

theorem wild_step_null {f : Nat} {lo hi : List URow} {row : URow} {stk st be} {t : Tok}
    (hdl : row.wild.delegate = none) (ht : t.tag = none) (hb : t.body = .null) :
    stepM ts a trs it (f+1) ⟨lo.length, .wild⟩ ⟨lo ++ row :: hi, stk, st, be⟩ t
      = .ok ⟨some (.iface none), ⟨lo ++ row :: hi, stk, st, be⟩⟩ := by
  simp only [stepM, stepBody, RowL.getRow, stepWild, hdl, ht, hb, Bool.and_false, Bool.false_eq_true, if_false, fin]

theorem wild_step_scalar {f : Nat} {lo hi : List URow} {row : URow} {stk st be} {t : Tok}
    (hdl : row.wild.delegate = none) (ht : t.tag = none) (hm : hasMethods ts row.wild.target_rt = false)
    (h1 : t.body ≠ .null) (h2 : t.body ≠ .mapClose) (h3 : t.body ≠ .arrClose) (h4 : ∀ len, t.body ≠ .mapOpen len)
    (h5 : ∀ len, t.body ≠ .arrOpen len) :
    stepM ts a trs it (f+1) ⟨lo.length, .wild⟩ ⟨lo ++ row :: hi, stk, st, be⟩ t
      = match anyVal it t with
        | some v => .ok ⟨some v, ⟨lo ++ row :: hi, stk, st, be⟩⟩
        | none => .error (.f .panic) := by
  simp only [stepM, stepBody, RowL.getRow, stepWild, hdl, ht, hm, Bool.false_and, Bool.false_eq_true, if_false]
  cases anyVal it t <;> rfl

theorem wild_step_mapOpen {f : Nat} {lo hi : List URow} {row : URow} {stk st be} {t : Tok} {len : Int}
    (hdl : row.wild.delegate = none) (ht : t.tag = none) (hm : hasMethods ts row.wild.target_rt = false)
    (hb : t.body = .mapOpen len) :
    stepM ts a trs it (f+1) ⟨lo.length, .wild⟩ ⟨lo ++ row :: hi, stk, st, be⟩ t
      = match resetM ts a f ⟨tipIx (lo ++ row :: hi), .map⟩ it.mapSI (.map (some []))
          (lo ++ rowWd row (wdMap it row.wild ⟨tipIx (lo ++ row :: hi), .map⟩) :: hi) with
        | .error x => .error x
        | .ok R2 => mapDone (tagW it.mapSI)
            (stepM ts a trs it f ⟨tipIx (lo ++ row :: hi), .map⟩ ⟨R2, stk, st, be⟩ t) := by
  simp only [stepM, stepBody, RowL.getRow, stepWild, hdl, ht, hm, hb, Bool.false_and, Bool.false_eq_true, if_false,
    updRow_at, wildFwd]
  rfl

theorem wild_step_arrOpen {f : Nat} {lo hi : List URow} {row : URow} {stk st be} {t : Tok} {len : Int}
    (hdl : row.wild.delegate = none) (ht : t.tag = none) (hm : hasMethods ts row.wild.target_rt = false)
    (hb : t.body = .arrOpen len) :
    stepM ts a trs it (f+1) ⟨lo.length, .wild⟩ ⟨lo ++ row :: hi, stk, st, be⟩ t
      = match resetM ts a f ⟨tipIx (lo ++ row :: hi), .slice⟩ it.sliceI (.slice (some []))
          (lo ++ rowWd row (wdSlice it row.wild ⟨tipIx (lo ++ row :: hi), .slice⟩) :: hi) with
        | .error x => .error x
        | .ok R2 => mapDone (tagW it.sliceI)
            (stepM ts a trs it f ⟨tipIx (lo ++ row :: hi), .slice⟩ ⟨R2, stk, st, be⟩ t) := by
  simp only [stepM, stepBody, RowL.getRow, stepWild, hdl, ht, hm, hb, Bool.false_and, Bool.false_eq_true, if_false,
    updRow_at, wildFwd]
  rfl

def wdTag (wm : WildM) (ty : Nat) (d : URef) : WildM := { wm with holder := some ty, delegate := some d }

theorem wild_step_tag_meth {f : Nat} {lo hi : List URow} {row : URow} {stk st be} {t : Tok} {g : Int} {e : Entry}
    (hdl : row.wild.delegate = none) (ht : t.tag = some g) (hg : a.getByTag g = some e)
    (hm : hasMethods ts row.wild.target_rt = true) :
    stepM ts a trs it (f+1) ⟨lo.length, .wild⟩ ⟨lo ++ row :: hi, stk, st, be⟩ t = .error (.f .err) := by
  simp only [stepM, stepBody, RowL.getRow, stepWild, hdl, ht, hg, hm, if_true]
  rfl

theorem wild_step_tag_found {f : Nat} {lo hi : List URow} {row : URow} {stk st be} {t : Tok} {g : Int} {e : Entry}
    {trow trow' : URow} {k : MK}
    (hdl : row.wild.delegate = none) (ht : t.tag = some g) (hg : a.getByTag g = some e)
    (hm : hasMethods ts row.wild.target_rt = false)
    (htip : (lo ++ row :: hi)[tipIx (lo ++ row :: hi)]? = some trow)
    (hy : yieldBare ts a f trow e.ty = .ok (trow', k)) :
    stepM ts a trs it (f+1) ⟨lo.length, .wild⟩ ⟨lo ++ row :: hi, stk, st, be⟩ t
      = match resetM ts a f ⟨tipIx (lo ++ row :: hi), k⟩ e.ty (zeroVal ts 64 e.ty)
          (updRow ((lo ++ row :: hi).set (tipIx (lo ++ row :: hi)) trow') lo.length
            fun r => rowWd r (wdTag r.wild e.ty ⟨tipIx (lo ++ row :: hi), k⟩)) with
        | .error x => .error x
        | .ok R2 => mapDone (tagW e.ty)
            (stepM ts a trs it f ⟨tipIx (lo ++ row :: hi), k⟩ ⟨R2, stk, st, be⟩ t) := by
  simp only [stepM, stepBody, RowL.getRow, stepWild, hdl, ht, hg, hm, Bool.false_eq_true, if_false, htip, hy, wildFwd]
  rfl

theorem wildRej_true {b : Body} (h1 : b ≠ .null) (h2 : b ≠ .mapClose) (h3 : b ≠ .arrClose) : wildRej true b = true := by
  cases b <;> simp_all [wildRej]

theorem unmWild_scalar {n : Nat} {t : Tok} {rest : List Tok} (ht : t.tag = none)
    (h1 : t.body ≠ .null) (h2 : t.body ≠ .mapClose) (h3 : t.body ≠ .arrClose) (h4 : ∀ len, t.body ≠ .mapOpen len)
    (h5 : ∀ len, t.body ≠ .arrOpen len) :
    ∃ v, anyVal it t = some v ∧ unmWild ts a trs it (n+1) false t rest = .ok v rest 1 := by
  rw [unmWild_eq]
  obtain ⟨b, tag⟩ := t
  obtain rfl : tag = none := ht
  simp only [wildRej_false, Bool.false_eq_true, if_false, anyVal]
  cases b with
  | null => exact absurd rfl h1
  | mapClose => exact absurd rfl h2
  | arrClose => exact absurd rfl h3
  | mapOpen l => exact absurd rfl (h4 l)
  | arrOpen l => exact absurd rfl (h5 l)
  | uint n => dsimp only; split <;> exact ⟨_, rfl, rfl⟩
  | _ => exact ⟨_, rfl, rfl⟩

theorem Agree.lower {Q Q' : URow → Prop} {un c sf be stk lo row2 mid F w x r}
    (h : Agree ts a trs it ub Q un c sf be stk (lo ++ row2 :: mid) F w x r) (hq : Q' row2) :
    Agree ts a trs it ub Q' un c sf be stk lo F w x r := by
  cases r with
  | ok v rest u =>
    obtain ⟨h3, h'⟩ := h
    refine ⟨h3, ?_⟩
    cases hF : F v with
    | none => rw [hF] at h'; exact h'
    | some v' =>
      rw [hF] at h'
      obtain ⟨row', hi', fa, h1, h2, h4⟩ := h'
      refine ⟨row2, mid ++ row' :: hi', fa, hq, h2, ?_⟩
      rw [h4]; simp
  | more u => exact h
  | err u => exact h
  | panic u => trivial

theorem tip_get (lo : List URow) (row : URow) (tl : List URow) :
    ∃ trow, (lo ++ row :: tl)[tipIx (lo ++ row :: tl)]? = some trow :=
  ⟨_, List.getElem?_eq_getElem (show tipIx (lo ++ row :: tl) < (lo ++ row :: tl).length by simp [tipIx])⟩

theorem tip_set_upd {lo tl : List URow} {row1 trow : URow}
    (htip : (lo ++ row1 :: tl)[tipIx (lo ++ row1 :: tl)]? = some trow) (T' : URow) (upd : URow → URow) :
    (tl = [] ∧ row1 = trow ∧ tipIx (lo ++ row1 :: tl) = lo.length ∧
      updRow ((lo ++ row1 :: tl).set (tipIx (lo ++ row1 :: tl)) T') lo.length upd = lo ++ upd T' :: []) ∨
    (∃ mid grow, tl = mid ++ [grow] ∧ tipIx (lo ++ row1 :: tl) = lo.length + 1 + mid.length ∧
      updRow ((lo ++ row1 :: tl).set (tipIx (lo ++ row1 :: tl)) T') lo.length upd
        = (lo ++ upd row1 :: mid) ++ T' :: []) := by
  rcases RowL.tip_split tl with rfl | ⟨mid, grow, rfl⟩
  · rw [tipIx_last, RowL.getRow] at htip
    cases htip
    refine .inl ⟨rfl, rfl, tipIx_last lo row1, ?_⟩
    rw [tipIx_last, show (lo ++ row1 :: []).set lo.length T' = lo ++ T' :: [] by simp, updRow_at]
  · refine .inr ⟨mid, grow, rfl, tipIx_snoc lo row1 mid grow, ?_⟩
    rw [tipIx_snoc, show lo ++ row1 :: (mid ++ [grow]) = (lo ++ row1 :: mid) ++ [grow] by simp,
      (RowL.len_at lo row1 mid).symm, List.set_append_right _ _ (Nat.le_refl _)]
    simp [updRow_at]

/-- the wildcard machine (row `lo.length`) hands `slab.tip()` to a delegate of kind `k`: the tip row `trow` (the machine's
    own when nothing lies above it) becomes `T'`, then the machine records the delegate in its own row (`W`).  The
    wrappers extend to the delegate in the last row, and a result below that chain is one for the wildcard machine -/
theorem wild_geom {sf base : Nat} {be stk} {c : URef} {lo tl : List URow} {row1 trow T' : URow} {w : Val → Val} {d : Nat}
    (hw : WrP c lo row1 .wild w d) (htip : (lo ++ row1 :: tl)[tipIx (lo ++ row1 :: tl)]? = some trow)
    (hTp : T'.ptr = trow.ptr) (hTw : T'.wild = trow.wild) (W : WildM → WildM) (k : MK) (hdl : (W row1.wild).delegate = some ⟨tipIx (lo ++ row1 :: tl), k⟩) :
    ∃ L T, updRow ((lo ++ row1 :: tl).set (tipIx (lo ++ row1 :: tl)) T') lo.length (fun r => rowWd r (W r.wild))
        = L ++ T :: [] ∧
      tipIx (lo ++ row1 :: tl) = L.length ∧ SameCfgC T' T ∧
      Wr trs.u c L T k some (w ∘ ifaceW (rowWd row1 (W row1.wild))) (d + 1) none ∧
      (∀ {un F w'} x r, Agree ts a trs it ub (SameCfg T) un c sf be stk L F w' x r →
        Agree ts a trs it ub (StillBare ts a row1 base .wild .wildcard) un c sf be stk lo F w' x r) := by
  rcases tip_set_upd htip T' (fun r => rowWd r (W r.wild)) with ⟨rfl, rfl, hN, hR⟩ | ⟨mid, grow, rfl, hN, hR⟩
  · rw [hN] at hdl
    refine ⟨lo, rowWd T' (W T'.wild), hR, hN, (rowWd_same _ _).toC, ?_,
      fun x r h => h.rekeep fun r' hk' => ?_⟩
    · have h1 := (hw.congr (row' := rowWd T' (W T'.wild)) hTp).above (U := trs.u) (fun _ _ h => h)
        (Wr.wild (RowL.getRow lo _ []) (by rw [rowWd_wild, hTw]; exact hdl) (Wr.refl lo _ k))
      rw [show ifaceW (rowWd T' (W T'.wild)) = ifaceW (rowWd row1 (W row1.wild)) by rw [hTw]; rfl,
        show 0 + 1 + d = d + 1 by rw [Nat.zero_add, Nat.add_comm]] at h1
      exact h1
    · exact ⟨rfl, hk'.mach.trans (by rw [rowWd_ptr, hTp]), hk'.peelCount.trans (by rw [rowWd_ptr, hTp])⟩
  · rw [hN] at hdl
    generalize hGw : rowWd row1 (W row1.wild) = Gw at hdl hR ⊢
    have hGwp : Gw.ptr = row1.ptr := by subst hGw; rfl
    have hLlen : (lo ++ Gw :: mid).length = lo.length + 1 + mid.length := RowL.len_at lo Gw mid
    have hw2 : Wr trs.u c (lo ++ Gw :: mid) T' k some (w ∘ ifaceW Gw) (d + 1) none := by
      have hb : Wr trs.u ⟨lo.length, .wild⟩ (lo ++ Gw :: mid) T' k some (ifaceW Gw ∘ _root_.id) (0 + 1) none :=
        Wr.wild (r0 := Gw) (by simp) (by subst hGw; exact hdl) (hLlen ▸ Wr.refl (lo ++ Gw :: mid) T' k)
      have h1 := (hw.congr (row' := Gw) hGwp).above (fun i r0 h => by
        rw [show (lo ++ Gw :: mid) ++ [T'] = (lo ++ [Gw]) ++ (mid ++ [T']) by simp]; exact getLo' h _) hb
      rw [Nat.add_comm (0 + 1) d] at h1
      exact h1
    subst hGw
    exact ⟨_, T', hR, hN.trans hLlen.symm, (SameCfg.refl T').toC, hw2, fun x r h => h.lower ⟨rfl, rfl, rfl⟩⟩

variable (ts a trs it) in
/-- machine `M` of type `ty` in a borrowed tip row `T`, Reset and run there below a chain of at most `1 + ub` wrappers
     ~  `unmBare n ty M` -/
def SimMember (ub n ty : Nat) (M : UMach) : Prop :=
  ∀ (L : List URow) (T : URow) (stk : List URef) (be : Option XFail) (c : URef) (un : Option Nat) (w0 : Val → Val)
    (du : Nat) (k : MK), CfgBare ts a T ty k M → Wr trs.u c L T k some w0 du un → du ≤ 1 + ub →
    ∀ (cur : Val) (toks : List Tok) (fr sf1 sf : Nat), 7 ≤ fr → 8 + 2 * ub ≤ sf1 → 14 + 3 * ub ≤ sf →
    Agree ts a trs it ub (SameCfg T) un c sf be stk L some w0
      (rtpB ts a trs it fr sf1 sf (L ++ T :: []) stk be c ⟨L.length, k⟩ ty cur toks)
      (unmBare ts a trs it n ty M cur toks)

variable (ts a trs it) in
def TagSim (ub : Nat) (n : Nat) : Prop :=
  ∀ (g : Int) (e : Entry), a.getByTag g = some e → SimMember ts a trs it ub n e.ty (upickBare ts a e.ty)

variable (ts a trs it) in
structure WildDeps (ub : Nat) (S : List Nat) (n : Nat) : Prop where
  elems : ∀ m, m < n → SimE ts a trs it ub S m
  map : ∀ m, m < n → SimM ts a trs it ub S m
  tags : ∀ m, m < n → TagSim ts a trs it ub m

structure WildHyp (ts : Types) (a : Atlas) (it : IfaceTys) (ub : Nat) (S : List Nat) : Prop where
  mapSI : ts.get it.mapSI = .map it.str it.iface
  sliceI : ts.get it.sliceI = .slice it.iface
  ifc : it.iface ∈ S
  ifcPeel : peel ts 64 0 it.iface = (0, it.iface)
  ifcMach : upickBare ts a it.iface = .wildcard
  ifcMeth : hasMethods ts it.iface = false
  tags : ∀ g e, a.getByTag g = some e → okMember ts a S (some it.iface) (upickBare ts a e.ty)
  tagU : ∀ g e, a.getByTag g = some e → 1 ≤ ub

theorem WildHyp.cfg {S : List Nat} (h : WildHyp ts a it ub S) {crow : URow} {cck : MK}
    (hc : CfgV ts a crow it.iface cck) : cck = .wild := by
  obtain ⟨k, hb, hp⟩ := hc
  rw [h.ifcPeel] at hb hp
  simp only [h.ifcMach, CfgBare] at hb
  simp only [if_true] at hp
  rw [hp, hb]

/-- the fuel `sf1` of the wildcard machine's first step below `d ≤ 1` wrappers: enough for a done report, for a
    delegate one wrapper further down, and (`g'`) for configuring and resetting the machine of a tagged entry -/
theorem fuelW_split {ub d sf1 : Nat} (hd : d ≤ 1) (hsf1 : 8 + 2 * ub ≤ sf1) :
    ∃ g, sf1 = g + 1 + d + 1 ∧ 3 + ub ≤ g + 1 + d ∧ d + 1 ≤ 2 + ub ∧ 5 ≤ g ∧ ∃ g', g = g' + 4 ∧ 2 + 2 * ub ≤ g' + d :=
  ⟨sf1 - d - 2, by omega, by omega, by omega, by omega, sf1 - d - 6, by omega, by omega⟩

theorem wild_delegate {n ty : Nat} {M : UMach} (hb : borrows M = false) {c : URef} {lo tl : List URow} {row1 trow T' : URow}
    {w : Val → Val} {d : Nat} (hw1 : WrP c lo row1 .wild w d)
    (htip : (lo ++ row1 :: tl)[tipIx (lo ++ row1 :: tl)]? = some trow) (hTp : T'.ptr = trow.ptr) (hTw : T'.wild = trow.wild)
    {k : MK} (hcfg : CfgBare ts a T' ty k M) (W : WildM → WildM)
    (hdl : (W row1.wild).delegate = some ⟨tipIx (lo ++ row1 :: tl), k⟩)
    (hifw : ifaceW (rowWd row1 (W row1.wild)) = tagW ty) {cur0 : Val} {stk : List URef} {be : Option XFail} {t : Tok}
    {rest : List Tok} {g sf : Nat}
    (hstep : ∀ st, stepM ts a trs it (g + 1) ⟨lo.length, .wild⟩ ⟨lo ++ row1 :: tl, stk, st, be⟩ t
      = match resetM ts a g ⟨tipIx (lo ++ row1 :: tl), k⟩ ty cur0
          (updRow ((lo ++ row1 :: tl).set (tipIx (lo ++ row1 :: tl)) T') lo.length fun r => rowWd r (W r.wild)) with
        | .error x => .error x
        | .ok R2 => mapDone (tagW ty) (stepM ts a trs it g ⟨tipIx (lo ++ row1 :: tl), k⟩ ⟨R2, stk, st, be⟩ t))
    (hsim : ∀ (L : List URow) (T : URow), CfgBare ts a T ty k M → Wr trs.u c L T k some (w ∘ tagW ty) (d + 1) none →
      Agree ts a trs it ub (SameCfg T) none c sf be stk L some (w ∘ tagW ty)
        (rtpB ts a trs it g (g + 1 + d + 1) sf (L ++ T :: []) stk be c ⟨L.length, k⟩ ty cur0 (t :: rest))
        (unmBare ts a trs it n ty M cur0 (t :: rest))) {base : Nat} :
    Agree ts a trs it ub (StillBare ts a row1 base .wild .wildcard) none c sf be stk lo some w
      (pump1 ts a trs it (g + 1 + d + 1) sf ⟨lo ++ row1 :: tl, stk, some c, be⟩ (t :: rest))
      ((unmBare ts a trs it n ty M cur0 (t :: rest)).bind' (fun v r u => .ok (tagW ty v) r u) 0) := by
  obtain ⟨L, T, hR, hN, hC, hw2, hlow⟩ := wild_geom (ts := ts) (a := a) (trs := trs) (it := it) (ub := ub) (sf := sf)
    (be := be) (stk := stk) (base := base) hw1 htip hTp hTw W k hdl
  have hTc := hcfg.sameC hC
  rw [hR, hN] at hstep
  rw [hifw] at hw2
  rw [Wr.first (hw1.toWr (U := trs.u)) hstep (fun R2 hr =>
    have ⟨G2, hi2, e2, _, hc⟩ := cfg_frame hTc (lo := L) g ty cur0 T [] R2 rfl hr
    ⟨G2, hi2, e2, hc hb hw2⟩) rfl]
  exact hlow _ _ (hsim L T hTc hw2).map

theorem simBare_wild {S : List Nat} {wi : Option Nat} {n : Nat} (hS : Closed ts a S wi) (hWd : WildHyp ts a it ub S)
    (hD : WildDeps ts a trs it ub S n) {base : Nat} (row : URow) :
    SimBare ts a trs it ub (n+1) base .wild .wildcard row := by
  refine SimBare.of_cons fun cur lo hi stk be c w d t rest f sf1 sf hw hfr hsf1 hsf => ?_
  have hd := hw.le
  obtain ⟨g, rfl, hgf, hd1, hg5, hgt⟩ := fuelW_split hd hsf1
  rw [unmBare_wild]
  simp only [rtpB, wild_reset]
  cases n with
  | zero => rw [unmWild_zero]; trivial
  | succ n =>
  have hw1 : WrP c lo (rowWd row (wdReset row.wild cur base)) .wild w d := hw.congr rfl
  have hw1' : Wr trs.u c lo (rowWd row (wdReset row.wild cur base)) .wild some w d none := hw1.toWr
  refine Agree.rekeep (Q := StillBare ts a (rowWd row (wdReset row.wild cur base)) base .wild .wildcard) ?_
    fun r' hk' => ⟨hk'.cfg, hk'.mach, hk'.peelCount⟩
  rw [unmWild_eq]
  cases htag : t.tag with
  | some gt =>
    dsimp only
    cases hg : a.getByTag gt with
    | none => rw [hw1'.run_err (.first _ _) (wild_step_tag rfl htag hg)]; rfl
    | some e =>
      cases hmeth : hasMethods ts base with
      | true => rw [hw1'.run_err (.first _ _) (wild_step_tag_meth rfl htag hg hmeth)]; rfl
      | false =>
        obtain ⟨g', rfl, hg4⟩ := hgt
        obtain ⟨trow, htip⟩ := tip_get lo (rowWd row (wdReset row.wild cur base)) hi
        have hokm := hWd.tags gt e hg
        have hub := hWd.tagU gt e hg
        obtain ⟨T', k, hcfgU, hTp, hTw, _, hcfg, _⟩ := cfgMember (f := g') trow e.ty hokm
        exact wild_delegate hokm.noBorrow hw1 htip hTp hTw hcfg (fun wm => wdTag wm e.ty ⟨_, k⟩) rfl rfl
          (fun st => wild_step_tag_found rfl htag hg hmeth htip (by simp only [yieldBare]; exact hcfgU))
          fun L T hTc hw2 => hD.tags n (Nat.lt_succ_self n) gt e hg L T stk be c none _ (d + 1) k hTc hw2 (by omega) _ _ _ _ sf
            (by omega) (by omega) hsf
  | none =>
    by_cases hnull : t.body = .null
    · simp only [hnull, wildRej, Bool.and_false, Bool.false_eq_true, if_false]
      exact (Agree.fin hw1' (.first _ _) (wild_step_null rfl htag hnull) (SameCfg.refl _) hgf).toBare rfl
    · by_cases hclose : t.body = .mapClose ∨ t.body = .arrClose
      · rw [hw1'.run_err (.first _ _) (wild_step_close rfl htag hclose)]
        rcases hclose with hb | hb <;> simp only [hb, wildRej, Bool.and_false, Bool.false_eq_true, if_false] <;> rfl
      · have h2 : t.body ≠ .mapClose := fun h => hclose (Or.inl h)
        have h3 : t.body ≠ .arrClose := fun h => hclose (Or.inr h)
        cases hmeth : hasMethods ts base with
        | true =>
          rw [hw1'.run_err (.first _ _) (wild_step_meth rfl htag hmeth hnull h2 h3)]
          simp only [wildRej_true hnull h2 h3, if_true]
          rfl
        | false =>
          simp only [wildRej_false, Bool.false_eq_true, if_false]
          obtain ⟨trow, htipr⟩ := tip_get lo (rowWd row (wdReset row.wild cur base)) hi
          by_cases hmo : ∃ len, t.body = .mapOpen len
          · obtain ⟨len, hb⟩ := hmo
            simp only [hb]
            cases n with
            | zero => rw [unmBare_zero]; trivial
            | succ m =>
            exact wild_delegate (M := .map it.str it.iface) rfl hw1 htipr rfl rfl rfl (fun wm => wdMap it wm ⟨_, .map⟩) rfl rfl
              (fun st => by rw [RowL.set_same htipr, updRow_at]; exact wild_step_mapOpen rfl htag hmeth hb)
              fun L T _ hw2 => simLeaf_map hS (hD.map m (by omega)) hWd.mapSI hWd.ifc T (.map (some [])) L [] stk be c some _
                (d + 1) (t :: rest) g (g + 1 + d + 1) sf hw2 hd1 hg5 hsf1 hsf
          · by_cases hao : ∃ len, t.body = .arrOpen len
            · obtain ⟨len, hb⟩ := hao
              simp only [hb]
              cases n with
              | zero => rw [unmBare_zero]; trivial
              | succ m =>
              -- the functional model starts from a nil slice, the machine from an empty one: the run is the same
              rw [show unmBare ts a trs it (m+1) it.sliceI (.slice it.iface) (.slice none) (t :: rest)
                  = unmBare ts a trs it (m+1) it.sliceI (.slice it.iface) (.slice (some [])) (t :: rest) by
                rw [unmBare_slice, unmBare_slice]]
              exact wild_delegate (M := .slice it.iface) rfl hw1 htipr rfl rfl rfl (fun wm => wdSlice it wm ⟨_, .slice⟩) rfl rfl
                (fun st => by rw [RowL.set_same htipr, updRow_at]; exact wild_step_arrOpen rfl htag hmeth hb)
                fun L T _ hw2 => simLeaf_slice hS (hD.elems m (by omega)) hWd.sliceI hWd.ifc T (.slice (some [])) L [] stk be c some _
                  (d + 1) (t :: rest) g (g + 1 + d + 1) sf hw2 hd1 hg5 hsf1 hsf
            · have h4 : ∀ len, t.body ≠ .mapOpen len := fun len h => hmo ⟨len, h⟩
              have h5 : ∀ len, t.body ≠ .arrOpen len := fun len h => hao ⟨len, h⟩
              obtain ⟨v, hv, hfun⟩ := unmWild_scalar (ts := ts) (a := a) (trs := trs) (it := it) (n := n)
                (rest := rest) htag hnull h2 h3 h4 h5
              rw [unmWild_eq, htag] at hfun
              simp only [wildRej_false, Bool.false_eq_true, if_false] at hfun
              rw [hfun]
              refine (Agree.fin (hi' := hi) hw1' (.first _ _) ?_ (SameCfg.refl _) hgf).toBare rfl
              rw [wild_step_scalar rfl htag hmeth hnull h2 h3 h4 h5, hv]

end Refmt.UMachU
