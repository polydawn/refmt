/-
  The RFC 8259 number grammar, written structurally and independently of the scanner (`C05.isNumber`), and that the
  number scanner, run over a whole text, accepts exactly it (`C05.numberOk_isNumber`).  C05 states this of its
  `dfaNumber` (`C05.number_dfa`); the number texts the encoders write are shown to be in the grammar (`NumSyntax`).
-/
import RefmtProofs.Lemmas.JsonNum
namespace Refmt.C05
open Refmt Refmt.JsonDec

def digits1 (bs : Bytes) : Bool := !bs.isEmpty && bs.all isDigit

/-- int = "0" / ( digit1-9 *DIGIT ) -/
def isIntPart (bs : Bytes) : Bool :=
  match bs with
  | [48] => true
  | d :: r => 49 ≤ d && d ≤ 57 && r.all isDigit
  | [] => false

/-- exp = ( "e" / "E" ) [ "-" / "+" ] 1*DIGIT, given without the leading e -/
def isExpTail (bs : Bytes) : Bool :=
  match bs with
  | 43 :: r => digits1 r
  | 45 :: r => digits1 r
  | r => digits1 r

/-- number = [ "-" ] int [ "." 1*DIGIT ] [ exp ] -/
def isNumber (bs : Bytes) : Bool :=
  let body := match bs with | 45 :: r => r | r => r
  let mant := body.takeWhile fun c => c != 101 && c != 69
  let rest := body.dropWhile fun c => c != 101 && c != 69
  let ip := mant.takeWhile (· != 46)
  let fr := mant.dropWhile (· != 46)
  isIntPart ip &&
  (match fr with | [] => true | _ :: f => digits1 f) &&
  (match rest with | [] => true | _ :: e => isExpTail e)

/-! `isNumber` cuts a number at the first `e`/`E` and the mantissa at the first `.`, and so does the proof: acceptance
  of a text with a mark is acceptance of the two pieces (`accepts_int_split`, `accepts_mant_split`). -/

section
open Refmt.C03L (notE notDot numAccepts numAccepts_cons numAccepts_nil numAccept numberOk numberOk_cons numStart)

theorem notE_cons {c : Nat} {cs : Bytes} (h : (c :: cs).all notE = true) : (c ≠ 101 ∧ c ≠ 69) ∧ cs.all notE = true := by
  simpa [notE] using h

theorem notDot_cons {c : Nat} {cs : Bytes} (h : (c :: cs).all notDot = true) : c ≠ 46 ∧ cs.all notDot = true := by
  simpa [notDot] using h

theorem accepts_e0 (cs : Bytes) : numAccepts .e0 cs = cs.all isDigit := by
  induction cs with
  | nil => simp [numAccepts_nil, numAccept]
  | cons c cs ih =>
    by_cases h : isDigit c = true <;> simp [numAccepts_cons, numStep, h, ih]

theorem accepts_eSign (cs : Bytes) : numAccepts .eSign cs = digits1 cs := by
  cases cs with
  | nil => simp [numAccepts_nil, numAccept, digits1]
  | cons c cs =>
    by_cases h : isDigit c = true <;> simp [numAccepts_cons, numStep, h, digits1, accepts_e0]

theorem accepts_e (cs : Bytes) : numAccepts .e cs = isExpTail cs := by
  cases cs with
  | nil => simp [numAccepts_nil, numAccept, digits1, isExpTail]
  | cons c cs =>
    by_cases h43 : c = 43
    · subst h43; simp [numAccepts_cons, numStep, isExpTail, accepts_eSign]
    by_cases h45 : c = 45
    · subst h45; simp [numAccepts_cons, numStep, isExpTail, accepts_eSign]
    have : isExpTail (c :: cs) = digits1 (c :: cs) := by
      unfold isExpTail
      split
      · rename_i h; simp at h; exact (h43 h.1).elim
      · rename_i h; simp at h; exact (h45 h.1).elim
      · rfl
    rw [this]
    by_cases h : isDigit c = true <;> simp [numAccepts_cons, numStep, h, digits1, accepts_e0, h43, h45]

theorem accepts_dot0 (f : Bytes) (hf : f.all notE = true) : numAccepts .dot0 f = f.all isDigit := by
  induction f with
  | nil => simp [numAccepts_nil, numAccept]
  | cons c cs ih =>
    obtain ⟨hc, hf⟩ := notE_cons hf
    by_cases h : isDigit c = true <;> simp [numAccepts_cons, numStep, h, ih hf, hc.1, hc.2]

theorem accepts_dot (f : Bytes) (hf : f.all notE = true) : numAccepts .dot f = digits1 f := by
  cases f with
  | nil => simp [numAccepts_nil, numAccept, digits1]
  | cons c cs =>
    by_cases h : isDigit c = true <;> simp [numAccepts_cons, numStep, h, digits1, accepts_dot0 cs (notE_cons hf).2]

theorem accepts_s1 (r : Bytes) (he : r.all notE = true) (hd : r.all notDot = true) :
    numAccepts .s1 r = r.all isDigit := by
  induction r with
  | nil => simp [numAccepts_nil, numAccept]
  | cons c cs ih =>
    obtain ⟨hc, he⟩ := notE_cons he
    obtain ⟨hc2, hd⟩ := notDot_cons hd
    by_cases h : isDigit c = true <;> simp [numAccepts_cons, numStep, h, ih he hd, hc.1, hc.2, hc2]

theorem accepts_s0 (r : Bytes) (he : r.all notE = true) (hd : r.all notDot = true) :
    numAccepts .s0 r = r.isEmpty := by
  cases r with
  | nil => simp [numAccepts_nil, numAccept]
  | cons c cs =>
    simp [numAccepts_cons, numStep, (notE_cons he).1.1, (notE_cons he).1.2, (notDot_cons hd).1]

theorem accepts_neg_cons (c : Nat) (cs : Bytes) :
    numAccepts .neg (c :: cs) =
      if c = 48 then numAccepts .s0 cs else if 49 ≤ c ∧ c ≤ 57 then numAccepts .s1 cs else false := by
  simp only [numAccepts_cons, numStep]
  by_cases h48 : c = 48
  · simp [h48]
  · by_cases h : 49 ≤ c ∧ c ≤ 57
    · simp [h48, h.1, h.2]
    · have : ¬ ((decide (49 ≤ c) && decide (c ≤ 57)) = true) := by simpa using h
      simp [h48, this, h]

theorem accepts_neg (r : Bytes) (he : r.all notE = true) (hd : r.all notDot = true) :
    numAccepts .neg r = isIntPart r := by
  cases r with
  | nil => simp [numAccepts_nil, numAccept, isIntPart]
  | cons c cs =>
    have he := (notE_cons he).2
    have hd := (notDot_cons hd).2
    rw [accepts_neg_cons, accepts_s0 cs he hd, accepts_s1 cs he hd]
    by_cases h48 : c = 48
    · subst h48
      cases cs <;> simp [isIntPart]
    · have : isIntPart (c :: cs) = (decide (49 ≤ c) && decide (c ≤ 57) && cs.all isDigit) := by
        unfold isIntPart
        split
        · rename_i h; simp at h; exact (h48 h.1).elim
        · rename_i h; simp at h; rw [h.1, h.2]
        · rename_i h; simp at h
      rw [this, if_neg h48]
      by_cases h : 49 ≤ c ∧ c ≤ 57
      · simp [h.1, h.2]
      · rw [if_neg h]
        have h' : (decide (49 ≤ c) && decide (c ≤ 57)) = false := by
          rw [Bool.and_eq_false_iff]; simp only [decide_eq_false_iff_not]; omega
        simp [h']

def intState : NS → Bool | .neg | .s0 | .s1 => true | _ => false

def mantState : NS → Bool | .neg | .s0 | .s1 | .dot | .dot0 => true | _ => false

theorem accepts_int_split (ip f : Bytes) (he : ip.all notE = true) (hd : ip.all notDot = true) :
    ∀ st, intState st = true → numAccepts st (ip ++ 46 :: f) = (numAccepts st ip && numAccepts .dot f) := by
  induction ip with
  | nil => intro st hst; cases st <;> simp [intState] at hst <;> simp [numAccepts_cons, numAccepts_nil, numAccept, numStep, isDigit]
  | cons c cs ih =>
    intro st hst
    obtain ⟨hc, he⟩ := notE_cons he
    obtain ⟨hc2, hd⟩ := notDot_cons hd
    have ih' := ih he hd
    cases st <;> simp [intState] at hst
    · rw [List.cons_append, accepts_neg_cons, accepts_neg_cons, ih' .s0 rfl, ih' .s1 rfl]
      split
      · rfl
      · split <;> simp
    · simp [numAccepts_cons, numStep, hc.1, hc.2, hc2]
    · by_cases h : isDigit c = true <;> simp [numAccepts_cons, numStep, h, hc.1, hc.2, hc2, ih' .s1 rfl]

theorem accepts_mant_split (m e : Bytes) (c : Nat) (hce : c = 101 ∨ c = 69) (he : m.all notE = true) :
    ∀ st, mantState st = true → numAccepts st (m ++ c :: e) = (numAccepts st m && numAccepts .e e) := by
  induction m with
  | nil =>
    intro st hst
    rcases hce with rfl | rfl <;> cases st <;> simp [mantState] at hst <;> simp [numAccepts_cons, numAccepts_nil, numAccept, numStep, isDigit]
  | cons x cs ih =>
    intro st hst
    obtain ⟨hc, he⟩ := notE_cons he
    have ih' := ih he
    cases st <;> simp [mantState] at hst
    · rw [List.cons_append, accepts_neg_cons, accepts_neg_cons, ih' .s0 rfl, ih' .s1 rfl]
      split
      · rfl
      · split <;> simp
    · by_cases h46 : x = 46 <;> simp [numAccepts_cons, numStep, hc.1, hc.2, h46, ih' .dot rfl]
    · by_cases h : isDigit x = true
      · simp [numAccepts_cons, numStep, h, ih' .s1 rfl]
      · by_cases h46 : x = 46
        · subst h46; simp [numAccepts_cons, numStep, show isDigit 46 = false by decide, ih' .dot rfl]
        · simp [numAccepts_cons, numStep, h, hc.1, hc.2, h46]
    · by_cases h : isDigit x = true <;> simp [numAccepts_cons, numStep, h, ih' .dot0 rfl]
    · by_cases h : isDigit x = true <;> simp [numAccepts_cons, numStep, h, hc.1, hc.2, ih' .dot0 rfl]


theorem all_sub {p : Nat → Bool} {l l' : Bytes} (hs : l'.Sublist l) (h : l.all p = true) : l'.all p = true := by
  rw [List.all_eq_true] at h ⊢
  exact fun x hx => h x (hs.subset hx)

theorem dw_head (p : Nat → Bool) (l : Bytes) (c : Nat) (e : Bytes) (h : l.dropWhile p = c :: e) : p c = false := by
  have := List.head?_dropWhile_not p l
  rwa [h] at this

theorem number_split (mant rest : Bytes) (hm : mant.all notE = true)
    (hr : ∀ c e, rest = c :: e → c = 101 ∨ c = 69) :
    numAccepts .neg (mant ++ rest) =
      (numAccepts .neg mant && match (generalizing := false) rest with | [] => true | _ :: e => isExpTail e) := by
  cases rest with
  | nil => simp
  | cons c e =>
    rw [accepts_mant_split mant e c (hr c e rfl) hm .neg rfl, accepts_e]

theorem mant_split (ip fr : Bytes) (he : ip.all notE = true) (hd : ip.all notDot = true)
    (hfr : ∀ c f, fr = c :: f → c = 46 ∧ f.all notE = true) :
    numAccepts .neg (ip ++ fr) = (isIntPart ip && match (generalizing := false) fr with | [] => true | _ :: f => digits1 f) := by
  cases fr with
  | nil => simp [accepts_neg ip he hd]
  | cons c f =>
    obtain ⟨rfl, hf⟩ := hfr c f rfl
    rw [accepts_int_split ip f he hd .neg rfl, accepts_neg ip he hd, accepts_dot f hf]

def numBodyOk (body : Bytes) : Bool :=
  isIntPart ((body.takeWhile notE).takeWhile notDot) &&
  (match (body.takeWhile notE).dropWhile notDot with | [] => true | _ :: f => digits1 f) &&
  (match body.dropWhile notE with | [] => true | _ :: e => isExpTail e)

theorem isNumber_eq (bs : Bytes) : isNumber bs = numBodyOk (match bs with | 45 :: r => r | r => r) := rfl

theorem isNumber_signed (neg : Bool) (b : Nat) (t : Bytes) (hb : b ≠ 45) :
    isNumber ((if neg then [45] else []) ++ b :: t) = numBodyOk (b :: t) := by
  rw [isNumber_eq]
  cases neg
  · simp only [Bool.false_eq_true, if_false, List.nil_append]
    split
    · rename_i h; exact absurd (List.cons.inj h).1 hb
    · rfl
  · rfl

theorem accepts_neg_body (body : Bytes) : numAccepts .neg body = numBodyOk body := by
  have h1 := number_split (body.takeWhile notE) (body.dropWhile notE) List.all_takeWhile (by
    intro c e h
    have h1 := dw_head _ _ _ _ h
    simp only [notE, Bool.and_eq_false_iff, bne_eq_false_iff_eq] at h1
    exact h1)
  rw [List.takeWhile_append_dropWhile] at h1
  have h2 := mant_split ((body.takeWhile notE).takeWhile notDot) ((body.takeWhile notE).dropWhile notDot)
    (all_sub (List.takeWhile_sublist _) List.all_takeWhile) List.all_takeWhile (by
      intro c f h
      have h1 := dw_head _ _ _ _ h
      have h2 : ((body.takeWhile notE).dropWhile notDot).all notE = true :=
        all_sub (List.dropWhile_sublist _) List.all_takeWhile
      rw [h] at h2
      simp only [List.all_cons, Bool.and_eq_true] at h2
      refine ⟨?_, h2.2⟩
      simpa [notDot] using h1)
  rw [List.takeWhile_append_dropWhile] at h2
  rw [h1, h2]
  rfl

theorem numberOk_pos (b : Nat) (r : Bytes) (h45 : b ≠ 45) : numberOk (b :: r) = numAccepts .neg (b :: r) := by
  rw [accepts_neg_cons, numberOk_cons]
  by_cases h48 : b = 48
  · subst h48; simp [isDigit, numStart]
  · by_cases h : 49 ≤ b ∧ b ≤ 57
    · have hd : isDigit b = true := by simp [isDigit]; omega
      simp [h45, h48, hd, h, numStart]
    · have hd : isDigit b = false := by simp [isDigit]; omega
      simp [h45, h48, hd, h]

theorem numberOk_isNumber (bs : Bytes) : numberOk bs = isNumber bs := by
  cases bs with
  | nil => decide
  | cons b r =>
    by_cases h45 : b = 45
    · subst h45
      exact accepts_neg_body r
    · rw [numberOk_pos b r h45, accepts_neg_body]
      exact (isNumber_signed false b r h45).symm

end

end Refmt.C05
