/-
  Stateful object unmarshaller: what a container machine (slice, array, map, struct) owes the simulation.  Between two
  tokens such a machine sits in its row with a loop invariant (`LoopInv`) that names the functional model's remaining
  run; one token makes it fail, close (done, its rows released), move to another state of the invariant, or call a
  child for one value and go round (`Act0`, `Act`, `Steps`).  `loop_succ` turns that into the simulation statement
  `SimLoop`, for any chain above the machine and any stack below, and `loop_start` does the token after the `Reset`: the
  driver, the fuel and the row geometry are dealt with here, once; a kind supplies its invariant and its `Steps`.
-/
import RefmtProofs.Lemmas.UnmarshalMachReset
namespace Refmt.UMachU
open Refmt Refmt.Obj Refmt.Obj.UM

variable {ts : Types} {a : Atlas} {trs : Trs} {it : IfaceTys} {ub : Nat}

def Own (row row' : URow) : Prop :=
  (row'.ptr, row'.wild, row'.transform, row'.union) = (row.ptr, row.wild, row.transform, row.union) ∧ SameCfg row row'

/-- the invariant of a loop: own row index, row, the rows above it, the functional model's remaining run -/
abbrev LoopInv := Nat → URow → List URow → (List Tok → URes) → Prop

variable (ts a trs it) in
inductive Act0 (k : MK) (Inv' : LoopInv) (lo : List URow) (row : URow) (tl : List URow) (t : Tok) (rest : List Tok) :
    URes → Prop
  | fail :
      (∀ f stk st be, stepM ts a trs it (f+1) ⟨lo.length, k⟩ ⟨lo ++ row :: tl, stk, st, be⟩ t = .error (.f .err)) →
      Act0 k Inv' lo row tl t rest (.err 0)
  | close (v : Val) (row' : URow) (tl' : List URow) :
      (∀ f stk st be, stepM ts a trs it (f+1) ⟨lo.length, k⟩ ⟨lo ++ row :: tl, stk, st, be⟩ t
        = .ok ⟨some v, ⟨lo ++ row' :: tl', stk, st, be⟩⟩) →
      SameCfg row row' → Act0 k Inv' lo row tl t rest (.ok v rest 1)
  | cont (row' : URow) (tl' : List URow) (g' : List Tok → URes) :
      (∀ f stk st be, stepM ts a trs it (f+1) ⟨lo.length, k⟩ ⟨lo ++ row :: tl, stk, st, be⟩ t
        = .ok ⟨none, ⟨lo ++ row' :: tl', stk, st, be⟩⟩) →
      Own row row' → Inv' lo.length row' tl' g' → Act0 k Inv' lo row tl t rest ((g' rest).shift 1)

variable (ts a trs it) in
/-- as `Act0`, or a child `⟨.., cck⟩` (in `crow`, a row above) is Reset for (`e`, `rv`) and given the token (`Recurse`,
    with the fuel `8 ≤ f` that `fuel_split` leaves it, which is what `ChildSim` asks for the child's `Reset`); when the
    child's value `v` is complete the machine absorbs it and is in a state of `Inv`, unless the functional model panics
    at this point.  Two invariants, since the functional loop goes on with one unit of fuel less after an element and
    with the same fuel otherwise: every use takes one invariant at fuel `n` for `Inv` and at `n+1` for `Inv'` -/
inductive Act (ub : Nat) (k : MK) (Inv Inv' : LoopInv) (lo : List URow) (row : URow) (tl : List URow)
    (t : Tok) (rest : List Tok) : URes → Prop
  | plain {r : URes} : Act0 ts a trs it k Inv' lo row tl t rest r → Act ub k Inv Inv' lo row tl t rest r
  | call (Q : URow → Prop) (child : List Tok → URes) (K : Val → List Tok → Nat → URes) (e : Nat) (rv : Val)
      (row1 : URow) (mid : List URow) (crow : URow) (hi : List URow) (cck : MK) (row2 : Val → URow)
      (g' : Val → List Tok → URes) :
      (∀ f stk st be, 8 ≤ f → stepM ts a trs it (f+1) ⟨lo.length, k⟩ ⟨lo ++ row :: tl, stk, st, be⟩ t
        = recurse ts a trs it f ⟨lo ++ row1 :: (mid ++ crow :: hi), stk, st, be⟩ t rv e
            ⟨lo.length + 1 + mid.length, cck⟩) →
      ChildSim ts a trs it ub Q e rv cck crow child → Own row row1 →
      (∀ v, (∀ r u, ∃ p, K v r u = .panic p) ∨
        ((∀ r u, K v r u = (g' v r).shift u) ∧
         (∀ f tl', absorbM ts (f+1) ⟨lo.length, k⟩ v (lo ++ row1 :: tl') = .ok (lo ++ row2 v :: tl')) ∧ Own row (row2 v) ∧
         ∀ crow' hi', Q crow' → Inv lo.length (row2 v) (mid ++ crow' :: hi') (g' v))) →
      Act ub k Inv Inv' lo row tl t rest ((child (t :: rest)).bind' K 0)

variable (ts a trs it) in
def Steps (ub : Nat) (k : MK) (Inv Inv' : LoopInv) : Prop :=
  ∀ lo row tl g, Inv' lo.length row tl g →
    (g [] = .more 0 ∨ g [] = .panic 0) ∧ ∀ t rest, Act ts a trs it ub k Inv Inv' lo row tl t rest (g (t :: rest))

variable (ts a trs it) in
def SimLoop (ub : Nat) (k : MK) (Inv : LoopInv) : Prop :=
  ∀ (lo : List URow) (row : URow) (tl : List URow) (g : List Tok → URes), Inv lo.length row tl g →
    ∀ (stk : List URef) (be : Option XFail) (c : URef) (F : Val → Option Val) (w : Val → Val) (d : Nat) (toks : List Tok)
      (sf : Nat) {un : Option Nat}, Wr trs.u c lo row k F w d un → d ≤ 2 + ub → 14 + 3 * ub ≤ sf →
      Agree ts a trs it ub (SameCfg row) un c sf be stk lo F w
        (pump ts a trs it sf ⟨lo ++ row :: tl, stk, some c, be⟩ toks) (g toks)

theorem loop_zero {k : MK} {Inv : LoopInv} (h : ∀ i row tl g, Inv i row tl g → ∀ toks, g toks = .panic 0) :
    SimLoop ts a trs it ub k Inv := by
  intro lo row tl g hinv stk be c F w d toks sf un hw hd hsf
  rw [h _ _ _ _ hinv]; trivial

theorem Act0.agree {k : MK} {Inv : LoopInv} {lo : List URow} {row : URow} {tl : List URow} {t : Tok} {rest : List Tok}
    {r : URes} (hact : Act0 ts a trs it k Inv lo row tl t rest r) {P : UState → List Tok → URes} {c : URef}
    {F : Val → Option Val} {w : Val → Val} {d f sf : Nat} {un : Option Nat} {stk : List URef} {be : Option XFail}
    (hD : Drv ts a trs it P (f + 1 + d + 1) sf) (hw : Wr trs.u c lo row k F w d un) (hf : 3 + ub ≤ f + 1 + d)
    (hnext : ∀ row' tl' g', Own row row' → Inv lo.length row' tl' g' →
      Agree ts a trs it ub (SameCfg row') un c sf be stk lo F w
        (pump ts a trs it sf ⟨lo ++ row' :: tl', stk, some c, be⟩ rest) (g' rest)) :
    Agree ts a trs it ub (SameCfg row) un c sf be stk lo F w (P ⟨lo ++ row :: tl, stk, some c, be⟩ (t :: rest)) r := by
  cases hact with
  | fail hs => rw [hw.run_err hD (hs _ _ _ _)]; rfl
  | close v row' tl' hs hc => exact Agree.fin hw hD (hs _ _ _ _) hc hf
  | cont row' tl' g' hs ho hi' =>
    rw [hw.run_cont hD (hs _ _ _ _)]
    exact (hnext row' tl' g' ho hi').shiftK 1 fun _ hk => ho.2.trans hk

theorem loop_succ {k : MK} {Inv Inv' : LoopInv} (hact : Steps ts a trs it ub k Inv Inv')
    (hL : SimLoop ts a trs it ub k Inv) : SimLoop ts a trs it ub k Inv' := by
  intro lo row tl g hinv stk be c F w d toks
  induction toks generalizing row tl g with
  | nil =>
    intro sf un hw hd hsf
    rcases (hact lo row tl g hinv).1 with h | h <;> rw [h]
    · simp only [pump]; exact Agree.nil
    · trivial
  | cons t rest ih =>
    intro sf un hw hd hsf
    obtain ⟨f, rfl, hf8, hf9, hff⟩ := fuel_split hd hsf
    have hA := (hact lo row tl g hinv).2 t rest
    generalize g (t :: rest) = r at hA
    cases hA with
    | plain hA =>
      exact hA.agree (.all _) hw hff fun row' tl' g' ho hi' => ih row' tl' g' hi' _ (hw.congr ho.1) hd hsf
    | call Q child K e rv row1 mid crow hi cck row2 g' hs hch ho1 hv =>
      -- the child is Reset and run above `c`; when its value is complete `c` is popped and its leaf absorbs it
      rw [hw.run_rec (.all _) (hs (f + 1) stk (some c) be (Nat.le_succ_of_le hf8)),
        show lo ++ row1 :: (mid ++ crow :: hi) = (lo ++ row1 :: mid) ++ crow :: hi by simp,
        show lo.length + 1 + mid.length = (lo ++ row1 :: mid).length from (RowL.len_at _ _ _).symm]
      refine Agree.bind hd (hch (lo ++ row1 :: mid) hi (c :: stk) be (t :: rest) f f (f + 1 + 1 + d + 1) hf8 hf9 hsf) ?_
      intro v r u crow' hi' fa hu hk
      rcases hv v with hp | ⟨hK, ha, ho2, hnext⟩
      · obtain ⟨p, hp⟩ := hp r u; rw [hp]; trivial
      · have hab : absorbM ts (fa + 1 + d) c v ((lo ++ row1 :: mid) ++ crow' :: hi')
            = .ok (lo ++ row2 v :: (mid ++ crow' :: hi')) := by
          rw [show (lo ++ row1 :: mid) ++ crow' :: hi' = lo ++ row1 :: (mid ++ crow' :: hi') by simp,
            (hw.congr ho1.1).absorb, ha]
        simp only [kont, hab]
        have h := (hL lo (row2 v) _ (g' v) (hnext crow' hi' hk) stk be c F w d r
          (f + 1 + 1 + d + 1) (hw.congr ho2.1) hd hsf).shiftK u fun _ hk => ho2.2.trans hk
        rw [hK, URes.shift_shift, show 1 + (u - 1) = u by omega]
        exact h

theorem loop_start {k : MK} {Inv : LoopInv} (hL : SimLoop ts a trs it ub k Inv) {c : URef} {lo : List URow} {row : URow}
    {F : Val → Option Val} {w : Val → Val} {d : Nat} {un : Option Nat} (hw : Wr trs.u c lo row k F w d un) (hd : d ≤ 2 + ub)
    {fr sf1 sf base : Nat} {cur : Val} {hi tl0 : List URow} {row0 : URow}
    (hreset : resetM ts a fr ⟨lo.length, k⟩ base cur (lo ++ row :: hi) = .ok (lo ++ row0 :: tl0)) (ho : Own row row0)
    (hsf1 : 8 + 2 * ub ≤ sf1) (hsf : 14 + 3 * ub ≤ sf) (stk : List URef) (be : Option XFail) {t : Tok} {rest : List Tok}
    {r : URes} (hact : Act0 ts a trs it k Inv lo row0 tl0 t rest r) :
    Agree ts a trs it ub (SameCfg row) un c sf be stk lo F w
      (rtpB ts a trs it fr sf1 sf (lo ++ row :: hi) stk be c ⟨lo.length, k⟩ base cur (t :: rest)) r := by
  obtain ⟨g, rfl, hgf⟩ := fuel1_split hd hsf1
  simp only [rtpB, hreset]
  have hw0 := hw.congr ho.1
  exact (hact.agree (.first _ _) hw0 hgf fun row' tl' g' ho' hi' =>
    hL lo row' tl' g' hi' stk be c F w d rest sf (hw0.congr ho'.1) hd hsf).rekeep fun _ hk => ho.2.trans hk

end Refmt.UMachU
