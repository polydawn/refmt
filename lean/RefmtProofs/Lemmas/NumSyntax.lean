/-
  The number texts the encoders write, given by their parts: a sign, integer digits `b :: r` (no leading zero unless
  alone), a fraction part and an exponent part.  Such a text is in the RFC grammar (`isNumber_parts`), hence read completely
  by the scanner (`numberOk_parts`, through `C05.numberOk_isNumber`); grammar and `numTok` cut it at the same two places
  (`parts_spanE`, `parts_spanDot`).  Signed `natDigits` here (no fraction, no exponent), the float texts in `FloatJson`.
-/
import RefmtProofs.Lemmas.NumGrammar
namespace Refmt.FloatL
open Refmt Refmt.JsonDec Refmt.C03L

def FracPart (F fp : Bytes) : Prop := (F = [] ∧ fp = []) ∨ (F = 46 :: fp ∧ Digs fp ∧ fp ≠ [])

def ExpPart (E : Bytes) (ev : Int) : Prop :=
  (E = [] ∧ ev = 0) ∨ ∃ ed, Digs ed ∧ ed ≠ [] ∧
    ((E = 101 :: 43 :: ed ∧ ev = (digitsVal ed : Int)) ∨ (E = 101 :: 45 :: ed ∧ ev = -(digitsVal ed : Int)))

theorem FracPart.none : FracPart [] [] := Or.inl ⟨rfl, rfl⟩
theorem ExpPart.none : ExpPart [] 0 := Or.inl ⟨rfl, rfl⟩

theorem FracPart.point {fp : Bytes} (hd : Digs fp) (hne : fp ≠ []) : FracPart (46 :: fp) fp :=
  Or.inr ⟨rfl, hd, hne⟩

/-- what `fmtE` writes after the first digit -/
theorem FracPart.ofRest {r : Bytes} (hd : Digs r) : FracPart (if r.isEmpty then [] else 46 :: r) r := by
  cases r with
  | nil => exact Or.inl ⟨rfl, rfl⟩
  | cons x xs => exact FracPart.point hd (List.cons_ne_nil x xs)

theorem digit_notE {x : Nat} (h : isDigit x = true) : notE x = true := by
  have := isDigit_iff.1 h
  simp [notE]; omega
theorem digit_notDot {x : Nat} (h : isDigit x = true) : notDot x = true := by
  have := isDigit_iff.1 h
  simp [notDot]; omega

theorem span_stop {p : Nat → Bool} {a t : Bytes} (ha : ∀ x ∈ a, p x = true) (ht : t.takeWhile p = []) :
    (a ++ t).takeWhile p = a ∧ (a ++ t).dropWhile p = t := by
  have hd : t.dropWhile p = t := by
    have := List.takeWhile_append_dropWhile (p := p) (l := t)
    rwa [ht, List.nil_append] at this
  rw [List.takeWhile_append_of_pos ha, List.dropWhile_append_of_pos ha, ht, hd, List.append_nil]
  exact ⟨rfl, rfl⟩

theorem parts_spanE {ip F fp E : Bytes} {ev : Int} (hip : Digs ip) (hF : FracPart F fp) (hE : ExpPart E ev) :
    (ip ++ F ++ E).takeWhile notE = ip ++ F ∧ (ip ++ F ++ E).dropWhile notE = E := by
  have hmE : ∀ x ∈ ip ++ F, notE x = true := by
    intro x hx
    rcases List.mem_append.1 hx with hx | hx
    · exact digit_notE (hip x hx)
    · rcases hF with ⟨rfl, _⟩ | ⟨rfl, hfp, _⟩
      · cases hx
      · rcases List.mem_cons.1 hx with rfl | hx
        · rfl
        · exact digit_notE (hfp x hx)
  have hE0 : E.takeWhile notE = [] := by
    rcases hE with ⟨rfl, _⟩ | ⟨ed, _, _, ⟨rfl, _⟩ | ⟨rfl, _⟩⟩ <;> rfl
  exact span_stop hmE hE0

theorem parts_spanDot {ip F fp : Bytes} (hip : Digs ip) (hF : FracPart F fp) :
    (ip ++ F).takeWhile notDot = ip ∧ (ip ++ F).dropWhile notDot = F := by
  have hstop : F.takeWhile notDot = [] := by
    rcases hF with ⟨rfl, _⟩ | ⟨rfl, _⟩ <;> rfl
  exact span_stop (fun x hx => digit_notDot (hip x hx)) hstop

theorem isNumber_parts (neg : Bool) (b : Nat) (r : Bytes) (hd : Digs (b :: r)) (hlead : b = 48 → r = [])
    {F fp E : Bytes} {ev : Int} (hF : FracPart F fp) (hE : ExpPart E ev) :
    C05.isNumber ((if neg then [45] else []) ++ b :: (r ++ F ++ E)) = true := by
  have hb := isDigit_iff.1 hd.head
  obtain ⟨h1, h2⟩ := parts_spanE hd hF hE
  obtain ⟨h3, h4⟩ := parts_spanDot hd hF
  rw [C05.isNumber_signed neg b _ (by omega), show b :: (r ++ F ++ E) = (b :: r) ++ F ++ E by simp, C05.numBodyOk,
    h1, h2, h3, h4]
  have hi : C05.isIntPart (b :: r) = true := by
    by_cases h0 : b = 48
    · rw [h0, hlead h0]; rfl
    · unfold C05.isIntPart
      split
      · rfl
      · rename_i d t h
        obtain ⟨rfl, rfl⟩ := List.cons.inj h
        simp only [Bool.and_eq_true, decide_eq_true_eq]
        exact ⟨⟨by omega, hb.2⟩, hd.tail.all⟩
      · rename_i h; cases h
  clear h1 h2 h3 h4
  rw [hi, Bool.true_and, Bool.and_eq_true]
  constructor
  · rcases hF with ⟨rfl, _⟩ | ⟨rfl, hfp, hne⟩
    · rfl
    · simp [C05.digits1, hne, hfp.all]
  · rcases hE with ⟨rfl, _⟩ | ⟨ed, hed, hne, ⟨rfl, _⟩ | ⟨rfl, _⟩⟩
    · rfl
    · simp [C05.isExpTail, C05.digits1, hne, hed.all]
    · simp [C05.isExpTail, C05.digits1, hne, hed.all]

theorem numberOk_parts (neg : Bool) (b : Nat) (r : Bytes) (hd : Digs (b :: r)) (hlead : b = 48 → r = [])
    {F fp E : Bytes} {ev : Int} (hF : FracPart F fp) (hE : ExpPart E ev) :
    numberOk ((if neg then [45] else []) ++ b :: (r ++ F ++ E)) = true := by
  rw [C05.numberOk_isNumber]
  exact isNumber_parts neg b r hd hlead hF hE

theorem numberOk_digits (neg : Bool) (b : Nat) (r : Bytes) (hd : Digs (b :: r)) (hlead : b = 48 → r = []) :
    numberOk ((if neg then [45] else []) ++ b :: r) = true := by
  have := numberOk_parts neg b r hd hlead FracPart.none ExpPart.none
  rwa [List.append_nil, List.append_nil] at this

theorem numberOk_natDigits (neg : Bool) (n : Nat) : numberOk ((if neg then [45] else []) ++ natDigits n) = true := by
  obtain ⟨b, r, e, hd, hl⟩ := natDigits_form n
  rw [e]
  exact numberOk_digits neg b r hd fun h => (hl h).1

end Refmt.FloatL
