/-
  Go's UTF-8 coder: `encodeRune` on a rune given by its base-64 digits, and `decodeRune` as an
  inversion: it consumes one byte, or a well-formed multi-byte sequence `MB u r`, on which
  `encodeRune` is its inverse; `toValidUtf8` on each of these cases (`tv_ascii`, `tv_bad`, `tv_mb`).
-/
import RefmtModel
namespace Refmt.C03L
open Refmt Refmt.JsonEnc

structure MB (u : Bytes) (r : Nat) : Prop where
  len : 2 ≤ u.length
  dec : ∀ tl, decodeRune (u ++ tl) = (r, u.length)
  enc : encodeRune r = u

theorem encodeRune_bytes (r : Nat) : ∀ x ∈ encodeRune r, x < 256 ∧ (0x80 ≤ r → 0x80 ≤ x) := by
  unfold encodeRune
  intro x hx
  split at hx
  · simp at hx; omega
  split at hx
  · simp at hx; omega
  split at hx
  · simp at hx; omega
  split at hx
  · simp at hx; omega
  · rename_i h1 h2 h3 h4
    simp only [Bool.or_eq_true, Bool.and_eq_true, decide_eq_true_eq, not_or] at h3
    simp at hx; omega

theorem encodeRune_2 (a x1 : Nat) (ha : 2 ≤ a) (ha' : a < 32) (h1 : x1 < 64) :
    encodeRune (a * 64 + x1) = [0xC0 + a, 0x80 + x1] := by
  unfold encodeRune
  rw [if_neg (by omega), if_pos (by omega)]
  simp; omega

theorem encodeRune_3 (a x1 x2 : Nat) (ha : a < 16) (h1 : x1 < 64) (h2 : x2 < 64)
    (hlo : a = 0 → 32 ≤ x1) (hhi : a = 13 → x1 < 32) :
    encodeRune (a * 4096 + x1 * 64 + x2) = [0xE0 + a, 0x80 + x1, 0x80 + x2] := by
  generalize hr : a * 4096 + x1 * 64 + x2 = r
  have hc : 0x800 ≤ r ∧ r < 0x10000 ∧ ¬ (0xD800 ≤ r ∧ r ≤ 0xDFFF) ∧ r / 4096 = a ∧ r / 64 % 64 = x1 ∧ r % 64 = x2 := by
    omega
  obtain ⟨c1, c2, c3, c4, c5, c6⟩ := hc
  unfold encodeRune
  rw [if_neg (by omega), if_neg (by omega), if_neg (by simp; omega), if_pos c2, c4, c5, c6]

theorem encodeRune_4 (a x1 x2 x3 : Nat) (ha : a < 5) (h1 : x1 < 64) (h2 : x2 < 64) (h3 : x3 < 64)
    (hlo : a = 0 → 16 ≤ x1) (hhi : a = 4 → x1 < 16) :
    encodeRune (a * 262144 + x1 * 4096 + x2 * 64 + x3) = [0xF0 + a, 0x80 + x1, 0x80 + x2, 0x80 + x3] := by
  generalize hr : a * 262144 + x1 * 4096 + x2 * 64 + x3 = r
  have hc : 0x10000 ≤ r ∧ r ≤ 0x10FFFF ∧ r / 262144 = a ∧ r / 4096 % 64 = x1 ∧ r / 64 % 64 = x2 ∧ r % 64 = x3 := by
    omega
  obtain ⟨c1, c2, c3, c4, c5, c6⟩ := hc
  unfold encodeRune
  rw [if_neg (by omega), if_neg (by omega), if_neg (by simp; omega), if_neg (by omega), c3, c4, c5, c6]

theorem MB.big {u : Bytes} {r : Nat} (h : MB u r) : 0x80 ≤ r := by
  refine Nat.le_of_not_lt fun hr => ?_
  have := h.len
  rw [← h.enc, encodeRune, if_pos hr] at this
  simp at this

theorem MB.hi {u : Bytes} {r : Nat} (h : MB u r) : ∀ x ∈ u, 0x80 ≤ x ∧ x < 256 := by
  intro x hx
  rw [← h.enc] at hx
  have := encodeRune_bytes r x hx
  exact ⟨this.2 h.big, this.1⟩


theorem mb2 (p0 b1 : Nat) (h2 : ¬ p0 < 0xC2) (h3 : p0 < 0xE0) (hc : isCont b1 = true) :
    MB [p0, b1] ((p0 % 32) * 64 + b1 % 64) := by
  have hc' := hc
  simp only [isCont, Bool.and_eq_true, decide_eq_true_eq] at hc'
  refine ⟨by simp, fun tl => ?_, ?_⟩
  · simp [decodeRune, show ¬ p0 < 0x80 by omega, h2, h3, hc]
  · rw [encodeRune_2 _ _ (by omega) (by omega) (by omega)]
    simp; omega

theorem mb3 (p0 b1 b2 : Nat) (h3 : ¬ p0 < 0xE0) (h4 : p0 < 0xF0)
    (hc : ((if p0 == 0xE0 then 0xA0 else 0x80) ≤ b1 && b1 ≤ (if p0 == 0xED then 0x9F else 0xBF) && isCont b2) = true) :
    MB [p0, b1, b2] ((p0 % 16) * 4096 + (b1 % 64) * 64 + b2 % 64) := by
  have hc' := hc
  simp only [isCont, Bool.and_eq_true, decide_eq_true_eq, beq_iff_eq] at hc'
  obtain ⟨⟨hlo, hhi⟩, hc2⟩ := hc'
  have hb1 : 0x80 ≤ b1 ∧ b1 ≤ 0xBF ∧ (p0 = 0xE0 → 0xA0 ≤ b1) ∧ (p0 = 0xED → b1 ≤ 0x9F) := by
    split at hlo <;> split at hhi <;> omega
  refine ⟨by simp, fun tl => ?_, ?_⟩
  · simp only [List.cons_append, List.nil_append, decodeRune, show ¬ p0 < 0x80 by omega, show ¬ p0 < 0xC2 by omega,
      h3, h4, hc, if_true, if_false, List.length_cons, List.length_nil]
  · rw [encodeRune_3 _ _ _ (by omega) (by omega) (by omega) (by omega) (by omega)]
    simp; omega

theorem mb4 (p0 b1 b2 b3 : Nat) (h4 : ¬ p0 < 0xF0) (h5 : p0 < 0xF5)
    (hc : ((if p0 == 0xF0 then 0x90 else 0x80) ≤ b1 && b1 ≤ (if p0 == 0xF4 then 0x8F else 0xBF) && isCont b2 && isCont b3) = true) :
    MB [p0, b1, b2, b3] ((p0 % 8) * 262144 + (b1 % 64) * 4096 + (b2 % 64) * 64 + b3 % 64) := by
  have hc' := hc
  simp only [isCont, Bool.and_eq_true, decide_eq_true_eq, beq_iff_eq] at hc'
  obtain ⟨⟨⟨hlo, hhi⟩, hc2⟩, hc3⟩ := hc'
  have hb1 : 0x80 ≤ b1 ∧ b1 ≤ 0xBF ∧ (p0 = 0xF0 → 0x90 ≤ b1) ∧ (p0 = 0xF4 → b1 ≤ 0x8F) := by
    split at hlo <;> split at hhi <;> omega
  refine ⟨by simp, fun tl => ?_, ?_⟩
  · simp only [List.cons_append, List.nil_append, decodeRune, show ¬ p0 < 0x80 by omega, show ¬ p0 < 0xC2 by omega,
      show ¬ p0 < 0xE0 by omega, h4, h5, hc, if_true, if_false, List.length_cons, List.length_nil]
  · rw [encodeRune_4 _ _ _ _ (by omega) (by omega) (by omega) (by omega) (by omega) (by omega)]
    simp; omega

theorem decodeRune_cons (p0 : Nat) (rest : Bytes) :
    (decodeRune (p0 :: rest)).2 = 1 ∨
      MB ((p0 :: rest).take (decodeRune (p0 :: rest)).2) (decodeRune (p0 :: rest)).1 := by
  by_cases h1 : p0 < 0x80
  · simp [decodeRune, h1]
  by_cases h2 : p0 < 0xC2
  · simp [decodeRune, h1, h2]
  by_cases h3 : p0 < 0xE0
  · match rest with
    | [] => simp [decodeRune, h1, h2, h3]
    | b1 :: r =>
      by_cases hc : isCont b1 = true
      · have hm := mb2 p0 b1 h2 h3 hc
        have e : decodeRune (p0 :: b1 :: r) = ((p0 % 32) * 64 + b1 % 64, 2) := hm.dec r
        rw [e]; exact .inr hm
      · simp [decodeRune, h1, h2, h3, hc]
  by_cases h4 : p0 < 0xF0
  · match rest with
    | [] => simp [decodeRune, h1, h2, h3, h4]
    | [_] => simp [decodeRune, h1, h2, h3, h4]
    | b1 :: b2 :: r =>
      by_cases hc : ((if p0 == 0xE0 then 0xA0 else 0x80) ≤ b1 && b1 ≤ (if p0 == 0xED then 0x9F else 0xBF) && isCont b2) = true
      · have hm := mb3 p0 b1 b2 h3 h4 hc
        have e : decodeRune (p0 :: b1 :: b2 :: r) = ((p0 % 16) * 4096 + (b1 % 64) * 64 + b2 % 64, 3) := hm.dec r
        rw [e]; exact .inr hm
      · simp only [decodeRune, h1, h2, h3, h4, Bool.false_eq_true, if_true, if_false, hc, true_or]
  by_cases h5 : p0 < 0xF5
  · match rest with
    | [] => simp [decodeRune, h1, h2, h3, h4, h5]
    | [_] => simp [decodeRune, h1, h2, h3, h4, h5]
    | [_, _] => simp [decodeRune, h1, h2, h3, h4, h5]
    | b1 :: b2 :: b3 :: r =>
      by_cases hc : ((if p0 == 0xF0 then 0x90 else 0x80) ≤ b1 && b1 ≤ (if p0 == 0xF4 then 0x8F else 0xBF) && isCont b2 && isCont b3) = true
      · have hm := mb4 p0 b1 b2 b3 h4 h5 hc
        have e : decodeRune (p0 :: b1 :: b2 :: b3 :: r) =
            ((p0 % 8) * 262144 + (b1 % 64) * 4096 + (b2 % 64) * 64 + b3 % 64, 4) := hm.dec r
        rw [e]; exact .inr hm
      · simp only [decodeRune, h1, h2, h3, h4, h5, Bool.false_eq_true, if_true, if_false, hc, true_or]
  · simp [decodeRune, h1, h2, h3, h4, h5]

theorem decodeRune_size_pos (b : Nat) (rest : Bytes) : 1 ≤ (decodeRune (b :: rest)).2 := by
  rcases decodeRune_cons b rest with h | h
  · omega
  · have := h.len
    rw [List.length_take] at this
    omega

theorem tv_nil : toValidUtf8 [] = [] := by rw [toValidUtf8]

theorem tv_ascii (b : Nat) (r : Bytes) (h : b < 0x80) : toValidUtf8 (b :: r) = b :: toValidUtf8 r := by
  rw [toValidUtf8]; simp [decodeRune, h]

theorem tv_bad (b : Nat) (r : Bytes) (h : ¬ b < 0x80) (h2 : (decodeRune (b :: r)).2 ≤ 1) :
    toValidUtf8 (b :: r) = [0xEF, 0xBF, 0xBD] ++ toValidUtf8 r := by
  rw [toValidUtf8]; simp [h, h2]

theorem tv_mb (u : Bytes) (r : Nat) (rest : Bytes) (h : MB u r) : toValidUtf8 (u ++ rest) = u ++ toValidUtf8 rest := by
  match u, h with
  | [], h => have := h.len; simp at this
  | c :: u', h =>
    have hd := h.dec rest
    have hl := h.len
    rw [List.cons_append] at hd ⊢
    rw [toValidUtf8]
    have : ¬ (c :: u').length ≤ 1 := by omega
    simp only [hd, this, dite_false]
    simp

end Refmt.C03L
