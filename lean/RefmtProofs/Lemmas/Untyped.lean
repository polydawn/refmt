/-
  Facts that the untyped chain of C12, the typed leg and `UnmRetype` use and that are about none of C12's own
  definitions: sorting by key on any carrier (`sortI`, of which `sortKeys` is the case of pairs: `sortKeys_map_sortI`) and
  `sortKeys` on a sorted list; `List.all` over `::` and `++` (`of_all_*`); the flattening of a list of trees as a
  `flatMap`, with the two length facts behind the fuel bound of C12 (a piece of a concatenation of non-empty pieces
  starts at or after its index); the kinds of token `JsonDec.numTok` returns (`numTok_kinds`); C03's predicates and text
  function over lists of trees (`all_of_fold`: `DOkL` / `EOkL` are recursions of their own, not `List.all`).
-/
import RefmtModel
import RefmtProofs.Props.C03
import RefmtProofs.Props.C08
namespace Refmt.C12L
open Refmt Refmt.Obj Refmt.JsonEnc Refmt.C03L

def sortI {α : Type} (mode : KeySort) (kf : α → Bytes) (l : List α) : List α :=
  l.mergeSort fun x y => keyLe mode (kf x) (kf y)

theorem sortI_perm {α : Type} (mode : KeySort) (kf : α → Bytes) (l : List α) : (sortI mode kf l).Perm l :=
  List.mergeSort_perm l _

theorem sortKeys_map_sortI {α : Type} (mode : KeySort) (kf : α → Bytes) (g : α → Val) (l : List α) :
    sortKeys mode (l.map fun x => (kf x, g x)) = (sortI mode kf l).map fun x => (kf x, g x) := by
  unfold sortKeys sortI
  exact (List.map_mergeSort (f := fun (x : α) => (kf x, g x)) (r := fun (x y : α) => keyLe mode (kf x) (kf y))
    (s := fun (x y : Bytes × Val) => keyLe mode x.1 y.1) (fun _ _ _ _ => rfl)).symm

theorem sortI_of_sorted {α : Type} (mode : KeySort) (kf : α → Bytes) (l : List α)
    (h : (l.map kf).Pairwise (fun x y => keyLe mode x y = true)) : sortI mode kf l = l := by
  unfold sortI
  apply List.mergeSort_of_pairwise
  rw [List.pairwise_map] at h
  exact h

theorem sortI_singleton {α : Type} (mode : KeySort) (kf : α → Bytes) (x : α) : sortI mode kf [x] = [x] := by
  simp [sortI]

theorem sortKeys_mapVal (mode : KeySort) (g : Val → Val) (l : List (Bytes × Val)) :
    sortKeys mode (l.map fun p => (p.1, g p.2)) = (sortKeys mode l).map fun p => (p.1, g p.2) :=
  sortKeys_map_sortI mode Prod.fst (fun p => g p.2) l

theorem sortKeys_idem (mode : KeySort) (l : List (Bytes × Val)) : sortKeys mode (sortKeys mode l) = sortKeys mode l := by
  have := C08.sortKeys_sorted mode l
  conv => lhs; unfold sortKeys
  exact List.mergeSort_of_pairwise this

theorem all_of_fold {α : Type} {P : α → Bool} {PL : List α → Bool} (hnil : PL [] = true)
    (hcons : ∀ v vs, PL (v :: vs) = (P v && PL vs)) : ∀ l : List α, (∀ v ∈ l, P v = true) → PL l = true
  | [], _ => hnil
  | v :: vs, h => by
    rw [hcons, Bool.and_eq_true]
    exact ⟨h v (by simp), all_of_fold hnil hcons vs (fun x hx => h x (by simp [hx]))⟩

theorem of_all_cons {α : Type} {p : α → Bool} {x : α} {l : List α} (h : (x :: l).all p = true) : p x = true ∧ l.all p = true :=
  Bool.and_eq_true_iff.mp (List.all_cons.symm ▸ h)

theorem of_all_append {α : Type} {p : α → Bool} {l₁ l₂ : List α} (h : (l₁ ++ l₂).all p = true) :
    l₁.all p = true ∧ l₂.all p = true :=
  Bool.and_eq_true_iff.mp (List.all_append ▸ h)

theorem flattenList_map {α : Type} (T : α → TV) : ∀ l : List α, TV.flattenList (l.map T) = l.flatMap fun x => (T x).flatten
  | [] => rfl
  | x :: xs => by simp only [List.map_cons, TV.flattenList, List.flatMap_cons, flattenList_map T xs]

theorem flattenEntries_map {α : Type} (key : α → Bytes) (T : α → TV) : ∀ l : List α,
    TV.flattenEntries (l.map fun x => (TV.scalar ⟨.str (key x), none⟩, T x)) =
      l.flatMap fun x => ⟨.str (key x), none⟩ :: (T x).flatten
  | [] => rfl
  | x :: xs => by
    simp only [List.map_cons, TV.flattenEntries, TV.flatten, List.flatMap_cons, flattenEntries_map key T xs]
    rfl

theorem length_le_flatMap {α β : Type} (tk : α → List β) (hpos : ∀ x, 1 ≤ (tk x).length) :
    ∀ l : List α, l.length ≤ (l.flatMap tk).length
  | [] => Nat.le_refl _
  | x :: xs => by
    have := length_le_flatMap tk hpos xs
    have := hpos x
    simp only [List.length_cons, List.flatMap_cons, List.length_append]
    omega

theorem length_flatMap_ge {α β : Type} (tk : α → List β) (hpos : ∀ x, 1 ≤ (tk x).length) :
    ∀ (l : List α) (i : Nat) (h : i < l.length), i + (tk l[i]).length ≤ (l.flatMap tk).length
  | x :: xs, 0, _ => by simp
  | x :: xs, i+1, h => by
    have := length_flatMap_ge tk hpos xs i (by simpa using h)
    have := hpos x
    simp only [List.getElem_cons_succ, List.flatMap_cons, List.length_append]
    omega

theorem numTok_kinds {text : Bytes} {b' : Body} (h : JsonDec.numTok text = .ok b') :
    (∃ i, b' = .int i ∧ -(two63 : Int) ≤ i ∧ i < (two63 : Int)) ∨ (∃ m, b' = .uint m ∧ two63 ≤ m ∧ m < two64) ∨
      (∃ x, b' = .float x) := by
  rcases FloatL.numTok_ok text b' h with ⟨i, rfl, h1, h2⟩ | ⟨m, rfl, h1, h2⟩ | ⟨x, -, rfl | rfl⟩
  · exact .inl ⟨i, rfl, h1, h2⟩
  · exact .inr (.inl ⟨m, rfl, h1, h2⟩)
  · exact .inr (.inr ⟨_, rfl⟩)
  · exact .inr (.inr ⟨_, rfl⟩)

theorem txtL_congr (c : Cfg) (T T' : Val → TV) : ∀ (vs : List Val) (d : Nat) (sm : Bool),
    (∀ x ∈ vs, ∀ d, txtV c d (T' x) = txtV c d (T x)) →
    txtL c d sm (vs.map T') = txtL c d sm (vs.map T)
  | [], _, _, _ => rfl
  | x :: xs, d, sm, h => by
    simp only [List.map_cons, txtL]
    rw [h x (by simp) d, txtL_congr c T T' xs d true (fun y hy => h y (by simp [hy]))]

theorem txtE_congr (c : Cfg) (T T' : Val → TV) : ∀ (L : List (Bytes × Val)) (d : Nat) (sm : Bool),
    (∀ p ∈ L, ∀ d, txtV c d (T' p.2) = txtV c d (T p.2)) →
    txtE c d sm (L.map fun p => (TV.scalar ⟨.str p.1, none⟩, T' p.2)) =
      txtE c d sm (L.map fun p => (TV.scalar ⟨.str p.1, none⟩, T p.2))
  | [], _, _, _ => rfl
  | p :: ps, d, sm, h => by
    simp only [List.map_cons, txtE]
    rw [h p (by simp) d, txtE_congr c T T' ps d true (fun y hy => h y (by simp [hy]))]

theorem DOkE_of (T : Val → TV) : ∀ (L : List (Bytes × Val)), (∀ p ∈ L, DOk (T p.2) = true) →
    DOkE (L.map fun p => (TV.scalar ⟨.str p.1, none⟩, T p.2)) = true
  | [], _ => rfl
  | p :: ps, h => by
    simp only [List.map_cons, DOkE, Bool.and_eq_true]
    exact ⟨⟨trivial, h p (by simp)⟩, DOkE_of T ps (fun x hx => h x (by simp [hx]))⟩

theorem EOkE_of (T : Val → TV) : ∀ (L : List (Bytes × Val)), (∀ p ∈ L, EOk (T p.2) = true) →
    EOkE (L.map fun p => (TV.scalar ⟨.str p.1, none⟩, T p.2)) = true
  | [], _ => rfl
  | p :: ps, h => by
    simp only [List.map_cons, EOkE, Bool.and_eq_true]
    exact ⟨⟨trivial, h p (by simp)⟩, EOkE_of T ps (fun x hx => h x (by simp [hx]))⟩

theorem sortKeys_eq_of_sorted (mode : KeySort) (l l' : List (Bytes × Val)) (hp : l.Perm l')
    (hd : (l.map (·.1)).Nodup) (hs : l'.Pairwise (fun x y => keyLe mode x.1 y.1 = true)) : sortKeys mode l = l' := by
  rw [C08.sortKeys_unique mode l l' hp hd]
  unfold sortKeys
  exact List.mergeSort_of_pairwise hs

end Refmt.C12L
