/-
  The step equations of the five mutually recursive functions of the functional marshaller model (`marshalV`,
  `marshalBare`, `marshalList`, `marshalEntries`, `marshalFields`), one per machine and per form of the list, so that no
  proof unfolds the functions themselves (the keyed-union machine's equation through `unionOut`, what it wraps round its
  member's output, with `unionOut_ok_iff`, `unionOut_eq`, `unionOut_np`); and the five as one function `Job.out` of a call
  `Job`, for what holds of all of them (fuel 0 fails: `Job.out_zero`, `Job.fuel_pos`).
-/
import RefmtProofs.Lemmas.ObjMarshal
open Refmt Refmt.Obj Refmt.Obj.MM

namespace Refmt.MachL

variable {ts : Types} {a : Atlas} {trs : Trs}

theorem marshalList_zero (e xs) : marshalList ts a trs 0 e xs = .bad .panic := by
  rw [marshalList]
theorem marshalList_nil (f e) : marshalList ts a trs (f+1) e [] = .ok [] := by
  rw [marshalList]; simp
theorem marshalList_cons (f e x xs) : marshalList ts a trs (f+1) e (x :: xs) =
    (marshalV ts a trs f e x).seq fun _ => marshalList ts a trs f e xs := by
  rw [marshalList]

theorem marshalV_zero (id v) : marshalV ts a trs 0 id v = .bad .panic := by
  rw [marshalV]
theorem marshalV_succ (f id v) : marshalV ts a trs (f+1) id v =
    (if (peel ts 64 0 id).1 = 0 then marshalBare ts a trs f (peel ts 64 0 id).2 (pickBare ts a (peel ts 64 0 id).2) v
     else match derefN (peel ts 64 0 id).1 v with
       | none => .ok [⟨.null, none⟩]
       | some inner => marshalBare ts a trs f (peel ts 64 0 id).2 (pickBare ts a (peel ts 64 0 id).2) inner) := by
  rw [marshalV]
  cases peel ts 64 0 id with
  | mk n base =>
    simp only [beq_iff_eq]
    split
    · rfl
    · cases derefN n v <;> rfl

theorem marshalV_nonptr {ts : Types} {id : Nat} (hnp : ∀ e, ts.get id ≠ .ptr e) (a : Atlas) (trs : Trs)
    (f : Nat) (v : Val) : marshalV ts a trs (f+1) id v = marshalBare ts a trs f id (pickBare ts a id) v := by
  rw [marshalV_succ, ObjL.peel_nonptr ts 64 0 id hnp]
  rfl

theorem marshalBare_zero (id m v) : marshalBare ts a trs 0 id m v = .bad .panic := by
  rw [marshalBare]

/-- The functional model writes its key-type switch, its key enumeration and (for struct maps) its test of emittable
    fields inline; the stateful model has them as `MM.keyFnOf`, `MM.stringify`, `MM.emittable`.  That the two are the
    same expressions is what `rfl` checks in `marshalBare_map` and `marshalBare_struct`. -/
theorem marshalBare_map (f id kt vt mode v) : marshalBare ts a trs (f+1) id (.map kt vt mode) v =
    (match keyFnOf ts a kt, v with
     | none, _ => .bad .err
     | some kf, .map es =>
       (match stringify trs kf (es.getD []) with
        | none => .bad .err
        | some kvs =>
          if es.isNone then .ok [⟨.null, none⟩]
          else
            (MOut.ok [⟨.mapOpen (es.getD []).length, none⟩]).seq fun _ =>
            (marshalEntries ts a trs f vt (sortKeys mode kvs)).seq fun _ => .ok [⟨.mapClose, none⟩])
     | _, _ => .bad .panic) := by
  rw [marshalBare.eq_def]
  rfl

theorem marshalBare_prim (f id v) : marshalBare ts a trs (f+1) id .prim v = primTok ts id v := by
  rw [marshalBare.eq_def]
theorem marshalBare_errThunk (f id v) : marshalBare ts a trs (f+1) id .errThunk v = .bad .err := by
  rw [marshalBare.eq_def]
theorem marshalBare_panic (f id v) : marshalBare ts a trs (f+1) id .panic v = .bad .panic := by
  rw [marshalBare.eq_def]
theorem marshalBare_wild (f id v) : marshalBare ts a trs (f+1) id .wildcard v =
    (match v with
     | .iface none => .ok [⟨.null, none⟩]
     | .iface (some (dt, dv)) => marshalV ts a trs f dt dv
     | _ => .bad .panic) := by
  rw [marshalBare.eq_def]
  rfl
theorem marshalBare_slice (f id e v) : marshalBare ts a trs (f+1) id (.slice e) v =
    (match v with
     | .slice none => .ok [⟨.null, none⟩]
     | .slice (some es) =>
       (MOut.ok [⟨.arrOpen es.length, none⟩]).seq fun _ =>
       (marshalList ts a trs f e es).seq fun _ => .ok [⟨.arrClose, none⟩]
     | _ => .bad .panic) := by
  rw [marshalBare.eq_def]
  rfl
theorem marshalBare_array (f id e v) : marshalBare ts a trs (f+1) id (.array e) v =
    (match v with
     | .arr es =>
       (MOut.ok [⟨.arrOpen es.length, none⟩]).seq fun _ =>
       (marshalList ts a trs f e es).seq fun _ => .ok [⟨.arrClose, none⟩]
     | _ => .bad .panic) := by
  rw [marshalBare.eq_def]
  rfl
theorem marshalBare_struct (f id e fields v) : marshalBare ts a trs (f+1) id (.structMap e fields) v =
    ((MOut.ok [⟨.mapOpen (fields.filter (emittable v)).length, e.tag⟩]).seq fun _ =>
      (marshalFields ts a trs f (fields.filter (emittable v)) v).seq fun _ => .ok [⟨.mapClose, none⟩]) := by
  rw [marshalBare.eq_def]
  rfl

theorem marshalBare_transform (f id e fn mty v) : marshalBare ts a trs (f+1) id (.transform e fn mty) v =
    (match trs.m fn v with
     | none => .bad .err
     | some tv => retagFirst e.tag (marshalV ts a trs f mty tv)) := by
  rw [marshalBare.eq_def]
  rfl

def unionOut (name : Bytes) (inner : MOut) : MOut :=
  match inner.toks, inner.fail with
  | [], some f => .bad f
  | _, _ =>
    (MOut.ok [⟨.mapOpen 1, none⟩, ⟨.str name, none⟩]).seq fun _ => inner.seq fun _ => .ok [⟨.mapClose, none⟩]

theorem marshalBare_union_out (f id e ms v) : marshalBare ts a trs (f+1) id (.union e ms) v =
    (match v with
     | .iface none => .bad .err
     | .iface (some (dt, dv)) =>
       (match ms.find? fun x => (a.pool[x.2]?.map (·.ty)) == some dt with
        | none => .bad .err
        | some (name, idx) =>
          (match a.pool[idx]? with
           | none => .bad .panic
           | some me => unionOut name (marshalBare ts a trs f dt (machForEntry ts me) dv)))
     | _ => .bad .panic) := by
  rw [marshalBare.eq_def]
  rfl

theorem unionOut_ok_iff {name : Bytes} {inner : MOut} {toks : List Tok} : unionOut name inner = ⟨toks, none⟩ ↔
    ∃ t, inner = ⟨t, none⟩ ∧ toks = ⟨.mapOpen 1, none⟩ :: ⟨.str name, none⟩ :: (t ++ [⟨.mapClose, none⟩]) := by
  unfold unionOut
  split
  · next f _ hf =>
    refine ⟨fun h => absurd h ObjL.bad_ne, ?_⟩
    rintro ⟨t, rfl, -⟩
    cases hf
  · exact ObjL.bracket_ok_iff

theorem unionOut_eq {name : Bytes} {inner : MOut} (h : ¬ (inner.toks = [] ∧ inner.fail ≠ none)) :
    unionOut name inner = ⟨⟨.mapOpen 1, none⟩ :: ⟨.str name, none⟩ ::
      (inner.toks ++ (if inner.fail = none then [⟨.mapClose, none⟩] else [])), inner.fail⟩ := by
  unfold unionOut
  split
  · next h1 h2 => exact absurd ⟨h1, by simp [h2]⟩ h
  · cases hf : inner.fail <;> simp [MOut.seq, MOut.ok, hf]

theorem unionOut_np {name : Bytes} {inner : MOut} (h : (unionOut name inner).fail ≠ some .panic) :
    inner.fail ≠ some .panic := by
  intro hc
  unfold unionOut at h
  split at h
  · next f _ hf => rw [hc] at hf; cases hf; exact h rfl
  · simp [MOut.seq, MOut.ok, hc] at h

theorem unionOut_congr_np {name : Bytes} {x x' : MOut} (hnp : (unionOut name x).fail ≠ some .panic)
    (hx : x.fail ≠ some .panic → x' = x) : unionOut name x' = unionOut name x := by
  rw [hx (unionOut_np hnp)]

theorem marshalEntries_zero (vt xs) : marshalEntries ts a trs 0 vt xs = .bad .panic := by
  rw [marshalEntries]
theorem marshalEntries_nil (f vt) : marshalEntries ts a trs (f+1) vt [] = .ok [] := by
  rw [marshalEntries]; simp
theorem marshalEntries_cons (f vt k x rest) : marshalEntries ts a trs (f+1) vt ((k, x) :: rest) =
    ((MOut.ok [⟨.str k, none⟩]).seq fun _ =>
      (marshalV ts a trs f vt x).seq fun _ => marshalEntries ts a trs f vt rest) := by
  rw [marshalEntries]

theorem marshalFields_zero (fs v) : marshalFields ts a trs 0 fs v = .bad .panic := by
  rw [marshalFields]
theorem marshalFields_nil (f v) : marshalFields ts a trs (f+1) [] v = .ok [] := by
  rw [marshalFields]; simp
theorem marshalFields_cons (f fe rest v) : marshalFields ts a trs (f+1) (fe :: rest) v =
    (match traverse fe.route v with
     | none => .bad .panic
     | some fv =>
       (MOut.ok [⟨.str fe.name, none⟩]).seq fun _ =>
       (marshalV ts a trs f fe.ty fv).seq fun _ => marshalFields ts a trs f rest v) := by
  rw [marshalFields]
  cases traverse fe.route v <;> rfl

end Refmt.MachL

namespace Refmt.MRun

inductive Job
  | v (id : Nat) (v : Val)
  | bare (id : Nat) (m : Mach) (v : Val)
  | list (e : Nat) (vs : List Val)
  | entries (vt : Nat) (kvs : List (Bytes × Val))
  | fields (fs : List SMField) (v : Val)

def Job.out (ts : Types) (a : Atlas) (trs : Trs) (f : Nat) : Job → MOut
  | .v id x => marshalV ts a trs f id x
  | .bare id m x => marshalBare ts a trs f id m x
  | .list e xs => marshalList ts a trs f e xs
  | .entries vt kvs => marshalEntries ts a trs f vt kvs
  | .fields fs x => marshalFields ts a trs f fs x

theorem Job.out_zero (ts : Types) (a : Atlas) (trs : Trs) (job : Job) : job.out ts a trs 0 = .bad .panic := by
  cases job
  · exact MachL.marshalV_zero ..
  · exact MachL.marshalBare_zero ..
  · exact MachL.marshalList_zero ..
  · exact MachL.marshalEntries_zero ..
  · exact MachL.marshalFields_zero ..

theorem Job.fuel_pos {ts : Types} {a : Atlas} {trs : Trs} {f : Nat} {job : Job}
    (h : (job.out ts a trs f).fail ≠ some .panic) : ∃ f', f = f' + 1 := by
  cases f with
  | zero => exact absurd (by rw [Job.out_zero]; rfl) h
  | succ f' => exact ⟨f', rfl⟩

end Refmt.MRun

namespace Refmt.MachL

variable {ts : Types} {a : Atlas} {trs : Trs}

theorem marshalV_fuel_pos {f id v} (h : (marshalV ts a trs f id v).fail ≠ some .panic) : ∃ f', f = f' + 1 :=
  MRun.Job.fuel_pos (job := .v id v) h

theorem marshalBare_fuel_pos {f id m v} (h : (marshalBare ts a trs f id m v).fail ≠ some .panic) : ∃ f', f = f' + 1 :=
  MRun.Job.fuel_pos (job := .bare id m v) h

theorem marshalList_fuel_pos {f e xs} (h : (marshalList ts a trs f e xs).fail ≠ some .panic) : ∃ f', f = f' + 1 :=
  MRun.Job.fuel_pos (job := .list e xs) h

theorem marshalEntries_fuel_pos {f vt xs} (h : (marshalEntries ts a trs f vt xs).fail ≠ some .panic) :
    ∃ f', f = f' + 1 :=
  MRun.Job.fuel_pos (job := .entries vt xs) h

theorem marshalFields_fuel_pos {f fs v} (h : (marshalFields ts a trs f fs v).fail ≠ some .panic) : ∃ f', f = f' + 1 :=
  MRun.Job.fuel_pos (job := .fields fs v) h

theorem bad_fail (f : Fail) : (MOut.bad f).fail = some f := rfl

theorem ok_fail (t : List Tok) : (MOut.ok t).fail = none := rfl

theorem ok_toks (t : List Tok) : (MOut.ok t).toks = t := rfl

end Refmt.MachL
