/-
  Stateful object unmarshaller: the keyed union machine, and the machines of union members and tagged atlas entries.
-/
import RefmtProofs.Lemmas.UnmarshalMachLeaf
namespace Refmt.UMachU
open Refmt Refmt.Obj Refmt.Obj.UM

variable {ts : Types} {a : Atlas} {trs : Trs} {it : IfaceTys} {ub : Nat}

/-! ### A write to the union machine's fields of some row commutes with the
  `Reset` of any machine that is not a union machine (the union machine Resets its delegate BEFORE it records it). -/

def uw (U : UnionM → UnionM) (r : URow) : URow := { r with union := U r.union }

theorem requisition_uw (U : UnionM → UnionM) (f : Nat) (R : List URow) (id i : Nat) (hi : i < R.length) :
    requisition ts a f (updRow R i (uw U)) id
      = match requisition ts a f R id with
        | .error x => .error x
        | .ok (R1, d) => .ok (updRow R1 i (uw U), d) := by
  unfold requisition
  cases yieldU ts a f URow.zero id with
  | error x => rfl
  | ok p =>
    obtain ⟨row, k⟩ := p
    simp only [updRow_length]
    rw [updRow_snoc_lt _ _ _ _ hi]

def NoUD (R : List URow) (j : Nat) : Prop := ∀ row, R[j]? = some row → row.transform.delegate ≠ some .union

def afterUw (U : UnionM → UnionM) (i : Nat) : X (List URow) → X (List URow)
  | .error x => .error x
  | .ok R1 => .ok (updRow R1 i (uw U))

theorem get_uw {R : List URow} {i j : Nat} {row : URow} (U : UnionM → UnionM) (h : R[j]? = some row) :
    ∃ row', (updRow R i (uw U))[j]? = some row' ∧ row'.transform = row.transform ∧ row'.err = row.err := by
  by_cases hij : i = j
  · subst hij; exact ⟨uw U row, updRow_get_eq _ h, rfl, rfl⟩
  · exact ⟨row, by rw [updRow_get_ne _ hij]; exact h, rfl, rfl⟩

theorem afterUw_upd (U : UnionM → UnionM) (i j : Nat) (R : List URow) (h : URow → URow)
    (hc : ∀ r, uw U (h r) = h (uw U r)) :
    (.ok (updRow (updRow R i (uw U)) j h) : X (List URow)) = afterUw U i (.ok (updRow R j h)) :=
  congrArg Except.ok (updRow_comm _ _ _ _ _ hc)

theorem afterUw_ok {U : UnionM → UnionM} {i : Nat} {x : X (List URow)} {R' : List URow} (h : afterUw U i x = .ok R') :
    ∃ R, x = .ok R ∧ R' = updRow R i (uw U) := by
  cases x with
  | error e => cases h
  | ok R => cases h; exact ⟨R, rfl, rfl⟩

theorem reset_uw (U : UnionM → UnionM) (i : Nat) : ∀ (f : Nat) (m : URef) (rt : Nat) (v : Val) (R : List URow),
    i < R.length → m.kind ≠ .union → (m.kind = .transform → NoUD R m.row) →
    resetM ts a f m rt v (updRow R i (uw U)) = afterUw U i (resetM ts a f m rt v R) := by
  intro f
  induction f with
  | zero => intro m rt v R _ _ _; rfl
  | succ f ih =>
    intro m rt v R hi hk hnu
    obtain ⟨j, k⟩ := m
    simp only [resetM, resetBody]
    cases hr : R[j]? with
    | none => rw [updRow_get_none _ hr]; rfl
    | some row =>
      obtain ⟨row', hr', htr, her⟩ := get_uw (i := i) U hr
      rw [hr']
      cases k with
      | union => exact absurd rfl hk
      | ptr | prim | wild | struct =>
        simp only [resetPtr, resetPrim, resetWild, resetStruct]
        exact afterUw_upd U i _ _ _ fun _ => rfl
      | errThunk =>
        simp only [resetErr, her]
        cases row.err.err <;> rfl
      | map =>
        simp only [resetMap]
        cases ts.get rt with
        | map kt vt =>
          simp only [requisition_uw U f R vt i hi]
          cases requisition ts a f R vt with
          | error x => rfl
          | ok p =>
            obtain ⟨R1, d⟩ := p
            cases keyFnOfU ts a kt with
            | none => rfl
            | some kf => exact afterUw_upd U i _ _ _ fun _ => rfl
        | _ => rfl
      | slice =>
        simp only [resetSlice]
        cases ts.get rt with
        | slice e =>
          simp only [requisition_uw U f R e i hi]
          cases requisition ts a f R e with
          | error x => rfl
          | ok p =>
            obtain ⟨R1, d⟩ := p
            exact afterUw_upd U i _ _ _ fun _ => rfl
        | _ => rfl
      | array =>
        simp only [resetArray]
        cases ts.get rt with
        | arr n e =>
          simp only [requisition_uw U f R e i hi]
          cases requisition ts a f R e with
          | error x => rfl
          | ok p =>
            obtain ⟨R1, d⟩ := p
            exact afterUw_upd U i _ _ _ fun _ => rfl
        | _ => rfl
      | transform =>
        simp only [resetTransform, htr]
        cases hd : row.transform.delegate with
        | none => rfl
        | some k' =>
          rw [updRow_comm R i j (uw U) _ (by intro r; rfl)]
          apply ih
          · rw [updRow_length]; exact hi
          · intro hku; exact hnu rfl row hr (by rw [hd, show k' = MK.union from hku])
          · intro _ r2 hr2
            rw [updRow_get_eq _ hr] at hr2
            cases hr2
            exact hnu rfl row hr

/-! ### The keyed union machine  ~  `unmBare … (.union ms)`.
  Its own phases (map open, key, map close) are stepped here; in the delegate phase it is a link of the chain `Wr`
  (`Wr.union`, below at most the pointer machine: `Wr.ptrU`) above the member's machine, which lives in `slab.tip()` (a
  row the union machine re-configures: `union_geom`). -/

def unReset (v : Val) (rt : Nat) (u : UnionM) : UnionM := { u with target_rv := v, target_rt := rt, phase := .acceptMapOpen }
def unDel (tmp : Val) (ty : Nat) (dl : URef) (u : UnionM) : UnionM :=
  { u with tmp_rv := tmp, tmp_rt := ty, delegate := some dl, phase := .delegate }

theorem union_reset {f : Nat} {lo hi : List URow} {row : URow} {rt : Nat} {v : Val} :
    resetM ts a (f+1) ⟨lo.length, .union⟩ rt v (lo ++ row :: hi) = .ok (lo ++ uw (unReset v rt) row :: hi) := by
  simp only [resetM, resetBody, RowL.getRow, resetUnion, updRow_at]
  rfl

theorem union_step_open_ok {f : Nat} {lo hi : List URow} {row : URow} {stk st be} {t : Tok} {len : Int}
    (hph : row.union.phase = .acceptMapOpen) (ht : t.body = .mapOpen len) (hlen : (len != -1 && len != 1) = false) :
    stepM ts a trs it (f+1) ⟨lo.length, .union⟩ ⟨lo ++ row :: hi, stk, st, be⟩ t
      = .ok ⟨none, ⟨lo ++ uw (fun u => { u with phase := .acceptKey }) row :: hi, stk, st, be⟩⟩ := by
  simp only [stepM, stepBody, RowL.getRow, stepUnion, hph, ht, hlen, Bool.false_eq_true, if_false, cont, upd_at]
  rfl

theorem union_step_open_bad {f : Nat} {lo hi : List URow} {row : URow} {stk st be} {t : Tok}
    (hph : row.union.phase = .acceptMapOpen) (h : ∀ len, t.body = .mapOpen len → (len != -1 && len != 1) = true) :
    stepM ts a trs it (f+1) ⟨lo.length, .union⟩ ⟨lo ++ row :: hi, stk, st, be⟩ t = .error (.f .err) := by
  simp only [stepM, stepBody, RowL.getRow, stepUnion, hph]
  cases hb : t.body with
  | mapOpen len => simp only [h len hb, if_true]; rfl
  | _ => rfl

theorem union_step_close_ok {f : Nat} {lo hi : List URow} {row : URow} {stk st be} {t : Tok}
    (hph : row.union.phase = .acceptMapClose) (ht : t.body = .mapClose) :
    stepM ts a trs it (f+1) ⟨lo.length, .union⟩ ⟨lo ++ row :: hi, stk, st, be⟩ t
      = .ok ⟨some (.iface (some (row.union.tmp_rt, row.union.tmp_rv))), ⟨lo ++ row :: hi, stk, st, be⟩⟩ := by
  simp only [stepM, stepBody, RowL.getRow, stepUnion, hph, ht]
  rfl

theorem union_step_close_bad {f : Nat} {lo hi : List URow} {row : URow} {stk st be} {t : Tok}
    (hph : row.union.phase = .acceptMapClose) (ht : t.body ≠ .mapClose) :
    stepM ts a trs it (f+1) ⟨lo.length, .union⟩ ⟨lo ++ row :: hi, stk, st, be⟩ t = .error (.f .err) := by
  simp only [stepM, stepBody, RowL.getRow, stepUnion, hph]
  cases hb : t.body with
  | mapClose => exact absurd hb ht
  | _ => rfl

def findM (ms : List (Bytes × Nat)) (name : Bytes) : Option (Bytes × Nat) := ms.find? fun m => m.1 == name

theorem findM_eq (ms : List (Bytes × Nat)) (name : Bytes) :
    (ms.find? fun (nm, _) => nm == name) = findM ms name := by
  unfold findM; congr 1

theorem union_step_key_bad {f : Nat} {lo hi : List URow} {row : URow} {stk st be} {t : Tok}
    (hph : row.union.phase = .acceptKey)
    (hbad : (∀ name, t.body ≠ .str name) ∨ (∃ name, t.body = .str name ∧ findM row.union.members name = none)) :
    stepM ts a trs it (f+1) ⟨lo.length, .union⟩ ⟨lo ++ row :: hi, stk, st, be⟩ t = .error (.f .err) := by
  simp only [stepM, stepBody, RowL.getRow, stepUnion, hph]
  rcases hbad with h | ⟨name, h1, h2⟩
  · cases hb : t.body with
    | str name => exact absurd hb (h name)
    | _ => rfl
  · rw [h1]; simp only [findM_eq, h2]; rfl

theorem union_step_key_nopool {f : Nat} {lo hi : List URow} {row : URow} {stk st be} {t : Tok} {name nm : Bytes} {idx : Nat}
    (hph : row.union.phase = .acceptKey) (ht : t.body = .str name)
    (hfind : findM row.union.members name = some (nm, idx)) (hpool : a.pool[idx]? = none) :
    stepM ts a trs it (f+1) ⟨lo.length, .union⟩ ⟨lo ++ row :: hi, stk, st, be⟩ t = .error (.f .panic) := by
  simp only [stepM, stepBody, RowL.getRow, stepUnion, hph, ht, findM_eq, hfind, hpool]
  rfl

theorem union_step_key {f : Nat} {lo hi : List URow} {row : URow} {stk st be} {t : Tok} {name nm : Bytes} {idx : Nat}
    {me : Entry} {trow trow' : URow} {k : MK} {R2 : List URow}
    (hph : row.union.phase = .acceptKey) (ht : t.body = .str name)
    (hfind : findM row.union.members name = some (nm, idx)) (hpool : a.pool[idx]? = some me)
    (htip : (lo ++ row :: hi)[tipIx (lo ++ row :: hi)]? = some trow)
    (hcfg : cfgU ts a f trow me.ty (umachForEntry ts me) = .ok (trow', k))
    (hres : resetM ts a f ⟨tipIx (lo ++ row :: hi), k⟩ me.ty (zeroVal ts 64 me.ty)
      ((lo ++ row :: hi).set (tipIx (lo ++ row :: hi)) trow') = .ok R2) :
    stepM ts a trs it (f+1) ⟨lo.length, .union⟩ ⟨lo ++ row :: hi, stk, st, be⟩ t
      = .ok ⟨none, ⟨updRow R2 lo.length (uw (unDel (zeroVal ts 64 me.ty) me.ty ⟨tipIx (lo ++ row :: hi), k⟩)),
          stk, st, be⟩⟩ := by
  simp only [stepM, stepBody, RowL.getRow, stepUnion, hph, ht, findM_eq, hfind, hpool, htip, hcfg, hres, cont]
  rfl

theorem simDelegate {S : List Nat} {wi : Option Nat} {n : Nat} (hS : Closed ts a S wi)
    (hAll : ∀ m, m < n → SimL ts a trs it ub S wi m)
    {ty : Nat} {M : UMach} (hokm : okMember ts a S wi M) (hty : TyShape ts ty M) : SimMember ts a trs it ub n ty M := by
  intro L T stk be c un w0 du k hcfg hw hdu cur toks fr sf1 sf hfr hsf1 hsf
  cases n with
  | zero => rw [unmBare_zero]; trivial
  | succ m =>
  cases M with
  | transform fn uty =>
    obtain ⟨rfl, hfn, hrt, k', hdl, hcl⟩ := hcfg
    obtain ⟨f, rfl⟩ : ∃ f, fr = f + 1 := ⟨fr - 1, by omega⟩
    exact simTr hS (fun m' h => hAll m' (Nat.lt_succ_of_lt h)) hokm.2.toLeaf cur L T [] stk be c w0 du toks f sf1 sf hfn
      hrt hdl hcl hw hdu (by omega) hsf1 hsf
  | structMap _ | map _ _ =>
    exact simLeaf hS (hAll m (Nat.lt_succ_self m)) hty (okSub.toLeaf (ts := ts) (a := a) hokm) hcfg cur L [] stk be c some
      w0 du toks fr sf1 sf hw (by omega) (by omega) hsf1 hsf
  | _ => exact hokm.elim

theorem leafResetOk {S : List Nat} {wi : Option Nat} {f : Nat} (hS : Closed ts a S wi) {base : Nat} {M : UMach}
    (hty : TyShape ts base M) (hok : okSub ts a S wi M) (L : List URow) (T : URow) (k : MK) (hcfg : CfgLeaf T base k M)
    (v : Val) : ∃ R2, resetM ts a (f+5) ⟨L.length, k⟩ base v (L ++ T :: []) = .ok R2 := by
  cases M with
  | structMap fs =>
    obtain ⟨rfl, _⟩ := hcfg
    exact ⟨_, struct_reset⟩
  | slice e =>
    obtain rfl : k = .slice := hcfg
    obtain ⟨crow, ck, hreq, _⟩ := requisition_cov (L ++ T :: []) hS hok
    exact ⟨_, slice_reset hty (hreq f)⟩
  | array nn e =>
    obtain rfl : k = .array := hcfg
    obtain ⟨crow, ck, hreq, _⟩ := requisition_cov (L ++ T :: []) hS hok
    exact ⟨_, array_reset hty (hreq f)⟩
  | map kt e =>
    obtain rfl : k = .map := hcfg
    obtain ⟨crow, ck, hreq, _⟩ := requisition_cov (L ++ T :: []) hS hok.1
    obtain ⟨kf, hkf⟩ := Option.isSome_iff_exists.mp hok.2
    exact ⟨_, map_reset_ok hty hkf (hreq f)⟩
  | _ => exact hok.elim

theorem memberResetOk {S : List Nat} {wi : Option Nat} {f : Nat} (hS : Closed ts a S wi) {ty : Nat} {M : UMach}
    (hokm : okMember ts a S wi M) (hty : TyShape ts ty M)
    (L : List URow) (T : URow) (k : MK) (hcfg : CfgBare ts a T ty k M) (v : Val) :
    ∃ R2, resetM ts a (f+7) ⟨L.length, k⟩ ty v (L ++ T :: []) = .ok R2 := by
  cases M with
  | structMap _ | map _ _ => exact leafResetOk hS hty hokm L T k hcfg v
  | transform fn uty =>
    obtain ⟨rfl, hfn, hrt, k', hdl, hcl⟩ := hcfg
    rw [transform_reset hdl, hrt]
    exact leafResetOk hS (upick_shape uty) hokm.2 L _ k' (hcl.same (rowTr_same ts T v)) _
  | _ => exact hokm.elim

theorem WrP.throughUnion {c : URef} {lo : List URow} {row : URow} {w : Val → Val} {d : Nat} (hwp : WrP c lo row .union w d)
    {L : List URow} {T ru : URow} {k : MK} (hr : (L ++ [T])[lo.length]? = some ru) (hp : ru.ptr = row.ptr)
    (hph : ru.union.phase = .delegate) (hdl : ru.union.delegate = some ⟨L.length, k⟩) :
    Wr trs.u c L T k some _root_.id (1 + d) (some lo.length) := by
  have h := Wr.union (U := trs.u) hr hph hdl (Wr.refl L T k)
  cases hwp with
  | refl => exact h
  | ptrS hm hf => exact Wr.ptrU hr (by rw [hp]; exact hm) (by rw [hp]; exact hf) h

theorem Wr.nd {c lo row mk F w d i} (h : Wr trs.u c lo row mk F w d (some i)) (hi : List URow) (stk st be) (t : Tok)
    (f : Nat) : ∀ res, stepM ts a trs it (f+d) c ⟨lo ++ row :: hi, stk, st, be⟩ t = .ok res → res.done = none := by
  intro res hres
  rw [h.step] at hres
  generalize mapDone w (mapDoneO F (stepM ts a trs it f ⟨lo.length, mk⟩ ⟨lo ++ row :: hi, stk, st, be⟩ t)) = y at hres
  cases y with
  | error e => cases hres
  | ok r => cases r with | mk dn s' => cases dn <;> (simp only [finU] at hres; cases hres; rfl)

theorem ustep_nd {f : Nat} {R stk c be} {t : Tok}
    (h : ∀ res, stepM ts a trs it f c ⟨R, stk, some c, be⟩ t = .ok res → res.done = none) :
    ∀ res, ustep ts a trs it (f+1) ⟨R, stk, some c, be⟩ t = .ok res → res.done = none := by
  intro res hres
  simp only [ustep, ustepBody] at hres
  cases hs : stepM ts a trs it f c ⟨R, stk, some c, be⟩ t with
  | error x => rw [hs] at hres; cases hres
  | ok r =>
    rw [hs] at hres
    have hd := h r hs
    simp only [hd] at hres
    injection hres with hres
    rw [← hres]; exact hd

/-- what is known of the union machine's row after its delegate completed with `v` -/
structure Closing (row rowF : URow) (v : Val) (ty : Nat) : Prop where
  mach : rowF.ptr.mach = row.ptr.mach
  peelCount : rowF.ptr.peelCount = row.ptr.peelCount
  firstStep : rowF.ptr.firstStep = row.ptr.firstStep
  members : rowF.union.members = row.union.members
  phase : rowF.union.phase = .acceptMapClose
  tmp_rv : rowF.union.tmp_rv = v
  tmp_rt : rowF.union.tmp_rt = ty

theorem union_after_key {S : List Nat} {wi : Option Nat} {n : Nat} (hS : Closed ts a S wi) (hub : 1 ≤ ub)
    (hAll : ∀ m, m < n → SimL ts a trs it ub S wi m)
    {ty : Nat} {M : UMach} (hokm : okMember ts a S wi M) (hty : TyShape ts ty M)
    {c : URef} {lo : List URow} {row : URow} {w : Val → Val} {d : Nat} (hwp : WrP c lo row .union w d)
    (Lp : List URow) (Tp : URow) (k : MK) (stk : List URef) (be : Option XFail)
    (hcfg : CfgBare ts a Tp ty k M) (hw : Wr trs.u c Lp Tp k some _root_.id (1 + d) (some lo.length))
    (hfin : ∀ (T3 : URow) (hi3 : List URow) (v : Val), SameCfg Tp T3 →
      ∃ rowF hiF, updRow (Lp ++ T3 :: hi3) lo.length (closeU v) = lo ++ rowF :: hiF ∧ Closing row rowF v ty)
    (cur : Val) (toks : List Tok) (fr sf : Nat) (hfr : 8 ≤ fr) (hsf : 14 + 3 * ub ≤ sf) {base : Nat} :
    Agree ts a trs it ub (StillBare ts a row base .union (.union row.union.members)) none c sf be stk lo some w
      ((rtpB ts a trs it fr sf sf (Lp ++ Tp :: []) stk be c ⟨Lp.length, k⟩ ty cur toks).shift 2)
      ((unmBare ts a trs it n ty M cur toks).bind' (unionClose ty) 2) := by
  have hd := hwp.le
  have hA := simDelegate (trs := trs) (it := it) hS hAll hokm hty Lp Tp stk be c (some lo.length) _root_.id (1 + d) k hcfg
    hw (by omega) cur toks fr sf sf (by omega) (by omega) hsf
  revert hA
  generalize rtpB ts a trs it fr sf sf (Lp ++ Tp :: []) stk be c ⟨Lp.length, k⟩ ty cur toks = x
  generalize unmBare ts a trs it n ty M cur toks = r
  intro hA
  cases r with
  | panic u => trivial
  | more u => simp only [Agree] at hA; rw [hA]; rfl
  | err u => simp only [Agree] at hA; rw [hA]; rfl
  | ok v r' u =>
    obtain ⟨hu, T3, hi3, fa, hs3, hfa, hx⟩ := hA
    obtain ⟨rowF, hiF, hR, hm, hpc, hfs, hmem, hph, htv, htt⟩ := hfin T3 hi3 v hs3
    simp only [kontU, _root_.id, hR] at hx
    have hwF : WrP c lo rowF .union w d := hwp.of_fields hm hfs hpc
    have hsw : ∀ r', SameCfg rowF r' → StillBare ts a row base .union (.union row.union.members) r' :=
      fun r' hk => ⟨⟨rfl, hk.members.trans hmem⟩, hk.mach.trans hm, hk.peelCount.trans hpc⟩
    cases r' with
    | nil =>
      rw [hx, URes.bind'_ok, unionClose_nil]
      simp [pump, URes.shift, Agree]; omega
    | cons cl r'' =>
      obtain ⟨g, rfl⟩ : ∃ g, sf = g + 1 + d + 1 := ⟨sf - d - 2, by omega⟩
      by_cases hc : cl.body = .mapClose
      · have hst := union_step_close_ok (ts := ts) (a := a) (trs := trs) (it := it) (f := g) (lo := lo) (hi := hiF)
          (stk := stk) (st := some c) (be := be) hph hc
        have hfinA := Agree.fin (ub := ub) (rest := r'') hwF.toWr (.all _) hst (SameCfg.refl rowF) (by omega)
        have h2 := hfinA.shiftK (u + 2) hsw
        rw [URes.bind'_ok, unionClose_close _ _ _ _ hc, hx, URes.shift_shift, URes.shift_shift,
          show 1 + (u - 1 + 2) = u + 2 by omega]
        rw [htv, htt] at h2
        have e : (URes.ok (Val.iface (some (ty, v))) r'' 1).shift (u + 2) = .ok (Val.iface (some (ty, v))) r'' (u + 3) := by
          simp only [URes.shift]; congr 1; omega
        rw [e] at h2; exact h2
      · rw [URes.bind'_ok, unionClose_other _ _ _ _ hc, hx,
          (hwF.toWr (U := trs.u)).run_err (.all _) (union_step_close_bad (f := g) hph hc)]
        simp [XFail.toURes, URes.shift, Agree]; omega

theorem pump_as_rtpB {g sf : Nat} {Rpre Rpost : List URow} {stk be} {c dl : URef} {ty : Nat} {cur : Val}
    (hres : resetM ts a g dl ty cur Rpre = .ok Rpost)
    (hnd : ∀ t, ∀ res, ustep ts a trs it sf ⟨Rpost, stk, some c, be⟩ t = .ok res → res.done = none)
    (toks : List Tok) :
    pump ts a trs it sf ⟨Rpost, stk, some c, be⟩ toks = rtpB ts a trs it g sf sf Rpre stk be c dl ty cur toks := by
  cases toks with
  | nil => rfl
  | cons t rest =>
    simp only [rtpB, hres]
    exact pump_eq_pump1 (hnd t)

/-- the union machine (row `lo.length`, `row2`) hands `slab.tip()` to the machine `k` of the member named by the key: the
    tip row `trow` is configured for it (`T'`) and the machine records its delegate (`unDel`).  The chain then goes
    through the union machine down to the delegate in the last row, and once the delegate has completed with `v`, leaving
    `T3` of its row, the union machine's row is ready for the closing token -/
theorem union_geom {c : URef} {lo tl : List URow} {row2 trow T' : URow} {w : Val → Val} {d : Nat}
    (hwp : WrP c lo row2 .union w d) (htip : (lo ++ row2 :: tl)[tipIx (lo ++ row2 :: tl)]? = some trow)
    (hTp : T'.ptr = trow.ptr) (hTu : T'.union.members = trow.union.members) (tmp : Val) (ty : Nat) (k : MK) :
    ∃ L T, updRow ((lo ++ row2 :: tl).set (tipIx (lo ++ row2 :: tl)) T') lo.length
          (uw (unDel tmp ty ⟨tipIx (lo ++ row2 :: tl), k⟩)) = L ++ T :: [] ∧
      tipIx (lo ++ row2 :: tl) = L.length ∧ SameCfgC T' T ∧
      Wr trs.u c L T k some _root_.id (1 + d) (some lo.length) ∧
      ∀ (T3 : URow) (hi3 : List URow) (v : Val), SameCfg T T3 →
        ∃ rowF hiF, updRow (L ++ T3 :: hi3) lo.length (closeU v) = lo ++ rowF :: hiF ∧ Closing row2 rowF v ty := by
  rcases tip_set_upd htip T' (uw (unDel tmp ty ⟨tipIx (lo ++ row2 :: tl), k⟩)) with
    ⟨rfl, rfl, hN, hR⟩ | ⟨mid, grow, rfl, hN, hR⟩
  · rw [hN] at hR ⊢
    refine ⟨lo, _, hR, rfl, ⟨rfl, rfl, rfl, rfl, rfl, rfl, rfl, rfl⟩,
      hwp.throughUnion (RowL.getRow lo (uw _ T') []) hTp rfl rfl, fun T3 hi3 v hs => ⟨closeU v T3, hi3, updRow_at _ _ _ _, ?_⟩⟩
    exact ⟨hs.mach.trans (congrArg PtrM.mach hTp), hs.peelCount.trans (congrArg PtrM.peelCount hTp),
      hs.firstStep.trans (congrArg PtrM.firstStep hTp), hs.members.trans hTu, rfl, rfl, hs.tmp_rt⟩
  · rw [hN] at hR ⊢
    have hUp : ∀ u : UnionM, (unDel tmp ty ⟨lo.length + 1 + mid.length, k⟩ u).phase = .delegate ∧
        (unDel tmp ty ⟨lo.length + 1 + mid.length, k⟩ u).delegate = some ⟨lo.length + 1 + mid.length, k⟩ ∧
        (unDel tmp ty ⟨lo.length + 1 + mid.length, k⟩ u).members = u.members ∧
        (unDel tmp ty ⟨lo.length + 1 + mid.length, k⟩ u).tmp_rt = ty := fun _ => ⟨rfl, rfl, rfl, rfl⟩
    generalize unDel tmp ty ⟨lo.length + 1 + mid.length, k⟩ = U at hR hUp ⊢
    have hLp : (lo ++ uw U row2 :: mid).length = lo.length + 1 + mid.length := RowL.len_at _ _ _
    refine ⟨lo ++ uw U row2 :: mid, T', hR, hLp.symm, (SameCfg.refl T').toC,
      hwp.throughUnion (ru := uw U row2) (by simp) rfl (hUp _).1 (by rw [hLp]; exact (hUp _).2.1),
      fun T3 hi3 v _ => ⟨closeU v (uw U row2), mid ++ T3 :: hi3, ?_, rfl, rfl, rfl, (hUp _).2.2.1, rfl, rfl,
        (hUp _).2.2.2⟩⟩
    rw [show (lo ++ uw U row2 :: mid) ++ T3 :: hi3 = lo ++ uw U row2 :: (mid ++ T3 :: hi3) by simp, updRow_at]

theorem union_key {S : List Nat} {wi : Option Nat} {n : Nat} (hS : Closed ts a S wi) (hub : 1 ≤ ub)
    (hAll : ∀ m, m < n → SimL ts a trs it ub S wi m)
    {me : Entry} (hokm : okMember ts a S wi (umachForEntry ts me))
    {c : URef} {lo : List URow} {row2 : URow} {w : Val → Val} {d : Nat} (hwp : WrP c lo row2 .union w d)
    (hph : row2.union.phase = .acceptKey) (tl : List URow) (stk : List URef) (be : Option XFail) (kt : Tok)
    (rest2 : List Tok) {name nm : Bytes} {idx : Nat} (hk : kt.body = .str name)
    (hfind : findM row2.union.members name = some (nm, idx)) (hpool : a.pool[idx]? = some me)
    (sf : Nat) (hsf : 14 + 3 * ub ≤ sf) {base : Nat} :
    Agree ts a trs it ub (StillBare ts a row2 base .union (.union row2.union.members)) none c sf be stk lo some w
      ((pump ts a trs it sf ⟨lo ++ row2 :: tl, stk, some c, be⟩ (kt :: rest2)).shift 1)
      ((unmBare ts a trs it n me.ty (umachForEntry ts me) (zeroVal ts 64 me.ty) rest2).bind' (unionClose me.ty) 2) := by
  have hd := hwp.le
  obtain ⟨g, rfl⟩ : ∃ g, sf = g + 7 + 1 + d + 1 := ⟨sf - d - 9, by omega⟩
  obtain ⟨trow, htip⟩ := tip_get lo row2 tl
  obtain ⟨T', k, hcfgU, hTp, _, hTu, hcfg, hku, hktr⟩ := cfgMember (f := g + 4) trow me.ty hokm
  obtain ⟨L, T, hR, hN, hC, hch, hfin⟩ := union_geom (trs := trs) hwp htip hTp (by rw [hTu]) (zeroVal ts 64 me.ty) me.ty k
  have hcfgT := hcfg.sameC hC
  -- the member's `Reset` cannot fail; the union machine runs it BEFORE it records the delegate, the simulation of the
  -- member's machine wants the record made first
  obtain ⟨R2', hres'⟩ := memberResetOk (f := g) hS hokm (umachForEntry_shape me) L T k hcfgT (zeroVal ts 64 me.ty)
  have hlt : tipIx (lo ++ row2 :: tl) < (lo ++ row2 :: tl).length := by simp [tipIx]
  have huw := reset_uw (ts := ts) (a := a) (unDel (zeroVal ts 64 me.ty) me.ty ⟨tipIx (lo ++ row2 :: tl), k⟩) lo.length
    (g + 7) ⟨tipIx (lo ++ row2 :: tl), k⟩ me.ty (zeroVal ts 64 me.ty)
    ((lo ++ row2 :: tl).set (tipIx (lo ++ row2 :: tl)) T') (by simp) hku
    (by intro hkt r hr; rw [List.getElem?_set_self hlt] at hr; cases hr; exact hktr hkt)
  rw [hR, hN, hres'] at huw
  obtain ⟨R2, hres, rfl⟩ := afterUw_ok huw.symm
  have hstep := union_step_key (ts := ts) (a := a) (trs := trs) (it := it) (f := g + 7) (lo := lo) (hi := tl)
    (row := row2) (stk := stk) (st := some c) (be := be) (t := kt) hph hk hfind hpool htip hcfgU
    (by rw [hN]; exact hres)
  rw [hN] at hstep
  rw [(hwp.toWr (U := trs.u)).run_cont (.all _) hstep, URes.shift_shift]
  -- after its `Reset` the member's machine never reports done to the driver: the union machine is above it
  obtain ⟨T3, hi3, hR2, _, hc⟩ := cfg_frame hcfgT (g + 7) me.ty (zeroVal ts 64 me.ty) T [] _ rfl hres'
  have hnd : ∀ t, ∀ res, ustep ts a trs it (g + 7 + 1 + d + 1)
      ⟨updRow R2 lo.length (uw (unDel (zeroVal ts 64 me.ty) me.ty ⟨L.length, k⟩)), stk, some c, be⟩ t = .ok res →
      res.done = none := by
    intro t
    rw [hR2]
    have hnd1 := (hc hokm.noBorrow hch).nd (ts := ts) (a := a) (it := it) hi3 stk (some c) be t (g + 7)
    rw [← Nat.add_assoc] at hnd1
    exact ustep_nd hnd1
  rw [pump_as_rtpB hres' hnd]
  exact union_after_key hS hub hAll hokm (umachForEntry_shape me) hwp L T k stk be hcfgT hch hfin _ rest2
    (g + 7) _ (by omega) hsf

theorem simBare_union {S : List Nat} {wi : Option Nat} {n : Nat} (hS : Closed ts a S wi) (hub : 1 ≤ ub)
    (hAll : ∀ m, m < n → SimL ts a trs it ub S wi m)
    {base : Nat} {ms : List (Bytes × Nat)} (hok : ∀ m ∈ ms, okMemIdx ts a S wi m.2) {row : URow}
    (hmem : row.union.members = ms) : SimBare ts a trs it ub (n+1) base .union (.union ms) row := by
  refine SimBare.of_cons fun cur lo hi stk be c w d t rest f sf1 sf hwp hfr hsf1 hsf => ?_
  have hd := hwp.le
  obtain ⟨g, rfl⟩ : ∃ g, sf1 = g + 1 + d + 1 := ⟨sf1 - d - 2, by omega⟩
  simp only [rtpB, union_reset]
  rw [unmBare_union]
  have hw1 : WrP c lo (uw (unReset cur base) row) .union w d := hwp.congr rfl
  by_cases hgood : ∃ len, t.body = .mapOpen len ∧ (len != -1 && len != 1) = false
  · obtain ⟨len, hb, hlen⟩ := hgood
    rw [(hw1.toWr (U := trs.u)).run_cont (.first _ _) (union_step_open_ok (f := g) rfl hb hlen)]
    generalize hrow2 : uw (fun u => { u with phase := UPhase.acceptKey }) (uw (unReset cur base) row) = row2
    have hw2 : WrP c lo row2 .union w d := by subst hrow2; exact hw1.congr rfl
    have hmem2 : row2.union.members = ms := by subst hrow2; exact hmem
    have hph2 : row2.union.phase = .acceptKey := by subst hrow2; rfl
    have hp2 : row2.ptr = row.ptr := by subst hrow2; rfl
    cases rest with
    | nil => simp only [hb, hlen, Bool.false_eq_true, if_false]; rfl
    | cons kt rest2 =>
      obtain ⟨h', rfl⟩ : ∃ h', sf = h' + 1 + d + 1 := ⟨sf - d - 2, by omega⟩
      by_cases hkey : ∃ name nm idx, kt.body = .str name ∧ findM ms name = some (nm, idx)
      · obtain ⟨name, nm, idx, hk, hfind⟩ := hkey
        cases hpool : a.pool[idx]? with
        | none =>
          simp only [hb, hlen, hk, findM_eq, hfind, hpool, Bool.false_eq_true, if_false]; trivial
        | some me =>
          have hokm : okMember ts a S wi (umachForEntry ts me) := by
            have := hok (nm, idx) (List.mem_of_find?_eq_some hfind)
            simpa [okMemIdx, hpool] using this
          simp only [hb, hlen, hk, findM_eq, hfind, hpool, Bool.false_eq_true, if_false]
          split
          · next h => rw [h] at hokm; exact hokm.elim
          · next h => rw [h] at hokm; exact hokm.elim
          have hA := union_key (base := base) hS hub hAll hokm hw2 hph2 hi stk be kt rest2 hk (by rw [hmem2]; exact hfind)
            hpool _ hsf
          exact hA.rekeep fun r' h => ⟨⟨rfl, h.cfg.2.trans hmem2⟩, h.mach.trans (by rw [hp2]), h.peelCount.trans (by rw [hp2])⟩
      · have hbad : (∀ name, kt.body ≠ .str name) ∨
            (∃ name, kt.body = .str name ∧ findM row2.union.members name = none) := by
          by_cases hs : ∃ name, kt.body = .str name
          · obtain ⟨name, hk⟩ := hs
            cases hf : findM ms name with
            | none => exact Or.inr ⟨name, hk, by rw [hmem2]; exact hf⟩
            | some p => exact absurd ⟨name, p.1, p.2, hk, hf⟩ hkey
          · exact Or.inl (fun name h => hs ⟨name, h⟩)
        rw [(hw2.toWr (U := trs.u)).run_err (.all _) (union_step_key_bad (f := h') hph2 hbad)]
        simp only [hb, hlen, Bool.false_eq_true, if_false]
        rcases hbad with h | ⟨name, hk, hf⟩
        · split
          · next name hk => exact absurd hk (h name)
          · rfl
        · simp only [hk, findM_eq, ← hmem2, hf]
          rfl
  · have hbad : ∀ len, t.body = .mapOpen len → (len != -1 && len != 1) = true := fun len hb => by
      cases hl : (len != -1 && len != 1)
      · exact absurd ⟨len, hb, hl⟩ hgood
      · rfl
    rw [(hw1.toWr (U := trs.u)).run_err (.first _ _) (union_step_open_bad (f := g) rfl hbad)]
    split
    · next len hb => rw [if_pos (hbad len hb)]; rfl
    · rfl

end Refmt.UMachU
