/-
  What `FloatText.shortestAux` / `FloatText.shortest` return: a candidate that passed the `inside` test lies in the
  rounding interval (`InsideV`), and so do the digits `shortest` makes of it; such a decimal is below every bound
  above `KHI * 2^T`, the upper end of the widest interval for exponents `e - 2 ≤ T` (`insideV_bound`).
-/
import RefmtProofs.Lemmas.FloatChars
import RefmtProofs.Lemmas.FloatArith
namespace Refmt.FloatL
open Refmt Refmt.FloatText Refmt.JsonDec Refmt.C03L

/-- `insideB`, `kOf`, `xNOf`, `xDOf`, `flOf` are the `let`s `inside`, `k`, `xN`, `xD`, `fl` of `FloatText.shortestAux`, given names so
that its equation `shortestAux_succ` can be stated (it holds by `rfl`). -/
def insideB (d : SD) (k : Int) (c : Nat) : Bool :=
  let cN := if k ≥ 0 then c * 10 ^ k.toNat else c
  let cD := if k ≥ 0 then 1 else 10 ^ (-k).toNat
  if d.incl then qle d.loN d.den cN cD && qle cN cD d.hiN d.den
  else qlt d.loN d.den cN cD && qlt cN cD d.hiN d.den

def kOf (d : SD) (n : Nat) : Int := d.p + 1 - (n : Int)
def xNOf (d : SD) (n : Nat) : Nat := if kOf d n ≥ 0 then d.vN else d.vN * 10 ^ (-(kOf d n)).toNat
def xDOf (d : SD) (n : Nat) : Nat := if kOf d n ≥ 0 then d.den * 10 ^ (kOf d n).toNat else d.den
def flOf (d : SD) (n : Nat) : Nat := xNOf d n / xDOf d n

theorem shortestAux_succ (d : SD) (fuel n : Nat) : shortestAux d (fuel + 1) n =
    match insideB d (kOf d n) (flOf d n), insideB d (kOf d n) (flOf d n + 1) with
    | false, false => shortestAux d fuel (n + 1)
    | true, false => (flOf d n, kOf d n)
    | false, true => (flOf d n + 1, kOf d n)
    | true, true =>
      if 2 * (xNOf d n % xDOf d n) < xDOf d n then (flOf d n, kOf d n)
      else if 2 * (xNOf d n % xDOf d n) > xDOf d n then (flOf d n + 1, kOf d n)
      else if flOf d n % 2 == 0 then (flOf d n, kOf d n) else (flOf d n + 1, kOf d n) := rfl

theorem shortestAux_spec (d : SD) : ∀ (fuel n : Nat),
    insideB d (shortestAux d fuel n).2 (shortestAux d fuel n).1 = true ∨
      ∀ n', n ≤ n' → n' < n + fuel →
        insideB d (kOf d n') (flOf d n') = false ∧ insideB d (kOf d n') (flOf d n' + 1) = false
  | 0, n => Or.inr fun n' h1 h2 => by omega
  | fuel+1, n => by
    rw [shortestAux_succ]
    split
    · rename_i ha hb
      rcases shortestAux_spec d fuel (n + 1) with h | hall
      · exact Or.inl h
      · refine Or.inr fun n' h1 h2 => ?_
        rcases Nat.eq_or_lt_of_le h1 with rfl | h1
        · exact ⟨ha, hb⟩
        · exact hall n' h1 (by omega)
    · rename_i ha _; exact Or.inl ha
    · rename_i _ hb; exact Or.inl hb
    · rename_i ha hb
      left
      split
      · exact ha
      · split
        · exact hb
        · split
          · exact ha
          · exact hb

/-- the decimal `c * 10^k` lies in the rounding interval `[loN/den, hiN/den]` described by `sd`
    (ends excluded unless `sd.incl`), stated sign-free -/
def InsideV (sd : SD) (c : Nat) (k : Int) : Prop :=
  ∀ a b : Nat, (a : Int) - b = k →
    (sd.loN * 10 ^ b ≤ c * 10 ^ a * sd.den ∧ (sd.incl = false → sd.loN * 10 ^ b < c * 10 ^ a * sd.den)) ∧
    (c * 10 ^ a * sd.den ≤ sd.hiN * 10 ^ b ∧ (sd.incl = false → c * 10 ^ a * sd.den < sd.hiN * 10 ^ b))

theorem insideB_canon (sd : SD) (k : Int) (c : Nat) : insideB sd k c = true ↔
    (sd.loN * 10 ^ (-k).toNat ≤ c * 10 ^ k.toNat * sd.den ∧
      (sd.incl = false → sd.loN * 10 ^ (-k).toNat < c * 10 ^ k.toNat * sd.den)) ∧
    (c * 10 ^ k.toNat * sd.den ≤ sd.hiN * 10 ^ (-k).toNat ∧
      (sd.incl = false → c * 10 ^ k.toNat * sd.den < sd.hiN * 10 ^ (-k).toNat)) := by
  unfold insideB
  simp only [ite_mul_pow, ite_pow_neg, qle, qlt]
  cases sd.incl
  · simp only [Bool.false_eq_true, if_false, Bool.and_eq_true, decide_eq_true_eq, forall_const]
    exact ⟨fun h => ⟨⟨Nat.le_of_lt h.1, h.1⟩, Nat.le_of_lt h.2, h.2⟩, fun h => ⟨h.1.2, h.2.2⟩⟩
  · simp only [if_true, Bool.and_eq_true, decide_eq_true_eq, Bool.true_eq_false, false_imp_iff, and_true]

theorem insideB_iff (sd : SD) (k : Int) (c : Nat) : insideB sd k c = true ↔ InsideV sd c k := by
  rw [insideB_canon]
  constructor
  · intro h a b hab
    simp only [Nat.mul_right_comm c _ sd.den] at h ⊢
    exact ⟨scale_both 10 _ _ (-k).toNat k.toNat b a (by decide) (by omega) _ h.1,
      scale_both 10 _ _ k.toNat (-k).toNat a b (by decide) (by omega) _ h.2⟩
  · intro h
    exact h k.toNat (-k).toNat (by omega)

theorem insideV_strip (sd : SD) (d j : Nat) (k : Int) (h : InsideV sd (d * 10 ^ j) k) : InsideV sd d (k + j) := by
  intro a b hab
  obtain ⟨⟨h1, h1'⟩, ⟨h2, h2'⟩⟩ := h a (b + j) (by push_cast; omega)
  have hp : 0 < 10 ^ j := Nat.pow_pos (by decide)
  have e2 : d * 10 ^ j * 10 ^ a * sd.den = d * 10 ^ a * sd.den * 10 ^ j := by ac_rfl
  rw [mul_pow_add, e2] at h1 h1' h2 h2'
  exact ⟨⟨Nat.le_of_mul_le_mul_right h1 hp, fun hi => Nat.lt_of_mul_lt_mul_right (h1' hi)⟩,
    ⟨Nat.le_of_mul_le_mul_right h2 hp, fun hi => Nat.lt_of_mul_lt_mul_right (h2' hi)⟩⟩

theorem insideV_pos (sd : SD) (k : Int) (c : Nat) (h : InsideV sd c k) (hlo : 0 < sd.loN) : 0 < c := by
  rcases Nat.eq_zero_or_pos c with rfl | h0
  · have := (h k.toNat (-k).toNat (by omega)).1.1
    have : 0 < sd.loN * 10 ^ (-k).toNat := Nat.mul_pos hlo (Nat.pow_pos (by decide))
    omega
  · exact h0

theorem mkSD_vN (m : Nat) (e : Int) (bl : Bool) : (mkSD m e bl).vN = 4 * m * 2 ^ (e - 2).toNat :=
  congrArg (4 * m * ·) (ite_pow 2 (e - 2))
theorem mkSD_loN (m : Nat) (e : Int) (bl : Bool) :
    (mkSD m e bl).loN = (if bl then 4 * m - 1 else 4 * m - 2) * 2 ^ (e - 2).toNat :=
  congrArg ((if bl then 4 * m - 1 else 4 * m - 2) * ·) (ite_pow 2 (e - 2))
theorem mkSD_hiN (m : Nat) (e : Int) (bl : Bool) : (mkSD m e bl).hiN = (4 * m + 2) * 2 ^ (e - 2).toNat :=
  congrArg ((4 * m + 2) * ·) (ite_pow 2 (e - 2))
theorem mkSD_den (m : Nat) (e : Int) (bl : Bool) : (mkSD m e bl).den = 2 ^ (-(e - 2)).toNat :=
  ite_pow_neg 2 (e - 2)
theorem mkSD_incl (m : Nat) (e : Int) (bl : Bool) : (mkSD m e bl).incl = (m % 2 == 0) := rfl

theorem mkSD_lo_pos (m : Nat) (e : Int) (bl : Bool) (hm : 1 ≤ m) : 0 < (mkSD m e bl).loN := by
  rw [mkSD_loN]
  exact Nat.mul_pos (by split <;> omega) (Nat.pow_pos (by decide))

theorem mkSD_den_pos (m : Nat) (e : Int) (bl : Bool) : 0 < (mkSD m e bl).den := by
  rw [mkSD_den]; exact Nat.pow_pos (by decide)

theorem mkSD_den_le (m : Nat) (e : Int) (bl : Bool) (he : -1074 ≤ e) : (mkSD m e bl).den ≤ 2 ^ 1076 := by
  rw [mkSD_den]; exact Nat.pow_le_pow_right (by decide) (by omega)

theorem mkSD_hi_lt (m : Nat) (e : Int) (bl : Bool) (hm : m < 9007199254740992) (he : e ≤ 971) :
    (mkSD m e bl).hiN < 2 ^ 1024 := by
  rw [mkSD_hiN]
  calc (4 * m + 2) * 2 ^ (e - 2).toNat < 2 ^ 55 * 2 ^ (e - 2).toNat :=
        Nat.mul_lt_mul_of_pos_right (by omega) (Nat.pow_pos (by decide))
    _ ≤ 2 ^ 55 * 2 ^ 969 := Nat.mul_le_mul_left _ (Nat.pow_le_pow_right (by decide) (by omega))
    _ = 2 ^ 1024 := by rw [← Nat.pow_add]

def sdOf (abs : Nat) : SD := mkSD (decompose abs).1 (decompose abs).2 ((abs % p52 == 0) && (abs / p52 > 1))

theorem decompose_eq (ex fr : Nat) (hfr : fr < p52) (hex : ex < 2048) :
    decompose (ex * p52 + fr) = if ex = 0 then (fr, -1074) else (fr + p52, (ex : Int) - 1075) := by
  have hp : 0 < p52 := by decide
  have h1 : (ex * p52 + fr) / p52 = ex := by
    rw [Nat.mul_comm, Nat.mul_add_div hp, Nat.div_eq_of_lt hfr, Nat.add_zero]
  have h2 : (ex * p52 + fr) % p52 = fr := by
    rw [Nat.mul_comm, Nat.mul_add_mod, Nat.mod_eq_of_lt hfr]
  unfold decompose
  simp only [h1, h2, Nat.mod_eq_of_lt hex, beq_iff_eq]

/-- the canonical form `m * 2^e` of a finite non-zero magnitude (`m < 2^53`, `m < 2^52` only for subnormals); the
    boundary flag of `shortest` marks the powers of two with a closer lower neighbour -/
theorem decompose_canon (abs : Nat) (h0 : abs ≠ 0) (hfin : abs / p52 < 2047) :
    1 ≤ (decompose abs).1 ∧ (decompose abs).1 < 9007199254740992 ∧
    -1074 ≤ (decompose abs).2 ∧ (decompose abs).2 ≤ 971 ∧
    ((decompose abs).1 < 4503599627370496 → (decompose abs).2 = -1074) ∧
    (((abs % p52 == 0) && decide (abs / p52 > 1)) = true ↔
      ((decompose abs).1 = 4503599627370496 ∧ -1074 < (decompose abs).2)) ∧
    ((decompose abs).2 + 1074).toNat * p52 + (decompose abs).1 = abs := by
  have hp : 0 < p52 := by decide
  have hfr : abs % p52 < p52 := Nat.mod_lt _ hp
  have habs : abs = abs / p52 * p52 + abs % p52 := by rw [Nat.mul_comm]; exact (Nat.div_add_mod abs p52).symm
  generalize abs / p52 = ex at *
  generalize abs % p52 = fr at *
  subst habs
  rw [decompose_eq ex fr hfr (by omega)]
  simp only [Bool.and_eq_true, beq_iff_eq, decide_eq_true_eq]
  unfold p52 at *
  by_cases hex : ex = 0
  · subst hex
    simp only [if_true, Nat.zero_mul, Nat.zero_add] at h0 ⊢
    exact ⟨by omega, by omega, by omega, by omega, fun _ => trivial, by omega, by omega⟩
  · simp only [hex, if_false]
    exact ⟨by omega, by omega, by omega, by omega, fun _ => by omega, by omega, by omega⟩

theorem strip_natDigits (c : Nat) (hc : 0 < c) :
    ∃ (b : Nat) (r : Bytes) (j : Nat), shortest.strip (natDigits c) = b :: r ∧ (49 ≤ b ∧ b ≤ 57) ∧
      c = digitsVal (b :: r) * 10 ^ j ∧ ((natDigits c).length : Int) = ((b :: r).length : Int) + j := by
  obtain ⟨b0, r0, hnd, hd0, hl0⟩ := natDigits_form c
  have hb0 : 49 ≤ b0 ∧ b0 ≤ 57 := by
    have := isDigit_iff.1 hd0.head
    omega
  obtain ⟨r', hr'⟩ := strip_head b0 r0 (by omega)
  obtain ⟨j, hj⟩ := strip_spec (natDigits c)
  rw [hnd, hr'] at hj
  refine ⟨b0, r', j, by rw [hnd, hr'], hb0, ?_, ?_⟩
  · have := digitsVal_natDigits c
    rw [hnd, hj, digitsVal_zeros] at this
    exact this.symm
  · rw [hnd, hj]; simp; omega

theorem shortest_nz (bits abs : Nat) (habs : bits % 9223372036854775808 = abs) (h0 : abs ≠ 0) :
    shortest bits =
      (if (shortest.strip (natDigits (shortestAux (sdOf abs) 20 1).1)).isEmpty then [48]
        else shortest.strip (natDigits (shortestAux (sdOf abs) 20 1).1),
       ((natDigits (shortestAux (sdOf abs) 20 1).1).length : Int) + (shortestAux (sdOf abs) 20 1).2) := by
  subst habs
  unfold shortest
  have : (bits % 9223372036854775808 == 0) = false := by simp [h0]
  simp only [this, Bool.false_eq_true, if_false]
  rfl

theorem shortest_zero (bits : Nat) (h : bits % 9223372036854775808 = 0) : shortest bits = ([48], 1) := by
  unfold shortest; simp [h]

theorem shortest_insideV (bits abs : Nat) (habs : bits % 9223372036854775808 = abs) (h0 : abs ≠ 0)
    (hlo : 0 < (sdOf abs).loN)
    (hin : insideB (sdOf abs) (shortestAux (sdOf abs) 20 1).2 (shortestAux (sdOf abs) 20 1).1 = true) :
    (∃ b r, (shortest bits).1 = b :: r ∧ 49 ≤ b ∧ b ≤ 57) ∧
    InsideV (sdOf abs) (digitsVal (shortest bits).1) ((shortest bits).2 - ((shortest bits).1.length : Int)) := by
  rw [shortest_nz bits abs habs h0]
  generalize shortestAux (sdOf abs) 20 1 = ck at hin
  obtain ⟨c, k⟩ := ck
  have hv := (insideB_iff _ _ _).1 hin
  obtain ⟨b, r, j, hst, hb, hval, hlen⟩ := strip_natDigits c (insideV_pos _ _ _ hv hlo)
  rw [hst, hlen]
  simp only [List.isEmpty_cons, Bool.false_eq_true, if_false]
  refine ⟨⟨b, r, rfl, hb⟩, ?_⟩
  rw [hval] at hv
  rw [show ((b :: r).length : Int) + j + k - ((b :: r).length : Int) = k + j by omega]
  exact insideV_strip _ _ _ _ hv

/-- `2^55 - 2 = 4 * (2^53 - 1) + 2`: the upper end of the widest interval, in quarter units -/
def KHI : Nat := 36028797018963966

theorem insideV_bound (m : Nat) (e : Int) (bl : Bool) (T : Nat) (he : e - 2 ≤ T) (hm : m < 9007199254740992)
    (X : Nat) (hX : KHI * 2 ^ T < X) (k : Int) (c : Nat) (h : InsideV (mkSD m e bl) c k) (a b : Nat)
    (hab : (a : Int) - b = k) : c * 10 ^ a < X * 10 ^ b := by
  have h1 := (h a b hab).2.1
  rw [mkSD_hiN, mkSD_den] at h1
  -- `hi = (4m+2) * 2^(e-2) ≤ KHI * 2^T`, over the common denominator
  have hD : 0 < 2 ^ (-(e - 2)).toNat := Nat.pow_pos (by decide)
  have hS : 2 ^ (e - 2).toNat ≤ 2 ^ T * 2 ^ (-(e - 2)).toNat := by
    rw [← Nat.pow_add]; exact Nat.pow_le_pow_right (by decide) (by omega)
  have hhi : (4 * m + 2) * 2 ^ (e - 2).toNat * 10 ^ b ≤ KHI * 2 ^ T * 10 ^ b * 2 ^ (-(e - 2)).toNat :=
    calc (4 * m + 2) * 2 ^ (e - 2).toNat * 10 ^ b
        ≤ KHI * (2 ^ T * 2 ^ (-(e - 2)).toNat) * 10 ^ b :=
          Nat.mul_le_mul_right _ (Nat.mul_le_mul (by unfold KHI; omega) hS)
      _ = KHI * 2 ^ T * 10 ^ b * 2 ^ (-(e - 2)).toNat := by ac_rfl
  exact Nat.lt_of_le_of_lt (Nat.le_of_mul_le_mul_right (Nat.le_trans h1 hhi) hD)
    (Nat.mul_lt_mul_of_pos_right hX (Nat.pow_pos (by decide)))

end Refmt.FloatL
