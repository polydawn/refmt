/-
  Read faults (C16), CBOR decoder.  The decoder is a client program of the reader (Lemmas/C15Cbor.lean);
  each of its parts hands an injected read error on (`Passes`), so by `C15.exec_fault` a run over a reader
  with a fault either reports it or leaves the reader where the fault-free run leaves it.
-/
import RefmtModel
import RefmtProofs.Lemmas.C15Cbor
namespace Refmt.C15Prog.Cbor
open Refmt Refmt.CborDec Refmt.C15 Refmt.C16R
open Refmt.CborEnc (majUint majNeg majBytes majStr majArr majMap majTag sigFalse sigTrue sigNil sigUndef sigF16 sigF32 sigF64 sigIndefBytes sigIndefStr sigIndefArr sigIndefMap sigBreak)

variable {β : Type} {J : β → Prop}

/-- `HK` for the continuation of a string read, which also gets the allocation -/
def HK2 (J : β → Prop) (k : Except Err Bytes → Nat → Prog β) : Prop :=
  (∀ al rd, J (exec (k (.error .injected) al) rd).1) ∧ ∀ r al, Passes J (k r al)

/-- `HK` for the continuation of a decoder part, where the error sits in the `ret` field -/
def HO (J : β → Prop) (k : O → Prog β) : Prop :=
  (∀ s al rd, J (exec (k ⟨s, .err .injected, al⟩) rd).1) ∧ ∀ o, Passes J (k o)

theorem HO.inC {k : O → Prog β} (hk : HO J k) : HO J fun o => k (inContainerO o) :=
  ⟨hk.1, fun _ => hk.2 _⟩

theorem HO.scalar {α : Type} {k : O → Prog β} (hk : HO J k) (s : St) (mk : α → Body) (tag : Option Int) :
    HK J fun r => k (scalarO s r 0 mk tag) :=
  ⟨hk.1 s 0, fun _ => hk.2 _⟩

theorem readMap_passes {k : Except Err Nat → Prog β} (hk : HK J k) (n : Nat) (f : Bytes → Nat) :
    Passes J (readMap n f k) :=
  passes_readN ⟨hk.1, fun r => by cases r <;> exact hk.2 _⟩

theorem decUintP_passes {k : Except Err Nat → Prog β} (hk : HK J k) (major : Nat) : Passes J (decUintP major k) :=
  ite_ind (hk.2 _) <| ite_ind (rd1_passes hk) <| ite_ind (readMap_passes hk ..) <|
    ite_ind (readMap_passes hk ..) <| ite_ind (readMap_passes hk ..) (hk.2 _)

theorem decRangeP_passes {α : Type} {k : Except Err α → Prog β} (hk : HK J k) (g : Nat → α) (major : Nat) :
    Passes J (decRangeP g major k) := by
  refine decUintP_passes ⟨hk.1, fun r => ?_⟩ major
  cases r with
  | error e => exact hk.2 _
  | ok ui => exact ite_ind (hk.2 _) (hk.2 _)

theorem decNegIntP_passes {k : Except Err Int → Prog β} (hk : HK J k) (major : Nat) :
    Passes J (decNegIntP major k) :=
  decRangeP_passes hk (fun ui => -1 - (ui : Int)) major

theorem decLenP_passes {k : Except Err Nat → Prog β} (hk : HK J k) (major : Nat) : Passes J (decLenP major k) :=
  decRangeP_passes hk (fun ui => ui) major

theorem lenThen_passes {k : Except Err Bytes → Nat → Prog β} (hk : HK2 J k) (major a : Nat) (K : Nat → Prog β)
    (hK : ∀ n, Passes J (K n)) :
    Passes J (decLenP major fun r => match r with
      | .error e => k (.error e) a
      | .ok n => if n > cap32M then k (.error .range) a else K n) := by
  refine decLenP_passes ⟨hk.1 a, fun r => ?_⟩ major
  cases r with
  | error e => exact hk.2 _ _
  | ok n => exact ite_ind (hk.2 _ _) (hK n)

theorem decBytesP_passes {k : Except Err Bytes → Nat → Prog β} (hk : HK2 J k) (major : Nat) :
    Passes J (decBytesP major k) :=
  lenThen_passes hk major 0 _ fun n => passes_readN ⟨hk.1 n, fun _ => hk.2 _ _⟩

theorem decStringP_passes {k : Except Err Bytes → Nat → Prog β} (hk : HK2 J k) (major : Nat) :
    Passes J (decStringP major k) :=
  lenThen_passes hk major 0 _ fun n => passes_readN ⟨hk.1 _, fun r => by cases r <;> exact hk.2 _ _⟩

theorem decFloatP_passes {k : Except Err Nat → Prog β} (hk : HK J k) (major : Nat) : Passes J (decFloatP major k) :=
  ite_ind (readMap_passes hk ..) <| ite_ind (readMap_passes hk ..) (readMap_passes hk ..)

theorem decChunksP_passes {k : Except Err Bytes → Nat → Prog β} (hk : HK2 J k) :
    ∀ fuel mw acc cap alloc, Passes J (decChunksP fuel mw acc cap alloc k)
  | 0, _, _, _, _ => hk.2 _ _
  | fuel+1, mw, acc, cap, alloc => by
    rw [decChunksP]
    refine rd1_passes ⟨hk.1 alloc, fun r => ?_⟩
    cases r with
    | error e => exact hk.2 _ _
    | ok mb =>
      refine ite_ind (hk.2 _ _) <| ite_ind (hk.2 _ _) <| lenThen_passes hk mb alloc _ fun n => ?_
      refine passes_readN ⟨hk.1 _, fun r => ?_⟩
      cases r with
      | ok bs => exact decChunksP_passes hk fuel _ _ _ _
      | error e => exact hk.2 _ _

theorem acceptValueB_passes {k : O → Prog β} (hk : HO J k) (coerce : Bool) (N : Nat) (s : St) (major : Nat)
    (tag : Option Int) (rec : Nat → Int → Prog β) (hrec : ∀ mb t, Passes J (rec mb t)) :
    Passes J (acceptValueB coerce N s major tag k rec) := by
  have hopen : ∀ (ph : Phase) (tk : Nat → Tok),
      HK J fun r => match r with
        | .ok n => k ⟨push { s with left := n :: s.left } ph, .tok (tk n) false, 0⟩
        | .error e => k ⟨s, .err e, 0⟩ :=
    fun _ _ => ⟨hk.1 s 0, fun r => by cases r <;> exact hk.2 _⟩
  unfold acceptValueB
  refine ite_ind (hk.2 _) <| ite_ind (ite_ind (hk.2 _) (hk.2 _)) <| ite_ind (hk.2 _) <|
    ite_ind (hk.2 _) <| ite_ind (decFloatP_passes (hk.scalar ..) _) <|
    ite_ind (decChunksP_passes ⟨hk.1 s, fun _ _ => hk.2 _⟩ ..) <|
    ite_ind (decChunksP_passes ⟨fun al => hk.1 s _, fun _ _ => hk.2 _⟩ ..) <|
    ite_ind (hk.2 _) <| ite_ind (hk.2 _) <| ite_ind (decUintP_passes (hk.scalar ..) _) <|
    ite_ind (decNegIntP_passes (hk.scalar ..) _) <|
    ite_ind (decBytesP_passes ⟨hk.1 s, fun _ _ => hk.2 _⟩ _) <|
    ite_ind (decStringP_passes ⟨hk.1 s, fun _ _ => hk.2 _⟩ _) <|
    ite_ind (decLenP_passes (hopen _ _) _) <| ite_ind (decLenP_passes (hopen _ _) _) <|
    ite_ind ?_ (hk.2 _)
  cases tag with
  | some _ => exact hk.2 _
  | none =>
    refine decLenP_passes ⟨hk.1 s 0, fun r => ?_⟩ major
    cases r with
    | error e => exact hk.2 _
    | ok t =>
      refine rd1_passes ⟨hk.1 s 0, fun r => ?_⟩
      cases r with
      | error e => exact hk.2 _
      | ok mb => exact hrec _ _

theorem acceptValueP_passes {k : O → Prog β} (hk : HO J k) (coerce : Bool) (N : Nat) :
    ∀ fuel s major tag, Passes J (acceptValueP coerce N fuel s major tag k)
  | 0, s, major, tag => acceptValueB_passes hk coerce N s major tag _ fun _ _ => hk.2 _
  | fuel+1, s, major, tag =>
    acceptValueB_passes hk coerce N s major tag _ fun _ _ => acceptValueP_passes hk coerce N fuel ..

theorem withMajorP_passes {k : O → Prog β} (hk : HO J k) (s : St) (f : Nat → Prog β) (hf : ∀ mb, Passes J (f mb)) :
    Passes J (withMajorP s k f) := by
  refine rd1_passes ⟨hk.1 s 0, fun r => ?_⟩
  cases r with
  | error e => exact hk.2 _
  | ok mb => exact hf mb

theorem subStepP_passes {k : O → Prog β} (hk : HO J k) (coerce : Bool) (N : Nat) (s : St) :
    Passes J (subStepP coerce N s k) := by
  have hv : ∀ s' mb, Passes J (acceptValueP coerce N 1 s' mb none fun o => k (inContainerO o)) :=
    fun _ _ => acceptValueP_passes hk.inC coerce N ..
  unfold subStepP
  split
  · exact withMajorP_passes hk _ _ fun _ => acceptValueP_passes hk coerce N ..
  · exact withMajorP_passes hk _ _ fun _ => ite_ind (hk.2 _) (hv _ _)
  · exact withMajorP_passes hk _ _ fun _ => ite_ind (hk.2 _) (hv _ _)
  · exact withMajorP_passes hk _ _ fun _ => ite_ind (hk.2 _) (hv _ _)
  · split
    · exact hk.2 _
    · exact hk.2 _
    · exact withMajorP_passes hk _ _ fun _ => hv _ _
  · split
    · exact hk.2 _
    · exact hk.2 _
    · exact withMajorP_passes hk _ _ fun _ => hv _ _
  · exact withMajorP_passes hk _ _ fun _ => hv _ _

theorem stepP_passes {k : O → Prog β} (hk : HO J k) (coerce : Bool) (N : Nat) (s : St) :
    Passes J (stepP coerce N s k) := by
  refine subStepP_passes ⟨?_, fun _ => ?_⟩ coerce N s
  · exact hk.1
  · exact hk.2 _

def Inj (r : Res) : Prop := r.2.1 = .error .injected

theorem runP_passes (coerce : Bool) (N : Nat) : ∀ fuel s acc steps alloc, Passes Inj (runP coerce N fuel s acc steps alloc)
  | 0, _, _, _, _ => trivial
  | fuel+1, s, acc, steps, alloc => by
    rw [runP]
    refine stepP_passes ⟨fun _ _ _ => rfl, fun o => ?_⟩ coerce N s
    split
    · trivial
    · trivial
    · exact runP_passes coerce N fuel _ _ _ _

end Refmt.C15Prog.Cbor

namespace Refmt.C16R.Cbor
open Refmt Refmt.CborDec Refmt.C15 Refmt.C16R Refmt.C15Prog.Cbor

theorem run_fault_reported {M : Nat} {stop : Bool} (coerce : Bool) (fuel : Nat) (s : St) (b : Rd) (acc : List Tok)
    (steps alloc : Nat) (h : Ok M b) (hlen : (run coerce fuel s b acc steps alloc).rd.data.length < M) :
    (run coerce fuel s (inj M stop b) acc steps alloc).res = .error .injected :=
  model_fault_past (R := fun rd => run coerce fuel s rd acc steps alloc)
    (runP_passes coerce (b.data.length + 1) fuel s acc steps alloc)
    (fun rd hl => runP_spec coerce _ fuel s rd acc steps alloc (Nat.lt_succ_of_le hl)) h hlen

theorem decode_fault_reported (coerce : Bool) (bs : Bytes) (k : Nat) (stop : Bool)
    (hk : k < bs.length - (decode coerce (Rd.ofBytes bs)).rd.data.length) :
    (decode coerce ⟨bs, some (k, stop), 0⟩).res = .error .injected := by
  rw [inj_ofBytes bs k stop (by omega)]
  exact run_fault_reported coerce _ _ _ _ _ _ (ok_ofBytes bs k) (by show (decode coerce (Rd.ofBytes bs)).rd.data.length < bs.length - k; omega)

end Refmt.C16R.Cbor
