/-
  The reference parser `Spec.Cbor.parse` seen as a relation.  `headOf` is the non-recursive part of
  `parseItem`, and `IsHead` lists the ways it succeeds; `parse_induction` is rule induction over the five
  mutually recursive parsers.  What a parse leaves behind and that it survives more fuel and more input behind it
  are instances; C04's `parse_consumes` and `prefix_free` follow from them.
-/
import RefmtProofs.Lemmas.Basics
namespace Refmt.C04
open Refmt Refmt.Spec.Cbor

/-- What a reader leaves of `bs`: a suffix, shorter by `n` bytes at least (`n = 1` behind a head or an item, `0` behind an
argument or a sequence of items, which may be empty). -/
def Rest (bs r : Bytes) (n : Nat) : Prop := r <:+ bs ∧ r.length + n ≤ bs.length

theorem Rest.refl (bs : Bytes) : Rest bs bs 0 := ⟨List.suffix_refl _, by simp⟩

theorem Rest.trans {a b c : Bytes} {n m : Nat} (h1 : Rest a b n) (h2 : Rest b c m) : Rest a c (n + m) :=
  ⟨h2.1.trans h1.1, by have := h1.2; have := h2.2; omega⟩

theorem Rest.weaken {a b : Bytes} {n m : Nat} (h1 : Rest a b n) (h : m ≤ n) : Rest a b m :=
  ⟨h1.1, by have := h1.2; omega⟩

theorem Rest.cons {b : Nat} {a c : Bytes} {n : Nat} (h : Rest a c n) : Rest (b :: a) c (n + 1) :=
  ⟨h.1.trans (List.suffix_cons _ _), by have := h.2; simp; omega⟩

theorem Rest.drop (bs : Bytes) (n : Nat) (h : n ≤ bs.length) : Rest bs (bs.drop n) n :=
  ⟨List.drop_suffix _ _, by simp; omega⟩

theorem ite_some {α : Type} {c : Prop} [Decidable c] {x y : Option α} {a : α}
    (h : (if c then x else y) = some a) : c ∧ x = some a ∨ ¬ c ∧ y = some a := by
  by_cases hc : c
  · exact .inl ⟨hc, by rwa [if_pos hc] at h⟩
  · exact .inr ⟨hc, by rwa [if_neg hc] at h⟩

theorem of_guard {α : Type} {c : Prop} [Decidable c] {x a : α}
    (h : (if c then some x else none) = some a) : c ∧ x = a :=
  (ite_some h).elim (fun h' => ⟨h'.1, Option.some.inj h'.2⟩) fun h' => nomatch h'.2

theorem of_guard_not {α : Type} {c : Prop} [Decidable c] {y a : α}
    (h : (if c then none else some y) = some a) : ¬ c ∧ y = a :=
  (ite_some h).elim (fun h' => nomatch h'.2) fun h' => ⟨h'.1, Option.some.inj h'.2⟩

theorem map_guard_not {α β : Type} (c : Prop) [Decidable c] (x : α) (f : α → β) :
    (if c then none else some x).map f = if c then none else some (f x) := by
  split <;> rfl

/-- `IsArg ai bs n r`: the additional information `ai`, followed by `bs`, carries the argument `n` and leaves `r`. -/
inductive IsArg : Nat → Bytes → Nat → Bytes → Prop
  | imm (ai : Nat) (bs : Bytes) : ai < 24 → IsArg ai bs ai bs
  | one (b : Nat) (t : Bytes) : IsArg 24 (b :: t) b t
  | be (ai k : Nat) (bs : Bytes) : (ai, k) ∈ [(25, 2), (26, 4), (27, 8)] → k ≤ bs.length →
      IsArg ai bs (beVal (bs.take k)) (bs.drop k)

theorem arg_isArg {ai : Nat} {bs : Bytes} {n : Nat} {r : Bytes} (h : arg ai bs = some (n, r)) : IsArg ai bs n r := by
  unfold arg at h
  rcases ite_some h with ⟨hi, h⟩ | ⟨-, h⟩
  · cases h; exact .imm _ _ hi
  rcases ite_some h with ⟨ha, h⟩ | ⟨-, h⟩
  · cases eq_of_beq ha
    cases bs with
    | nil => cases h
    | cons b t => cases h; exact .one _ _
  rcases ite_some h with ⟨ha, h⟩ | ⟨-, h⟩
  · cases eq_of_beq ha
    obtain ⟨hl, h'⟩ := of_guard h; cases h'
    exact .be 25 2 bs (by simp) hl
  rcases ite_some h with ⟨ha, h⟩ | ⟨-, h⟩
  · cases eq_of_beq ha
    obtain ⟨hl, h'⟩ := of_guard h; cases h'
    exact .be 26 4 bs (by simp) hl
  rcases ite_some h with ⟨ha, h⟩ | ⟨-, h⟩
  · cases eq_of_beq ha
    obtain ⟨hl, h'⟩ := of_guard h; cases h'
    exact .be 27 8 bs (by simp) hl
  · cases h

theorem be_width {ai k : Nat} (hk : (ai, k) ∈ [(25, 2), (26, 4), (27, 8)]) :
    ai = 25 ∧ k = 2 ∨ ai = 26 ∧ k = 4 ∨ ai = 27 ∧ k = 8 := by
  simpa only [List.mem_cons, Prod.mk.injEq, List.not_mem_nil, or_false] using hk

theorem arg_be_eq {ai k : Nat} (hk : (ai, k) ∈ [(25, 2), (26, 4), (27, 8)]) (bs : Bytes) :
    arg ai bs = if bs.length ≥ k then some (beVal (bs.take k), bs.drop k) else none := by
  rcases be_width hk with ⟨rfl, rfl⟩ | ⟨rfl, rfl⟩ | ⟨rfl, rfl⟩ <;> rfl

theorem IsArg.arg_eq {ai : Nat} {bs : Bytes} {n : Nat} {r : Bytes} (h : IsArg ai bs n r) : arg ai bs = some (n, r) := by
  cases h with
  | imm ai bs hi => exact if_pos hi
  | one b t => rfl
  | be ai k bs hk hl => exact (arg_be_eq hk bs).trans (if_pos hl)

theorem arg_none_of_gt {ai : Nat} (h : 27 < ai) (bs : Bytes) : arg ai bs = none := by
  cases ha : arg ai bs with
  | none => rfl
  | some p =>
    obtain ⟨n, r⟩ := p
    cases arg_isArg ha with
    | imm _ _ hi => omega
    | one => omega
    | be _ k _ hk => have := be_width hk; omega

theorem arg_rest (ai : Nat) (bs : Bytes) (n : Nat) (r : Bytes) (h : arg ai bs = some (n, r)) : Rest bs r 0 := by
  cases arg_isArg h with
  | imm ai bs => exact Rest.refl _
  | one b t => exact (Rest.refl _).cons.weaken (by omega)
  | be ai k bs _ hl => exact (Rest.drop _ _ hl).weaken (by omega)

/-- The length caps on a definite string, as `chunks` and `definiteOf` test them. -/
theorem capped_false {n len : Nat} :
    ¬ (decide (n > maxInt) || decide (n > cap32M) || decide (len < n)) = true ↔ n ≤ maxInt ∧ n ≤ cap32M ∧ n ≤ len := by
  simp only [Bool.or_eq_true, decide_eq_true_eq, not_or, Nat.not_lt, and_assoc]

theorem chunks_succ (major f b : Nat) (t acc s r : Bytes) :
    chunks major (f+1) (b :: t) acc = some (s, r) ↔
      b = 0xff ∧ acc = s ∧ t = r ∨
      b ≠ 0xff ∧ b / 32 * 32 = major ∧ ∃ n r', arg (b % 32) t = some (n, r') ∧
        (n ≤ maxInt ∧ n ≤ cap32M ∧ n ≤ r'.length) ∧ chunks major f (r'.drop n) (acc ++ r'.take n) = some (s, r) := by
  rw [chunks]
  by_cases hb : b = 0xff
  · subst hb
    rw [if_pos (show ((0xff : Nat) == 0xff) = true from rfl)]
    exact ⟨fun h => .inl ⟨rfl, by cases h; exact ⟨rfl, rfl⟩⟩, fun h => by
      rcases h with ⟨_, rfl, rfl⟩ | ⟨h, _⟩
      · rfl
      · exact absurd rfl h⟩
  rw [if_neg (by simpa using hb)]
  by_cases hm : b / 32 * 32 = major
  · rw [if_neg (by simpa using hm)]
    cases ha : arg (b % 32) t with
    | none => exact ⟨nofun, fun h => by
        rcases h with ⟨h, _⟩ | ⟨_, _, _, _, h, _⟩
        · exact absurd h hb
        · cases h⟩
    | some p =>
      obtain ⟨n, r'⟩ := p
      dsimp only
      by_cases hc : (decide (n > maxInt) || decide (n > cap32M) || decide (r'.length < n)) = true
      · rw [if_pos hc]
        exact ⟨nofun, fun h => by
          rcases h with ⟨h, _⟩ | ⟨_, _, _, _, h, hc', _⟩
          · exact absurd h hb
          · cases h; exact absurd hc (capped_false.2 hc')⟩
      · rw [if_neg hc]
        exact ⟨fun h => .inr ⟨hb, hm, n, r', rfl, capped_false.1 hc, h⟩, fun h => by
          rcases h with ⟨h, _⟩ | ⟨_, _, _, _, h, _, h'⟩
          · exact absurd h hb
          · cases h; exact h'⟩
  · rw [if_pos (by simpa using hm)]
    exact ⟨nofun, fun h => by
      rcases h with ⟨h, _⟩ | ⟨_, h, _⟩
      · exact absurd h hb
      · exact absurd h hm⟩

theorem chunks_rest (major : Nat) : ∀ (f : Nat) (bs acc s r : Bytes),
    chunks major f bs acc = some (s, r) → Rest bs r 1
  | 0, _, _, _, _, h | _+1, [], _, _, _, h => by cases h
  | f+1, b :: t, acc, s, r, h => by
    rcases (chunks_succ ..).1 h with ⟨_, _, rfl⟩ | ⟨_, _, n, r', ha, hc, h'⟩
    · exact (Rest.refl _).cons
    · exact (((arg_rest _ _ _ _ ha).trans (Rest.drop r' n hc.2.2)).trans (chunks_rest major f _ _ _ _ h')).cons.weaken
        (by omega)

/-- What `headOf` reads off the front of an item, and what is left; `d`: definite, with the count `n`, which is not
looked at otherwise. -/
inductive Head
  | scalar (b : Body) (r : Bytes)
  | container (isMap d : Bool) (n : Nat) (r : Bytes)
  | tag (n : Nat) (r : Bytes)

def Head.rest : Head → Bytes
  | .scalar _ r => r
  | .container _ _ _ r => r
  | .tag _ r => r

def simpleOf (coerce : Bool) (b : Nat) (r : Bytes) : Option Head :=
  if b == 0xf4 then some (.scalar (.bool false) r)
  else if b == 0xf5 then some (.scalar (.bool true) r)
  else if b == 0xf6 then some (.scalar .null r)
  else if b == 0xf7 then (if coerce then some (.scalar .null r) else none)
  else if b == 0xf9 then (if r.length ≥ 2 then some (.scalar (.float (halfToF64 (beVal (r.take 2)))) (r.drop 2)) else none)
  else if b == 0xfa then (if r.length ≥ 4 then some (.scalar (.float (f32to64 (beVal (r.take 4)))) (r.drop 4)) else none)
  else if b == 0xfb then (if r.length ≥ 8 then some (.scalar (.float (beVal (r.take 8))) (r.drop 8)) else none)
  else none

def indefOf (mt : Nat) (r : Bytes) : Option Head :=
  if mt == 2 then (chunks 0x40 (r.length + 1) r []).map fun (s, r') => .scalar (.bytes s) r'
  else if mt == 3 then (chunks 0x60 (r.length + 1) r []).map fun (s, r') => .scalar (.str s) r'
  else if mt == 4 then some (.container false false 0 r)
  else if mt == 5 then some (.container true false 0 r)
  else none

def definiteOf (mt n : Nat) (r' : Bytes) : Option Head :=
  if mt == 0 then some (.scalar (.uint n) r')
  else if mt == 1 then (if n < two63 then some (.scalar (.int (-1 - (n : Int))) r') else none)
  else if mt == 2 then
    (if n > maxInt || n > cap32M || r'.length < n then none else some (.scalar (.bytes (r'.take n)) (r'.drop n)))
  else if mt == 3 then
    (if n > maxInt || n > cap32M || r'.length < n then none else some (.scalar (.str (r'.take n)) (r'.drop n)))
  else if mt == 4 then (if n > maxInt then none else some (.container false true n r'))
  else if mt == 5 then (if n > maxInt then none else some (.container true true n r'))
  else (if n > maxInt then none else some (.tag n r'))

def headOf (coerce : Bool) : Bytes → Option Head
  | [] => none
  | b :: r =>
    if b / 32 == 7 then simpleOf coerce b r
    else if b % 32 == 31 then indefOf (b / 32) r
    else match arg (b % 32) r with
      | none => none
      | some (n, r') => definiteOf (b / 32) n r'

theorem headOf_simple (coerce : Bool) {b : Nat} (r : Bytes) (h7 : b / 32 = 7) :
    headOf coerce (b :: r) = simpleOf coerce b r := by
  show (if (b / 32 == 7) = true then simpleOf coerce b r else _) = _
  rw [h7]; rfl

theorem headOf_indef (coerce : Bool) {b : Nat} (r : Bytes) (h7 : b / 32 ≠ 7) (h31 : b % 32 = 31) :
    headOf coerce (b :: r) = indefOf (b / 32) r := by
  simp only [headOf, h31, beq_iff_eq, h7, if_false, if_true]

theorem arg_31 (r : Bytes) : arg 31 r = none := rfl

theorem headOf_definite (coerce : Bool) {b n : Nat} {r r' : Bytes} (h7 : b / 32 ≠ 7)
    (ha : arg (b % 32) r = some (n, r')) : headOf coerce (b :: r) = definiteOf (b / 32) n r' := by
  have h31 : b % 32 ≠ 31 := fun h => by rw [h, arg_31] at ha; cases ha
  simp only [headOf, beq_iff_eq, h7, h31, if_false, ha]

theorem headOf_arg_none (coerce : Bool) {b : Nat} {r : Bytes} (h7 : b / 32 ≠ 7) (h31 : b % 32 ≠ 31)
    (ha : arg (b % 32) r = none) : headOf coerce (b :: r) = none := by
  simp only [headOf, beq_iff_eq, h7, h31, if_false, ha]

def itemOf (coerce : Bool) (f : Nat) (tag : Option Int) : Option Head → Option (TV × Bytes)
  | none => none
  | some (.scalar b r) => some (.scalar ⟨b, tag⟩, r)
  | some (.container false false _ r) => (parseUntilBreak coerce f r).map fun (vs, r') => (.arr tag (-1) vs, r')
  | some (.container true false _ r) => (parseEntriesUntilBreak coerce f r).map fun (es, r') => (.map tag (-1) es, r')
  | some (.container false true n r) => (parseN coerce f n r).map fun (vs, r') => (.arr tag n vs, r')
  | some (.container true true n r) => (parseEntriesN coerce f n r).map fun (es, r') => (.map tag n es, r')
  | some (.tag n r) =>
    match tag with
    | some _ => none
    | none => parseItem coerce f r (some (n : Int))

section
variable (coerce : Bool) (f : Nat) (tag : Option Int)

theorem itemOf_ite (c : Prop) [Decidable c] (x y : Option Head) :
    itemOf coerce f tag (if c then x else y) = if c then itemOf coerce f tag x else itemOf coerce f tag y :=
  apply_ite _ _ _ _

theorem itemOf_map (mk : Bytes → Body) (o : Option (Bytes × Bytes)) :
    itemOf coerce f tag (o.map fun (s, r') => .scalar (mk s) r') = o.map fun (s, r') => (.scalar ⟨mk s, tag⟩, r') := by
  cases o <;> rfl

theorem itemOf_none : itemOf coerce f tag none = none := rfl
theorem itemOf_scalar (b : Body) (r : Bytes) : itemOf coerce f tag (some (.scalar b r)) = some (.scalar ⟨b, tag⟩, r) := rfl
theorem itemOf_arrI (n : Nat) (r : Bytes) : itemOf coerce f tag (some (.container false false n r)) =
    (parseUntilBreak coerce f r).map fun (vs, r') => (.arr tag (-1) vs, r') := rfl
theorem itemOf_mapI (n : Nat) (r : Bytes) : itemOf coerce f tag (some (.container true false n r)) =
    (parseEntriesUntilBreak coerce f r).map fun (es, r') => (.map tag (-1) es, r') := rfl
theorem itemOf_arrD (n : Nat) (r : Bytes) : itemOf coerce f tag (some (.container false true n r)) =
    (parseN coerce f n r).map fun (vs, r') => (.arr tag n vs, r') := rfl
theorem itemOf_mapD (n : Nat) (r : Bytes) : itemOf coerce f tag (some (.container true true n r)) =
    (parseEntriesN coerce f n r).map fun (es, r') => (.map tag n es, r') := rfl
theorem itemOf_tag (n : Nat) (r : Bytes) : itemOf coerce f none (some (.tag n r)) = parseItem coerce f r (some (n : Int)) := rfl
theorem itemOf_tag_tag (t : Int) (n : Nat) (r : Bytes) : itemOf coerce f (some t) (some (.tag n r)) = none := rfl

end

/-- Both sides branch on the same tests in the same order, so it is enough to push `itemOf` to the leaves. -/
theorem parseItem_eq (coerce : Bool) (f : Nat) (bs : Bytes) (tag : Option Int) :
    parseItem coerce (f+1) bs tag = itemOf coerce f tag (headOf coerce bs) := by
  cases bs with
  | nil => rfl
  | cons b r =>
    simp only [parseItem, headOf]
    by_cases h7 : (b / 32 == 7) = true
    · rw [if_pos h7, if_pos h7]
      simp only [simpleOf, itemOf_ite, itemOf_none, itemOf_scalar]
    rw [if_neg h7, if_neg h7]
    by_cases h31 : (b % 32 == 31) = true
    · rw [if_pos h31, if_pos h31]
      simp only [indefOf, itemOf_ite, itemOf_map, itemOf_none, itemOf_arrI, itemOf_mapI]
    · rw [if_neg h31, if_neg h31]
      cases arg (b % 32) r with
      | none => rfl
      | some p =>
        cases tag <;>
          simp only [definiteOf, itemOf_ite, itemOf_none, itemOf_scalar, itemOf_arrD, itemOf_mapD, itemOf_tag,
            itemOf_tag_tag, ite_self]

/-- What is known of a head (how much it consumes, what its scalar holds, what appending to the input does) is read off
the case. -/
inductive IsHead (coerce : Bool) : Bytes → Head → Prop
  | false (r : Bytes) : IsHead coerce (0xf4 :: r) (.scalar (.bool false) r)
  | true (r : Bytes) : IsHead coerce (0xf5 :: r) (.scalar (.bool true) r)
  | null (r : Bytes) : IsHead coerce (0xf6 :: r) (.scalar .null r)
  | undef (r : Bytes) : coerce = true → IsHead coerce (0xf7 :: r) (.scalar .null r)
  | f16 (r : Bytes) : 2 ≤ r.length →
      IsHead coerce (0xf9 :: r) (.scalar (.float (halfToF64 (beVal (r.take 2)))) (r.drop 2))
  | f32 (r : Bytes) : 4 ≤ r.length →
      IsHead coerce (0xfa :: r) (.scalar (.float (f32to64 (beVal (r.take 4)))) (r.drop 4))
  | f64 (r : Bytes) : 8 ≤ r.length → IsHead coerce (0xfb :: r) (.scalar (.float (beVal (r.take 8))) (r.drop 8))
  | bytesI (r s r' : Bytes) : chunks 0x40 (r.length + 1) r [] = some (s, r') →
      IsHead coerce (0x5f :: r) (.scalar (.bytes s) r')
  | strI (r s r' : Bytes) : chunks 0x60 (r.length + 1) r [] = some (s, r') →
      IsHead coerce (0x7f :: r) (.scalar (.str s) r')
  | arrI (r : Bytes) : IsHead coerce (0x9f :: r) (.container false false 0 r)
  | mapI (r : Bytes) : IsHead coerce (0xbf :: r) (.container true false 0 r)
  | uint (b : Nat) (r : Bytes) (n : Nat) (r' : Bytes) : b / 32 = 0 → arg (b % 32) r = some (n, r') →
      IsHead coerce (b :: r) (.scalar (.uint n) r')
  | nint (b : Nat) (r : Bytes) (n : Nat) (r' : Bytes) : b / 32 = 1 → arg (b % 32) r = some (n, r') → n < two63 →
      IsHead coerce (b :: r) (.scalar (.int (-1 - (n : Int))) r')
  | bytes (b : Nat) (r : Bytes) (n : Nat) (r' : Bytes) : b / 32 = 2 → arg (b % 32) r = some (n, r') →
      n ≤ maxInt ∧ n ≤ cap32M ∧ n ≤ r'.length → IsHead coerce (b :: r) (.scalar (.bytes (r'.take n)) (r'.drop n))
  | str (b : Nat) (r : Bytes) (n : Nat) (r' : Bytes) : b / 32 = 3 → arg (b % 32) r = some (n, r') →
      n ≤ maxInt ∧ n ≤ cap32M ∧ n ≤ r'.length → IsHead coerce (b :: r) (.scalar (.str (r'.take n)) (r'.drop n))
  | arrD (b : Nat) (r : Bytes) (n : Nat) (r' : Bytes) : b / 32 = 4 → arg (b % 32) r = some (n, r') → n ≤ maxInt →
      IsHead coerce (b :: r) (.container false true n r')
  | mapD (b : Nat) (r : Bytes) (n : Nat) (r' : Bytes) : b / 32 = 5 → arg (b % 32) r = some (n, r') → n ≤ maxInt →
      IsHead coerce (b :: r) (.container true true n r')
  -- bytes are natural numbers in the model: `parseItem` takes every major type other than 0..5 and 7 for a tag
  | tag (b : Nat) (r : Bytes) (n : Nat) (r' : Bytes) : 5 < b / 32 → b / 32 ≠ 7 → arg (b % 32) r = some (n, r') → n ≤ maxInt →
      IsHead coerce (b :: r) (.tag n r')

theorem simpleOf_isHead {coerce : Bool} {b : Nat} {r : Bytes} {h : Head} (hh : simpleOf coerce b r = some h) :
    IsHead coerce (b :: r) h := by
  unfold simpleOf at hh
  rcases ite_some hh with ⟨hb, hh⟩ | ⟨-, hh⟩
  · cases eq_of_beq hb; cases hh; exact .false r
  rcases ite_some hh with ⟨hb, hh⟩ | ⟨-, hh⟩
  · cases eq_of_beq hb; cases hh; exact .true r
  rcases ite_some hh with ⟨hb, hh⟩ | ⟨-, hh⟩
  · cases eq_of_beq hb; cases hh; exact .null r
  rcases ite_some hh with ⟨hb, hh⟩ | ⟨-, hh⟩
  · cases eq_of_beq hb
    obtain ⟨hc, rfl⟩ := of_guard hh
    exact .undef r hc
  rcases ite_some hh with ⟨hb, hh⟩ | ⟨-, hh⟩
  · cases eq_of_beq hb
    obtain ⟨hl, rfl⟩ := of_guard hh
    exact .f16 r hl
  rcases ite_some hh with ⟨hb, hh⟩ | ⟨-, hh⟩
  · cases eq_of_beq hb
    obtain ⟨hl, rfl⟩ := of_guard hh
    exact .f32 r hl
  rcases ite_some hh with ⟨hb, hh⟩ | ⟨-, hh⟩
  · cases eq_of_beq hb
    obtain ⟨hl, rfl⟩ := of_guard hh
    exact .f64 r hl
  · cases hh

theorem indefOf_isHead {coerce : Bool} {b : Nat} {r : Bytes} {h : Head} (h31 : b % 32 = 31)
    (hh : indefOf (b / 32) r = some h) : IsHead coerce (b :: r) h := by
  unfold indefOf at hh
  rcases ite_some hh with ⟨hm, hh⟩ | ⟨-, hh⟩
  · obtain rfl : b = 0x5f := by have := eq_of_beq hm; omega
    obtain ⟨⟨s, r'⟩, hc, he⟩ := Option.map_eq_some_iff.1 hh
    cases he; exact .bytesI r s r' hc
  rcases ite_some hh with ⟨hm, hh⟩ | ⟨-, hh⟩
  · obtain rfl : b = 0x7f := by have := eq_of_beq hm; omega
    obtain ⟨⟨s, r'⟩, hc, he⟩ := Option.map_eq_some_iff.1 hh
    cases he; exact .strI r s r' hc
  rcases ite_some hh with ⟨hm, hh⟩ | ⟨-, hh⟩
  · obtain rfl : b = 0x9f := by have := eq_of_beq hm; omega
    cases hh; exact .arrI r
  rcases ite_some hh with ⟨hm, hh⟩ | ⟨-, hh⟩
  · obtain rfl : b = 0xbf := by have := eq_of_beq hm; omega
    cases hh; exact .mapI r
  · cases hh

theorem definiteOf_isHead {coerce : Bool} {b n : Nat} {r r' : Bytes} {h : Head} (h7 : b / 32 ≠ 7)
    (ha : arg (b % 32) r = some (n, r')) (hh : definiteOf (b / 32) n r' = some h) : IsHead coerce (b :: r) h := by
  unfold definiteOf at hh
  rcases ite_some hh with ⟨hm, hh⟩ | ⟨h0, hh⟩
  · cases hh; exact .uint b r n r' (eq_of_beq hm) ha
  rcases ite_some hh with ⟨hm, hh⟩ | ⟨h1, hh⟩
  · obtain ⟨hn, rfl⟩ := of_guard hh
    exact .nint b r n r' (eq_of_beq hm) ha hn
  rcases ite_some hh with ⟨hm, hh⟩ | ⟨h2, hh⟩
  · obtain ⟨hn, rfl⟩ := of_guard_not hh
    exact .bytes b r n r' (eq_of_beq hm) ha (capped_false.1 hn)
  rcases ite_some hh with ⟨hm, hh⟩ | ⟨h3, hh⟩
  · obtain ⟨hn, rfl⟩ := of_guard_not hh
    exact .str b r n r' (eq_of_beq hm) ha (capped_false.1 hn)
  rcases ite_some hh with ⟨hm, hh⟩ | ⟨h4, hh⟩
  · obtain ⟨hn, rfl⟩ := of_guard_not hh
    exact .arrD b r n r' (eq_of_beq hm) ha (Nat.not_lt.1 hn)
  rcases ite_some hh with ⟨hm, hh⟩ | ⟨h5, hh⟩
  · obtain ⟨hn, rfl⟩ := of_guard_not hh
    exact .mapD b r n r' (eq_of_beq hm) ha (Nat.not_lt.1 hn)
  · obtain ⟨hn, rfl⟩ := of_guard_not hh
    simp only [beq_iff_eq] at h0 h1 h2 h3 h4 h5
    exact .tag b r n r' (by omega) h7 ha (Nat.not_lt.1 hn)

theorem headOf_isHead {coerce : Bool} {bs : Bytes} {h : Head} (hh : headOf coerce bs = some h) :
    IsHead coerce bs h := by
  cases bs with
  | nil => cases hh
  | cons b r =>
    by_cases h7 : b / 32 = 7
    · exact simpleOf_isHead (headOf_simple coerce r h7 ▸ hh)
    by_cases h31 : b % 32 = 31
    · exact indefOf_isHead h31 (headOf_indef coerce r h7 h31 ▸ hh)
    cases ha : arg (b % 32) r with
    | none => rw [headOf_arg_none coerce h7 h31 ha] at hh; cases hh
    | some p => exact definiteOf_isHead h7 ha (headOf_definite coerce h7 ha ▸ hh)

theorem IsHead.headOf_eq {coerce : Bool} {bs : Bytes} {h : Head} (hh : IsHead coerce bs h) :
    headOf coerce bs = some h := by
  cases hh with
  | false r | true r | null r | arrI r | mapI r => rfl
  | undef r hc => subst hc; rfl
  | f16 r hl | f32 r hl | f64 r hl => exact if_pos hl
  | bytesI r s r' hc | strI r s r' hc => exact congrArg (Option.map _) hc
  | uint b r n r' hm ha => rw [headOf_definite coerce (by omega) ha, hm]; rfl
  | nint b r n r' hm ha hn => rw [headOf_definite coerce (by omega) ha, hm]; exact if_pos hn
  | bytes b r n r' hm ha hn | str b r n r' hm ha hn =>
    rw [headOf_definite coerce (by omega) ha, hm]; exact if_neg (capped_false.2 hn)
  | arrD b r n r' hm ha hn | mapD b r n r' hm ha hn =>
    rw [headOf_definite coerce (by omega) ha, hm]; exact if_neg (Nat.not_lt.2 hn)
  | tag b r n r' h5 h7 ha hn =>
    rw [headOf_definite coerce h7 ha]
    simp only [definiteOf, beq_iff_eq, show b / 32 ≠ 0 by omega, show b / 32 ≠ 1 by omega, show b / 32 ≠ 2 by omega,
      show b / 32 ≠ 3 by omega, show b / 32 ≠ 4 by omega, show b / 32 ≠ 5 by omega, if_false, if_neg (Nat.not_lt.2 hn)]

theorem IsHead.rest {coerce : Bool} {bs : Bytes} {h : Head} (hh : IsHead coerce bs h) : Rest bs h.rest 1 := by
  cases hh with
  | false r | true r | null r | undef r | arrI r | mapI r => exact (Rest.refl _).cons
  | f16 r hl | f32 r hl | f64 r hl => exact (Rest.drop _ _ hl).cons.weaken (by omega)
  | bytesI r s r' hc | strI r s r' hc => exact (chunks_rest _ _ _ _ _ _ hc).cons.weaken (by omega)
  | uint b r n r' _ ha | nint b r n r' _ ha | arrD b r n r' _ ha | mapD b r n r' _ ha | tag b r n r' _ _ ha =>
    exact (arg_rest _ _ _ _ ha).cons
  | bytes b r n r' _ ha hn | str b r n r' _ ha hn =>
    exact ((arg_rest _ _ _ _ ha).trans (Rest.drop r' n hn.2.2)).cons.weaken (by omega)

theorem headOf_rest (coerce : Bool) (bs : Bytes) (h : Head) (hh : headOf coerce bs = some h) :
    Rest bs h.rest 1 :=
  (headOf_isHead hh).rest

theorem arg_ext (ai : Nat) (bs x : Bytes) (n : Nat) (r : Bytes) (h : arg ai bs = some (n, r)) :
    arg ai (bs ++ x) = some (n, r ++ x) := by
  cases arg_isArg h with
  | imm ai bs hi => exact (IsArg.imm _ _ hi).arg_eq
  | one b t => rfl
  | be ai k bs hk hl =>
    have := (IsArg.be ai k (bs ++ x) hk (by rw [List.length_append]; omega)).arg_eq
    rwa [List.take_append_of_le_length hl, List.drop_append_of_le_length hl] at this

theorem chunks_stable (major : Nat) (x : Bytes) : ∀ (f : Nat) (bs acc s r : Bytes),
    chunks major f bs acc = some (s, r) → ∀ d, chunks major (f + d) (bs ++ x) acc = some (s, r ++ x)
  | 0, _, _, _, _, h, _ | _+1, [], _, _, _, h, _ => by cases h
  | f+1, b :: t, acc, s, r, h, d => by
    rw [Nat.add_right_comm]
    refine (chunks_succ ..).2 ?_
    rcases (chunks_succ ..).1 h with ⟨hb, ha, rfl⟩ | ⟨hb, hm, n, r', ha, hc, h'⟩
    · exact .inl ⟨hb, ha, rfl⟩
    · have := chunks_stable major x f _ _ _ _ h' d
      rw [← List.drop_append_of_le_length hc.2.2, ← List.take_append_of_le_length (l₂ := x) hc.2.2] at this
      exact .inr ⟨hb, hm, n, r' ++ x, arg_ext _ _ x _ _ ha,
        ⟨hc.1, hc.2.1, by rw [List.length_append]; omega⟩, this⟩

def Head.ext (x : Bytes) : Head → Head
  | .scalar b r => .scalar b (r ++ x)
  | .container isMap d n r => .container isMap d n (r ++ x)
  | .tag n r => .tag n (r ++ x)

theorem IsHead.ext {coerce : Bool} {bs : Bytes} {h : Head} (x : Bytes) (hh : IsHead coerce bs h) :
    IsHead coerce (bs ++ x) (h.ext x) := by
  have field : ∀ {r : Bytes} {k : Nat}, k ≤ r.length →
      k ≤ (r ++ x).length ∧ (r ++ x).take k = r.take k ∧ (r ++ x).drop k = r.drop k ++ x := fun hl =>
    ⟨by rw [List.length_append]; omega, List.take_append_of_le_length hl, List.drop_append_of_le_length hl⟩
  -- the chunk loop of an indefinite string is run with fuel `length + 1`, which grows with `x`
  have chunk : ∀ {maj : Nat} {r s r' : Bytes}, chunks maj (r.length + 1) r [] = some (s, r') →
      chunks maj ((r ++ x).length + 1) (r ++ x) [] = some (s, r' ++ x) := fun {maj r s r'} hc => by
    have := chunks_stable _ x _ _ _ _ _ hc x.length
    rwa [show r.length + 1 + x.length = (r ++ x).length + 1 by rw [List.length_append]; omega] at this
  cases hh with
  | false r | true r | null r | arrI r | mapI r => constructor
  | undef r hc => exact .undef _ hc
  | f16 r hl => obtain ⟨h1, h2, h3⟩ := field hl; have := IsHead.f16 (coerce := coerce) _ h1; rwa [h2, h3] at this
  | f32 r hl => obtain ⟨h1, h2, h3⟩ := field hl; have := IsHead.f32 (coerce := coerce) _ h1; rwa [h2, h3] at this
  | f64 r hl => obtain ⟨h1, h2, h3⟩ := field hl; have := IsHead.f64 (coerce := coerce) _ h1; rwa [h2, h3] at this
  | bytesI r s r' hc => exact .bytesI _ _ _ (chunk hc)
  | strI r s r' hc => exact .strI _ _ _ (chunk hc)
  | uint b r n r' hm ha => exact .uint _ _ _ _ hm (arg_ext _ _ x _ _ ha)
  | nint b r n r' hm ha hn => exact .nint _ _ _ _ hm (arg_ext _ _ x _ _ ha) hn
  | bytes b r n r' hm ha hn =>
    obtain ⟨h1, h2, h3⟩ := field hn.2.2
    have := IsHead.bytes (coerce := coerce) _ _ _ _ hm (arg_ext _ _ x _ _ ha) ⟨hn.1, hn.2.1, h1⟩
    rwa [h2, h3] at this
  | str b r n r' hm ha hn =>
    obtain ⟨h1, h2, h3⟩ := field hn.2.2
    have := IsHead.str (coerce := coerce) _ _ _ _ hm (arg_ext _ _ x _ _ ha) ⟨hn.1, hn.2.1, h1⟩
    rwa [h2, h3] at this
  | arrD b r n r' hm ha hn => exact .arrD _ _ _ _ hm (arg_ext _ _ x _ _ ha) hn
  | mapD b r n r' hm ha hn => exact .mapD _ _ _ _ hm (arg_ext _ _ x _ _ ha) hn
  | tag b r n r' h5 h7 ha hn => exact .tag _ _ _ _ h5 h7 (arg_ext _ _ x _ _ ha) hn

theorem headOf_ext (coerce : Bool) (bs x : Bytes) (h : Head) (hh : headOf coerce bs = some h) :
    headOf coerce (bs ++ x) = some (h.ext x) :=
  ((headOf_isHead hh).ext x).headOf_eq

theorem parseN_succ (coerce : Bool) (f k : Nat) (bs : Bytes) :
    parseN coerce (f+1) (k+1) bs =
      (match parseItem coerce f bs none with
      | none => none
      | some (v, r) => (parseN coerce f k r).map fun (vs, r') => (v :: vs, r')) := by
  rw [parseN]; rfl

theorem parseN_zero (coerce : Bool) (f : Nat) (bs : Bytes) :
    parseN coerce (f+1) 0 bs = some ([], bs) := by
  rw [parseN]; exact nofun

theorem parseEntriesN_succ (coerce : Bool) (f k : Nat) (bs : Bytes) :
    parseEntriesN coerce (f+1) (k+1) bs =
      (match parseItem coerce f bs none with
      | none => none
      | some (key, r) =>
        match parseItem coerce f r none with
        | none => none
        | some (v, r') => (parseEntriesN coerce f k r').map fun (es, r'') => ((key, v) :: es, r'')) := by
  rw [parseEntriesN]; rfl

theorem parseEntriesN_zero (coerce : Bool) (f : Nat) (bs : Bytes) :
    parseEntriesN coerce (f+1) 0 bs = some ([], bs) := by
  rw [parseEntriesN]; exact nofun

theorem parseItem_nil (coerce : Bool) (f : Nat) (tag : Option Int) : parseItem coerce f [] tag = none := by
  cases f <;> rfl

theorem parseUntilBreak_break (coerce : Bool) (f : Nat) (r : Bytes) :
    parseUntilBreak coerce (f+1) (0xff :: r) = some ([], r) := by
  rw [parseUntilBreak]

theorem parseUntilBreak_cons (coerce : Bool) (f : Nat) {b : Nat} (t : Bytes) (hb : b ≠ 0xff) :
    parseUntilBreak coerce (f+1) (b :: t) =
        match parseItem coerce f (b :: t) none with
        | none => none
        | some (v, r) => (parseUntilBreak coerce f r).map fun (vs, r') => (v :: vs, r') := by
  rw [parseUntilBreak]
  · rfl
  · exact fun _ h => hb (List.cons.inj h).1

theorem parseUntilBreak_nil (coerce : Bool) (f : Nat) : parseUntilBreak coerce (f+1) [] = none := by
  rw [parseUntilBreak, parseItem_nil]
  exact nofun

theorem parseEntriesUntilBreak_break (coerce : Bool) (f : Nat) (r : Bytes) :
    parseEntriesUntilBreak coerce (f+1) (0xff :: r) = some ([], r) := by
  rw [parseEntriesUntilBreak]

theorem parseEntriesUntilBreak_cons (coerce : Bool) (f : Nat) {b : Nat} (t : Bytes) (hb : b ≠ 0xff) :
    parseEntriesUntilBreak coerce (f+1) (b :: t) =
        match parseItem coerce f (b :: t) none with
        | none => none
        | some (key, r) =>
          match parseItem coerce f r none with
          | none => none
          | some (v, r') => (parseEntriesUntilBreak coerce f r').map fun (es, r'') => ((key, v) :: es, r'') := by
  rw [parseEntriesUntilBreak]
  · rfl
  · exact fun _ h => hb (List.cons.inj h).1

theorem parseEntriesUntilBreak_nil (coerce : Bool) (f : Nat) : parseEntriesUntilBreak coerce (f+1) [] = none := by
  rw [parseEntriesUntilBreak, parseItem_nil]
  exact nofun

theorem parseItem_ff (coerce : Bool) (f : Nat) (r0 : Bytes) (tag : Option Int) :
    parseItem coerce f (0xff :: r0) tag = none := by
  cases f with
  | zero => rfl
  | succ f => rw [parseItem_eq]; rfl

theorem headOf_cons {coerce : Bool} {bs : Bytes} {h : Head} (hh : headOf coerce bs = some h) :
    ∃ b r0, bs = b :: r0 ∧ b ≠ 0xff := by
  cases bs with
  | nil => cases hh
  | cons b r0 => exact ⟨b, r0, rfl, fun he => by subst he; cases hh⟩

theorem parseItem_cons {coerce : Bool} {f : Nat} {bs : Bytes} {tag : Option Int} {v : TV} {r : Bytes}
    (h : parseItem coerce f bs tag = some (v, r)) : ∃ b t, bs = b :: t ∧ b ≠ 0xff := by
  cases bs with
  | nil => rw [parseItem_nil] at h; cases h
  | cons b t => exact ⟨b, t, rfl, fun hb => by rw [hb, parseItem_ff] at h; cases h⟩

/-- Rule induction on successful parses: one rule per kind of head, and nil / cons for each of the four kinds of
sequence; the conclusion is about items, the sequences being what the induction carries.  A sequence comes with the
number of its items, which `parseN` and `parseEntriesN` are given and the other two find. -/
theorem parse_induction (coerce : Bool)
    {PI : Nat → Bytes → Option Int → TV → Bytes → Prop}
    {PN PU : Nat → Nat → Bytes → List TV → Bytes → Prop}
    {PE PEU : Nat → Nat → Bytes → List (TV × TV) → Bytes → Prop}
    (scalar : ∀ f bs tag b r, headOf coerce bs = some (.scalar b r) → PI (f+1) bs tag (.scalar ⟨b, tag⟩) r)
    (arrI : ∀ f bs tag n r0 vs r, headOf coerce bs = some (.container false false n r0) → PU f vs.length r0 vs r →
      PI (f+1) bs tag (.arr tag (-1) vs) r)
    (mapI : ∀ f bs tag n r0 es r, headOf coerce bs = some (.container true false n r0) → PEU f es.length r0 es r →
      PI (f+1) bs tag (.map tag (-1) es) r)
    (arrD : ∀ f bs tag n r0 vs r, headOf coerce bs = some (.container false true n r0) → PN f n r0 vs r →
      PI (f+1) bs tag (.arr tag n vs) r)
    (mapD : ∀ f bs tag n r0 es r, headOf coerce bs = some (.container true true n r0) → PE f n r0 es r →
      PI (f+1) bs tag (.map tag n es) r)
    (tagged : ∀ f bs n r0 v r, headOf coerce bs = some (.tag n r0) →
      parseItem coerce f r0 (some (n : Int)) = some (v, r) → PI f r0 (some (n : Int)) v r → PI (f+1) bs none v r)
    (nilN : ∀ f bs, PN (f+1) 0 bs [] bs)
    (consN : ∀ f k bs v r1 vs r, parseItem coerce f bs none = some (v, r1) → PI f bs none v r1 → PN f k r1 vs r →
      PN (f+1) (k+1) bs (v :: vs) r)
    (nilE : ∀ f bs, PE (f+1) 0 bs [] bs)
    (consE : ∀ f k bs key r1 v r2 es r, parseItem coerce f bs none = some (key, r1) →
      parseItem coerce f r1 none = some (v, r2) → PI f bs none key r1 → PI f r1 none v r2 → PE f k r2 es r →
      PE (f+1) (k+1) bs ((key, v) :: es) r)
    (nilU : ∀ f r, PU (f+1) 0 (0xff :: r) [] r)
    (consU : ∀ f k bs v r1 vs r, parseItem coerce f bs none = some (v, r1) → PI f bs none v r1 → PU f k r1 vs r →
      PU (f+1) (k+1) bs (v :: vs) r)
    (nilEU : ∀ f r, PEU (f+1) 0 (0xff :: r) [] r)
    (consEU : ∀ f k bs key r1 v r2 es r, parseItem coerce f bs none = some (key, r1) →
      parseItem coerce f r1 none = some (v, r2) → PI f bs none key r1 → PI f r1 none v r2 → PEU f k r2 es r →
      PEU (f+1) (k+1) bs ((key, v) :: es) r) :
    ∀ f bs tag v r, parseItem coerce f bs tag = some (v, r) → PI f bs tag v r := by
  suffices h : ∀ f, (∀ bs tag v r, parseItem coerce f bs tag = some (v, r) → PI f bs tag v r) ∧
      (∀ k bs vs r, parseN coerce f k bs = some (vs, r) → PN f k bs vs r) ∧
      (∀ k bs es r, parseEntriesN coerce f k bs = some (es, r) → PE f k bs es r) ∧
      (∀ bs vs r, parseUntilBreak coerce f bs = some (vs, r) → PU f vs.length bs vs r) ∧
      (∀ bs es r, parseEntriesUntilBreak coerce f bs = some (es, r) → PEU f es.length bs es r) from fun f => (h f).1
  intro f
  induction f with
  | zero => exact ⟨nofun, nofun, nofun, nofun, nofun⟩
  | succ f ih =>
    obtain ⟨ihI, ihN, ihE, ihU, ihEU⟩ := ih
    refine ⟨?_, ?_, ?_, ?_, ?_⟩
    · intro bs tag v r h
      rw [parseItem_eq] at h
      cases hh : headOf coerce bs with
      | none => rw [hh] at h; cases h
      | some hd =>
        rw [hh] at h
        cases hd with
        | scalar b r0 => cases h; exact scalar f bs tag b _ hh
        | container isMap d n r0 =>
          cases isMap <;> cases d <;> obtain ⟨⟨xs, r'⟩, hp, he⟩ := Option.map_eq_some_iff.1 h <;> cases he
          · exact arrI f bs tag n r0 xs r hh (ihU _ _ _ hp)
          · exact arrD f bs tag n r0 xs r hh (ihN _ _ _ _ hp)
          · exact mapI f bs tag n r0 xs r hh (ihEU _ _ _ hp)
          · exact mapD f bs tag n r0 xs r hh (ihE _ _ _ _ hp)
        | tag n r0 =>
          cases tag with
          | some t => cases h
          | none => exact tagged f bs n r0 v r hh h (ihI _ _ _ _ h)
    · intro k bs vs r h
      cases k with
      | zero => rw [parseN_zero] at h; cases h; exact nilN f bs
      | succ k =>
        rw [parseN_succ] at h
        cases hi : parseItem coerce f bs none with
        | none => rw [hi] at h; cases h
        | some p =>
          rw [hi] at h
          obtain ⟨⟨vs', r'⟩, hp, he⟩ := Option.map_eq_some_iff.1 h
          cases he; exact consN f k bs _ _ vs' r hi (ihI _ _ _ _ hi) (ihN _ _ _ _ hp)
    · intro k bs es r h
      cases k with
      | zero => rw [parseEntriesN_zero] at h; cases h; exact nilE f bs
      | succ k =>
        rw [parseEntriesN_succ] at h
        cases hi : parseItem coerce f bs none with
        | none => rw [hi] at h; cases h
        | some p =>
          obtain ⟨key, r1⟩ := p
          rw [hi] at h; dsimp only at h
          cases hi2 : parseItem coerce f r1 none with
          | none => rw [hi2] at h; cases h
          | some q =>
            rw [hi2] at h
            obtain ⟨⟨es', r'⟩, hp, he⟩ := Option.map_eq_some_iff.1 h
            cases he
            exact consE f k bs _ _ _ _ es' _ hi hi2 (ihI _ _ _ _ hi) (ihI _ _ _ _ hi2) (ihE _ _ _ _ hp)
    · intro bs vs r h
      cases bs with
      | nil => rw [parseUntilBreak_nil] at h; cases h
      | cons b t =>
        by_cases hb : b = 0xff
        · subst hb; rw [parseUntilBreak_break] at h; cases h; exact nilU f _
        · rw [parseUntilBreak_cons _ _ _ hb] at h
          cases hi : parseItem coerce f (b :: t) none with
          | none => rw [hi] at h; cases h
          | some p =>
            rw [hi] at h
            obtain ⟨⟨vs', r'⟩, hp, he⟩ := Option.map_eq_some_iff.1 h
            cases he; exact consU f _ _ _ _ vs' r hi (ihI _ _ _ _ hi) (ihU _ _ _ hp)
    · intro bs es r h
      cases bs with
      | nil => rw [parseEntriesUntilBreak_nil] at h; cases h
      | cons b t =>
        by_cases hb : b = 0xff
        · subst hb; rw [parseEntriesUntilBreak_break] at h; cases h; exact nilEU f _
        · rw [parseEntriesUntilBreak_cons _ _ _ hb] at h
          cases hi : parseItem coerce f (b :: t) none with
          | none => rw [hi] at h; cases h
          | some p =>
            obtain ⟨key, r1⟩ := p
            rw [hi] at h; dsimp only at h
            cases hi2 : parseItem coerce f r1 none with
            | none => rw [hi2] at h; cases h
            | some q =>
              rw [hi2] at h
              obtain ⟨⟨es', r'⟩, hp, he⟩ := Option.map_eq_some_iff.1 h
              cases he
              exact consEU f _ _ _ _ _ _ es' _ hi hi2 (ihI _ _ _ _ hi) (ihI _ _ _ _ hi2) (ihEU _ _ _ hp)

theorem parseItem_rest_flatten (coerce : Bool) : ∀ f bs tag v r, parseItem coerce f bs tag = some (v, r) →
    Rest bs r 1 ∧ v.flatten.length + 2 * r.length ≤ 2 * bs.length := by
  refine parse_induction coerce
    (PN := fun _ _ bs vs r => Rest bs r 0 ∧ (TV.flattenList vs).length + 2 * r.length ≤ 2 * bs.length)
    (PE := fun _ _ bs es r => Rest bs r 0 ∧ (TV.flattenEntries es).length + 2 * r.length ≤ 2 * bs.length)
    (PU := fun _ _ bs vs r => Rest bs r 0 ∧ (TV.flattenList vs).length + 2 * r.length ≤ 2 * bs.length)
    (PEU := fun _ _ bs es r => Rest bs r 0 ∧ (TV.flattenEntries es).length + 2 * r.length ≤ 2 * bs.length)
    ?scalar ?arrI ?mapI ?arrD ?mapD ?tagged ?nilN ?consN ?nilE ?consE ?nilU ?consU ?nilEU ?consEU
  case scalar =>
    intro _ bs tag b r hh
    have h1 : Rest bs r 1 := headOf_rest _ _ _ hh
    exact ⟨h1, by have := h1.2; simp only [TV.flatten, List.length_singleton]; omega⟩
  -- a container: the head takes a byte and two tokens, the items are covered by the hypothesis
  case arrI | mapI | arrD | mapD =>
    intro _ bs tag n r0 _ r hh h2
    have h1 : Rest bs r0 1 := headOf_rest _ _ _ hh
    refine ⟨h1.trans h2.1, ?_⟩
    have := h1.2; have := h2.2
    simp only [TV.flatten, List.length_cons, List.length_append, List.length_nil]; omega
  case tagged =>
    intro _ bs n r0 v r hh _ h2
    have h1 : Rest bs r0 1 := headOf_rest _ _ _ hh
    exact ⟨(h1.trans h2.1).weaken (by omega), by have := h1.2; have := h2.2; omega⟩
  case nilN | nilE => intro _ bs; exact ⟨Rest.refl _, by simp [TV.flattenList, TV.flattenEntries]⟩
  case nilU | nilEU =>
    intro _ r; exact ⟨(Rest.refl r).cons.weaken (Nat.zero_le _), by simp [TV.flattenList, TV.flattenEntries]; omega⟩
  case consN | consU =>
    intro _ _ bs v r1 vs r _ h1 h2
    refine ⟨(h1.1.trans h2.1).weaken (by omega), ?_⟩
    simp only [TV.flattenList, List.length_append]; omega
  case consE | consEU =>
    intro _ _ bs key r1 v r2 es r _ _ h1 h1' h2
    refine ⟨((h1.1.trans h1'.1).trans h2.1).weaken (by omega), ?_⟩
    simp only [TV.flattenEntries, List.length_append]; omega

theorem _root_.Refmt.PumpL.B256.rest {bs r : Bytes} {n : Nat} (h : PumpL.B256 bs) (hr : Rest bs r n) : PumpL.B256 r :=
  h.suffix hr.1

theorem _root_.Refmt.PumpL.B256.headOf {coerce : Bool} {bs : Bytes} {h : Head} (hB : PumpL.B256 bs)
    (hh : headOf coerce bs = some h) : PumpL.B256 h.rest :=
  hB.rest (headOf_rest _ _ _ hh)

theorem _root_.Refmt.PumpL.B256.parseItem {coerce : Bool} {f : Nat} {bs : Bytes} {tag : Option Int} {v : TV} {r : Bytes}
    (hB : PumpL.B256 bs) (h : parseItem coerce f bs tag = some (v, r)) : PumpL.B256 r :=
  hB.rest (parseItem_rest_flatten coerce f _ _ _ _ h).1

theorem parseItem_stable (coerce : Bool) (x : Bytes) : ∀ f bs tag v r, parseItem coerce f bs tag = some (v, r) →
    ∀ d, parseItem coerce (f + d) (bs ++ x) tag = some (v, r ++ x) := by
  refine parse_induction coerce
    (PN := fun f k bs vs r => ∀ d, parseN coerce (f + d) k (bs ++ x) = some (vs, r ++ x))
    (PE := fun f k bs es r => ∀ d, parseEntriesN coerce (f + d) k (bs ++ x) = some (es, r ++ x))
    (PU := fun f _ bs vs r => ∀ d, parseUntilBreak coerce (f + d) (bs ++ x) = some (vs, r ++ x))
    (PEU := fun f _ bs es r => ∀ d, parseEntriesUntilBreak coerce (f + d) (bs ++ x) = some (es, r ++ x))
    ?scalar ?arrI ?mapI ?arrD ?mapD ?tagged ?nilN ?consN ?nilE ?consE ?nilU ?consU ?nilEU ?consEU
  case scalar => intro f bs tag b r hh d; rw [Nat.add_right_comm, parseItem_eq, headOf_ext _ _ x _ hh]; rfl
  case arrI | mapI | arrD | mapD =>
    intro f bs tag n r0 _ r hh h d
    rw [Nat.add_right_comm, parseItem_eq, headOf_ext _ _ x _ hh]; exact congrArg (Option.map _) (h d)
  case tagged =>
    intro f bs n r0 v r hh _ h d
    rw [Nat.add_right_comm, parseItem_eq, headOf_ext _ _ x _ hh, Head.ext, itemOf_tag, h d]
  case nilN => intro f bs d; rw [Nat.add_right_comm]; exact parseN_zero ..
  case nilE => intro f bs d; rw [Nat.add_right_comm]; exact parseEntriesN_zero ..
  case consN =>
    intro f k bs v r1 vs r _ h1 h2 d
    rw [Nat.add_right_comm, parseN_succ, h1 d]; dsimp only; rw [h2 d]; rfl
  case consE =>
    intro f k bs key r1 v r2 es r _ _ h1 h1' h2 d
    rw [Nat.add_right_comm, parseEntriesN_succ, h1 d]; dsimp only; rw [h1' d]; dsimp only; rw [h2 d]; rfl
  case nilU => intro f r d; rw [Nat.add_right_comm]; exact parseUntilBreak_break _ _ _
  case nilEU => intro f r d; rw [Nat.add_right_comm]; exact parseEntriesUntilBreak_break _ _ _
  -- the item in front starts with a byte that is not a break, also with `x` behind it
  case consU =>
    intro f _ bs v r1 vs r hi h1 h2 d
    obtain ⟨b, t, rfl, hb⟩ := parseItem_cons hi
    rw [Nat.add_right_comm, List.cons_append, parseUntilBreak_cons _ _ _ hb, ← List.cons_append, h1 d]
    dsimp only; rw [h2 d]; rfl
  case consEU =>
    intro f _ bs key r1 v r2 es r hi _ h1 h1' h2 d
    obtain ⟨b, t, rfl, hb⟩ := parseItem_cons hi
    rw [Nat.add_right_comm, List.cons_append, parseEntriesUntilBreak_cons _ _ _ hb, ← List.cons_append, h1 d]
    dsimp only; rw [h1' d]; dsimp only; rw [h2 d]; rfl

end Refmt.C04
