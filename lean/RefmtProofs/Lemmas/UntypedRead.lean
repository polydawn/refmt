/-
  C12, second part: the untyped unmarshaller, on successful runs (`Obj.Reads`, Lemmas/ObjRun).  `unm_tree`: the flattening
  of `treeU` is read back as `sortU`; item `i` of a container is read with fuel `F - 1 - i` (`Reads.elems_at`,
  `Reads.entries_at`), which is enough for its tree because each item before it is at least one token long: this is what
  makes the bound `length + 3 * n ≤ fuel` come out (`n` the index of `isU`).  `unm_compat` speaks of every outcome: it is `C01L.unm_respell`
  (Lemmas/UnmCanon) on an untyped document, where declared lengths are not read.  `Reads.native`, by induction on the
  run: whatever an untyped slot reads from `tokPlain` tokens is native (`Native` says it job by job, `MInv` for the
  entries of a map); it is the proof of `C12.unm_yields_untyped`.
-/
import RefmtProofs.Lemmas.UntypedVal
import RefmtProofs.Lemmas.ObjRunSeq
import RefmtProofs.Lemmas.UnmCanon
namespace Refmt.C12
open Refmt Refmt.Obj Refmt.C12L

theorem Leaf.wild {it : IfaceTys} {b : Body} {d : Nat} {x : Val} (h : Leaf it b d x) :
    slotScalar it b = some (.iface (some (d, x))) := by
  cases h with
  | uint n h1 h2 => exact congrArg some (if_neg (Nat.not_lt.mpr h1))
  | _ => rfl

/-- the three premises of `UV.map` at depth `G`: what reading a map's entries one by one keeps (`MInv.nil`, `MInv.snoc`) -/
def MInv (it : IfaceTys) (G : Nat) (es : List (Val × Val)) : Prop :=
  (∀ p ∈ es, ∃ s, p.1 = .str s) ∧ (∀ p ∈ es, isU it G p.2 = true) ∧ (es.map fun p => keyOf p.1).Nodup

theorem hasKey_false {s : Bytes} {es : List (Val × Val)} (hk : ∀ p ∈ es, ∃ s, p.1 = .str s)
    (h : hasKey (.str s) es = false) : s ∉ es.map fun p => keyOf p.1 := by
  intro hm
  simp only [List.mem_map] at hm
  obtain ⟨p, hp, hps⟩ := hm
  obtain ⟨s', hs'⟩ := hk p hp
  simp only [hasKey, List.any_eq_false] at h
  have := h p hp
  obtain ⟨k, y⟩ := p
  subst hs'
  simp only [keyOf] at hps
  subst hps
  simp [beqVal] at this

theorem MInv.nil (it : IfaceTys) (G : Nat) : MInv it G [] :=
  ⟨fun _ hx => (nomatch hx), fun _ hx => (nomatch hx), List.nodup_nil⟩

theorem MInv.snoc {it : IfaceTys} {G : Nat} {es : List (Val × Val)} {s : Bytes} {v : Val} (h : MInv it G es)
    (hk : hasKey (.str s) es = false) (hv : isU it G v = true) : MInv it G (es ++ [(.str s, v)]) := by
  obtain ⟨i1, i2, i3⟩ := h
  refine ⟨?_, ?_, ?_⟩
  · intro p hp
    simp only [List.mem_append, List.mem_singleton] at hp
    rcases hp with hp | rfl
    · exact i1 p hp
    · exact ⟨_, rfl⟩
  · intro p hp
    simp only [List.mem_append, List.mem_singleton] at hp
    rcases hp with hp | rfl
    · exact i2 p hp
    · exact hv
  · have hnk := hasKey_false i1 hk
    rw [List.map_append, List.nodup_append]
    refine ⟨i3, by simp, ?_⟩
    intro x hx y hy
    simp only [List.map_cons, List.map_nil, List.mem_singleton, keyOf] at hy
    subst hy
    intro hxy
    subst hxy
    exact hnk hx

theorem slotScalar_isU {it : IfaceTys} {t : Tok} {v : Val} (hp : tokPlain t = true) (hs : slotScalar it t.body = some v)
    (f : Nat) : isU it (f+1) v = true := by
  obtain ⟨b, tg⟩ := t
  simp only [tokPlain, Bool.and_eq_true] at hp
  have hb := hp.2
  cases b with
  | null => cases hs; rfl
  | str s => cases hs; exact Leaf.isU (.str _) _
  | bytes s => cases hs; exact Leaf.isU (.bytes _) _
  | bool s => cases hs; exact Leaf.isU (.bool _) _
  | int i =>
    cases hs
    simp only [Bool.and_eq_true, decide_eq_true_eq] at hb
    exact Leaf.isU (.int _ hb.1 hb.2) _
  | uint n =>
    -- below 2^63 it comes in as an `int`
    simp only [decide_eq_true_eq] at hb
    simp only [slotScalar, Option.some.injEq] at hs
    split at hs
    · next hn => subst hs; exact Leaf.isU (.int _ (by unfold two63; omega) (by omega)) _
    · next hn => subst hs; exact Leaf.isU (.uint _ (by omega) hb) _
  | float x =>
    cases hs
    simp only [decide_eq_true_eq] at hb
    exact Leaf.isU (.float _ hb) _
  | _ => cases hs

/-- what the jobs of an untyped slot yield: native values, and containers of native values around what they were
    started with (`G`: the items already there may be deeper than this run can go) -/
def Native (it : IfaceTys) (f : Nat) : Job → List Tok → Val → Prop
  | .v id _, _, v => id = it.iface → isU it f v = true
  | .bare _ .wildcard _, _, v | .wild _, _, v => isU it f v = true
  | .bare _ (.slice e) _, t :: _, v => e = it.iface → (∃ l, t.body = .arrOpen l) →
      ∃ vs, v = .slice (some vs) ∧ ∀ x ∈ vs, isU it f x = true
  | .bare _ (.map kt vt) cur, t :: _, v => kt = it.str → vt = it.iface → (∃ l, t.body = .mapOpen l) →
      MInv it f (UM.mapEntries cur) → ∃ es, v = .map (some es) ∧ MInv it f es
  | .elems e _ acc, _, v => e = it.iface → ∀ G, f ≤ G → (∀ x ∈ acc, isU it G x = true) →
      ∃ vs, v = .slice (some vs) ∧ ∀ x ∈ vs, isU it G x = true
  | .entries none vt es, _, v => vt = it.iface → ∀ G, f ≤ G → MInv it G es →
      ∃ es', v = .map (some es') ∧ MInv it G es'
  | _, _, _ => True

def mapRes (g : Tok → Tok) : URes → URes
  | .ok v r k => .ok v (r.map g) k
  | x => x

section env
variable {ts : Types} {a : Atlas} {it : IfaceTys} (trs : Trs) (he : UEnv ts a it)
include he

theorem upick_iface : upickBare ts a it.iface = .wildcard := (pick_wild he.iface he.noIface).2

theorem uV_iface (f : Nat) (cur : Val) (t : Tok) (rest : List Tok) :
    unmV ts a trs it (f+2) it.iface cur (t :: rest) = unmWild ts a trs it f false t rest := by
  rw [unmV_cons, peel_iface he]
  show unmBare ts a trs it (f+1) it.iface (upickBare ts a it.iface) cur (t :: rest) = _
  rw [upick_iface he, unmBare_wild, UM.hasMethods, he.iface]

theorem _root_.Refmt.Obj.Reads.slot {f : Nat} {cur : Val} {t : Tok} {c : List Tok} {v : Val}
    (h : Reads ts a trs it f (.wild false) (t :: c) v) : Reads ts a trs it (f+2) (.v it.iface cur) (t :: c) v := by
  refine .v_direct (peel_iface he) ?_
  rw [upick_iface he]
  refine .wildcard ?_
  rw [UM.hasMethods, he.iface]
  exact h

omit trs in
theorem _root_.Refmt.MRun.Writes.slot {trs : Trs} {f id : Nat} {w : Val} {toks : List Tok}
    (h : MRun.Writes ts a trs f (.bare id .wildcard w) toks) : MRun.Writes ts a trs (f+1) (.v it.iface w) toks := by
  refine .v_of_bare (by simp [he.iface]) (pick_iface he) ?_
  cases h with
  | wildNil => exact .wildNil
  | wild h => exact .wild h

omit trs in
theorem _root_.Refmt.MRun.Writes.slot_boxed {trs : Trs} {f dt : Nat} {dv : Val} {toks : List Tok}
    (h : MRun.Writes ts a trs f (.v dt dv) toks) : MRun.Writes ts a trs (f+2) (.v it.iface (.iface (some (dt, dv)))) toks :=
  (MRun.Writes.wild (id := it.iface) h).slot he

variable (ts a it) in
def UTree (f : Nat) (u : Val) : Prop := ∀ fuel cur, (treeU a.defaultSort f u).flatten.length + 3 * f ≤ fuel →
    Reads ts a trs it fuel (.v it.iface cur) (treeU a.defaultSort f u).flatten (sortU a.defaultSort f u)

theorem unm_tree_all : ∀ (n : Nat) (u : Val), isU it n u = true → UTree ts a it trs n u := by
  refine isU_induct (fun f fuel cur hF => ?_) (fun f b d x hl fuel cur hF => ?_) (fun f vs h ih fuel cur hF => ?_)
    (fun f es hk hv hd ih fuel cur hF => ?_)
  · simp only [treeU_nil, TV.flatten, List.length_cons, List.length_nil] at hF ⊢
    obtain ⟨F', rfl⟩ : ∃ F', fuel = F' + 3 := ⟨fuel - 3, by omega⟩
    exact Reads.slot trs he (.wild_scalar rfl rfl rfl)
  · rw [hl.tree, hl.sortU] at *
    obtain ⟨F', rfl⟩ : ∃ F', fuel = F' + 3 := ⟨fuel - 3, by omega⟩
    exact Reads.slot trs he (.wild_scalar rfl rfl hl.wild)
  · rw [sortU_slice]
    simp only [treeU_slice, TV.flatten, flattenList_map, List.length_cons, List.length_append, List.length_nil] at hF ⊢
    obtain ⟨F', rfl⟩ : ∃ F', fuel = F' + 4 := ⟨fuel - 4, by omega⟩
    refine Reads.slot trs he (.wild_arr rfl rfl rfl (.slice rfl ?_))
    have hlen := length_flatMap_ge (fun x => (treeU a.defaultSort f x).flatten) (fun x => TV.flatten_pos _) vs
    have hF' : vs.length + 1 ≤ F' := by
      have := length_le_flatMap (fun x => (treeU a.defaultSort f x).flatten) (fun x => TV.flatten_pos _) vs
      omega
    exact Reads.elems_at (fun x => (treeU a.defaultSort f x).flatten) (sortU a.defaultSort f) rfl vs F' [] hF'
      (fun i hi => ⟨F' - 1 - i, by omega,
        ih _ (List.getElem_mem hi) _ _ (by have := hlen i hi; omega)⟩)
      (fun _ hn => nomatch hn)
  · rw [sortU_map]
    simp only [treeU_map, TV.flatten, flattenEntries_map (fun p : Bytes × Val => p.1) (fun p => treeU a.defaultSort f p.2),
      List.length_cons, List.length_append, List.length_nil] at hF ⊢
    obtain ⟨F', rfl⟩ : ∃ F', fuel = F' + 4 := ⟨fuel - 4, by omega⟩
    refine Reads.slot trs he (.wild_map rfl rfl rfl (.map (keyFnOfU_string he.str a) rfl ?_))
    have hL := sorted_mem a.defaultSort es (fun _ => UTree ts a it trs f) ih
    have hnd : ((sortKeys a.defaultSort (es.map fun p => (keyOf p.1, p.2))).map (·.1)).Nodup := nodup_sortKeys_keyStr hd
    generalize sortKeys a.defaultSort (es.map fun p => (keyOf p.1, p.2)) = L at hF hL hnd ⊢
    have hpos : ∀ p : Bytes × Val, 1 ≤ ((⟨.str p.1, none⟩ : Tok) :: (treeU a.defaultSort f p.2).flatten).length :=
      fun _ => Nat.le_add_left 1 _
    have hlen := length_flatMap_ge _ hpos L
    have hF' : L.length + 1 ≤ F' := by have := length_le_flatMap _ hpos L; omega
    exact Reads.entries_at (fun p => ⟨.str p.1, none⟩) (·.1) (fun p => (treeU a.defaultSort f p.2).flatten)
      (fun p => sortU a.defaultSort f p.2) rfl L F' [] hF' (fun _ _ => rfl)
      (fun i hi => ⟨F' - 1 - i, by omega,
        hL _ (List.getElem_mem hi) _ _ (by have := hlen i hi; simp only [List.length_cons] at this; omega)⟩)
      hnd (fun _ _ => rfl)

theorem unm_tree (n : Nat) (u : Val) (fuel : Nat) (cur : Val) (more : List Tok) (hu : isU it n u = true)
    (hF : (treeU a.defaultSort n u).flatten.length + 3 * n ≤ fuel) :
    unmV ts a trs it fuel it.iface cur ((treeU a.defaultSort n u).flatten ++ more) =
      .ok (sortU a.defaultSort n u) more (treeU a.defaultSort n u).flatten.length :=
  (unm_tree_all trs he n u hu fuel cur hF).sound more

theorem unm_compat (g : Tok → Tok) (fuel : Nat) (cur : Val) (toks : List Tok)
    (hc : ∀ t ∈ toks, C01L.Respell True t (g t) ∧ t.tag = none) :
    unmV ts a trs it fuel it.iface cur (toks.map g) = mapRes g (unmV ts a trs it fuel it.iface cur toks) := by
  exact C01L.unm_respell (untyped := True)
    (fun _ => ⟨congrArg Prod.fst (peel_iface he), by rw [peel_iface he]; exact upick_iface he⟩) fuel (.v it.iface cur) toks
    (fun _ => rfl) (fun t ht => ⟨(hc t ht).1, fun _ => (hc t ht).2⟩)

end env

theorem _root_.Refmt.Obj.Reads.native {ts : Types} {a : Atlas} {trs : Trs} {it : IfaceTys} (he : UEnv ts a it) {f j c v}
    (h : Reads ts a trs it f j c v) : c.all tokPlain = true → Native it f j c v := by
  induction h with
  | v_bare h0 _ ih =>
    rintro hp rfl
    have := ih hp
    rw [peel_iface he, upick_iface he] at this
    exact isU_mono_succ it _ _ this
  | v_null h0 | v_ptr h0 => rintro _ rfl; exact absurd (congrArg Prod.fst (peel_iface he)) h0
  | wildcard _ ih => intro hp; exact isU_mono_succ it _ _ (ih hp)
  | slice_null hb => rintro _ _ ⟨l, hl⟩; rw [hb] at hl; cases hl
  | map_null _ hb => rintro _ _ _ ⟨l, hl⟩; rw [hb] at hl; cases hl
  | slice hb _ ih => rintro hp e _; exact ih (of_all_cons hp).2 e _ (Nat.le_succ _) (fun _ hx => nomatch hx)
  | map hk hb _ ih =>
    rintro hp rfl e _ hinv
    obtain rfl := Option.some.inj ((keyFnOfU_string he.str a).symm.trans hk)
    exact ih (of_all_cons hp).2 e _ (Nat.le_succ _) hinv
  | wild_tag hg => intro hp; have := (of_all_cons hp).1; simp [tokPlain, hg] at this
  | wild_map _ _ hb _ ih =>
    intro hp
    obtain ⟨es, rfl, h1, h2, h3⟩ := ih hp rfl rfl ⟨_, hb⟩ (MInv.nil it _)
    exact UV_isU (.map _ _ h1 h2 h3)
  | wild_arr _ _ hb _ ih =>
    intro hp
    obtain ⟨vs, rfl, h1⟩ := ih hp rfl ⟨_, hb⟩
    exact UV_isU (.slice _ _ h1)
  | wild_scalar _ _ hs => intro hp; exact slotScalar_isU (of_all_cons hp).1 hs _
  | elems_close => rintro _ _ G _ hacc; exact ⟨_, rfl, fun x hx => hacc x (List.mem_reverse.mp hx)⟩
  | elems_cons _ _ _ _ _ ih1 ih2 =>
    rintro hp rfl G hG hacc
    obtain ⟨hp1, hp2⟩ := of_all_append hp
    refine ih2 hp2 rfl G (by omega) (fun x hx => ?_)
    rcases List.mem_cons.mp hx with rfl | hx
    · exact isU_mono it (by omega) _ (ih1 hp1 rfl)
    · exact hacc x hx
  | @entries_close _ kf =>
    cases kf with
    | some _ => intro _; trivial
    | none => rintro _ _ G _ hinv; exact ⟨_, rfl, hinv⟩
  | @entries_cons _ kf _ _ _ _ _ _ _ _ _ _ hk hh _ _ ih1 ih2 =>
    cases kf with
    | some _ => intro _; trivial
    | none =>
      rintro hp rfl G hG hinv
      obtain ⟨hp1, hp2⟩ := of_all_append (of_all_cons hp).2
      cases hk
      exact ih2 hp2 rfl G (by omega) (hinv.snoc hh (isU_mono it (by omega) _ (ih1 hp1 rfl)))
  | _ => intro _; trivial

/-- `g` is what a codec does to the tokens: `C02.canonTok` for CBOR, `eraseLen` for JSON -/
theorem unm_tree_back {ts : Types} {a : Atlas} {it : IfaceTys} (trs : Trs) (he : UEnv ts a it) (g : Tok → Tok)
    (hg : ∀ t, tokPlain t = true → C01L.Respell True t (g t) ∧ t.tag = none) (n : Nat) (u : Val) (fuel : Nat) (cur : Val)
    (hu : isU it n u = true) (hF : (treeU a.defaultSort n u).flatten.length + 3 * n ≤ fuel) :
    unmV ts a trs it fuel it.iface cur ((treeU a.defaultSort n u).flatten.map g) =
      .ok (sortU a.defaultSort n u) [] (treeU a.defaultSort n u).flatten.length := by
  rw [unm_compat trs he g fuel _ _ (fun t ht => hg t (tree_plain it a.defaultSort n u hu t ht))]
  have := unm_tree trs he n u fuel cur [] hu hF
  rw [List.append_nil] at this
  rw [this]
  rfl

end Refmt.C12
