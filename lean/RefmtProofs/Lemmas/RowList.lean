/-
  The rows of a slab seen as `lo ++ row :: hi`: the machine under consideration lives in `row`, at index `lo.length`;
  everything in `lo` is older; the tip is the last row of `hi`, or `row` itself when `hi` is empty.  Both refinement
  proofs of the stateful object layer read their slab this way (Lemmas/MarshalMach*.lean over `MM.Row`,
  Lemmas/UnmarshalMach*.lean over `UM.URow`).
-/
namespace Refmt.RowL

variable {α : Type}

theorem getRow (lo : List α) (row : α) (hi : List α) : (lo ++ row :: hi)[lo.length]? = some row := by
  simp

theorem len_at (lo : List α) (row : α) (hi : List α) : (lo ++ row :: hi).length = lo.length + 1 + hi.length := by
  simp; omega

theorem reassoc (lo : List α) (row : α) (hi x : List α) : (lo ++ row :: hi) ++ x = lo ++ row :: (hi ++ x) := by
  simp

theorem set_at (lo : List α) (row x : α) (hi : List α) : (lo ++ row :: hi).set lo.length x = lo ++ x :: hi := by
  simp

theorem tip_split (hi : List α) : hi = [] ∨ ∃ mid T, hi = mid ++ [T] := by
  rcases List.eq_nil_or_concat hi with h | ⟨mid, T, h⟩
  · exact .inl h
  · exact .inr ⟨mid, T, by rw [h, List.concat_eq_append]⟩

theorem snoc_of_ne_nil (l : List α) (h : l ≠ []) : ∃ l' x, l = l' ++ [x] :=
  (tip_split l).resolve_left h

theorem getRow_tip (lo : List α) (row : α) (hi0 : List α) (x : α) :
    (lo ++ row :: (hi0 ++ [x]))[lo.length + 1 + hi0.length]? = some x := by
  rw [← reassoc, ← len_at lo row hi0]
  exact getRow _ _ _

theorem set_tip (lo : List α) (row : α) (hi0 : List α) (x y : α) :
    (lo ++ row :: (hi0 ++ [x])).set (lo.length + 1 + hi0.length) y = lo ++ row :: (hi0 ++ [y]) := by
  rw [← reassoc, ← len_at lo row hi0, set_at, reassoc]

theorem lt_of_getElem? {l : List α} {i : Nat} {x : α} (h : l[i]? = some x) : i < l.length :=
  (List.getElem?_eq_some_iff.mp h).1

theorem set_same {l : List α} {i : Nat} {x : α} (h : l[i]? = some x) : l.set i x = l := by
  obtain ⟨hi, rfl⟩ := List.getElem?_eq_some_iff.mp h
  exact List.set_getElem_self hi

end Refmt.RowL
