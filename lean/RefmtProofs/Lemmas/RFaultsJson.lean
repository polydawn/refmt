/-
  Read faults (C16), JSON decoder.  The decoder is a client program of the reader (Lemmas/C15Json.lean);
  each of its parts hands an injected read error on (`Passes`), so by `C15.exec_fault` a run over a reader
  with a fault either reports it or leaves the reader where the fault-free run leaves it.
-/
import RefmtModel
import RefmtProofs.Lemmas.C15Json
namespace Refmt.C15Prog.Json
open Refmt Refmt.JsonDec Refmt.C15 Refmt.C16R

variable {β : Type} {J : β → Prop}

/-- `HK` for the continuation of a decoder part, where the error sits in the `ret` field -/
def HO (J : β → Prop) (k : O → Prog β) : Prop :=
  (∀ s rd, J (exec (k ⟨s, .err .injected⟩) rd).1) ∧ ∀ o, Passes J (k o)

theorem HO.inC {k : O → Prog β} (hk : HO J k) : HO J fun o => k (inContainerO o) :=
  ⟨hk.1, fun _ => hk.2 _⟩

theorem skipWsP_passes {k : Except Err Nat → Prog β} (hk : HK J k) : ∀ fuel, Passes J (skipWsP fuel k)
  | 0 => hk.2 _
  | fuel+1 => by
    rw [skipWsP]
    refine rd1_passes ⟨hk.1, fun r => ?_⟩
    cases r with
    | error e => exact hk.2 _
    | ok b => exact ite_ind (skipWsP_passes hk fuel) (hk.2 _)

theorem scanStringP_passes {k : Except Err Bytes → Prog β} (hk : HK J k) :
    ∀ fuel st acc, Passes J (scanStringP fuel st acc k)
  | 0, _, _ => hk.2 _
  | fuel+1, st, acc => by
    rw [scanStringP]
    refine rd1_passes ⟨hk.1, fun r => ?_⟩
    cases r with
    | error e => exact hk.2 _
    | ok b =>
      dsimp only
      rcases strStep st b with _ | _ | st'
      · exact hk.2 _
      · exact hk.2 _
      · exact scanStringP_passes hk fuel _ _

theorem scanNumberP_passes {k : Except Err Bytes → Prog β} (hk : HK J k) :
    ∀ fuel st acc, Passes J (scanNumberP fuel st acc k)
  | 0, _, _ => hk.2 _
  | fuel+1, st, acc => by
    rw [scanNumberP]
    refine passes_read1 ⟨hk.1, fun r => ?_⟩
    cases r with
    | error e =>
      cases e
      case eof => rcases numStep st 32 with _ | _ <;> exact hk.2 _
      all_goals exact hk.2 _
    | ok b =>
      dsimp only
      rcases numStep st b with _ | _ | st'
      · exact hk.2 _
      · exact hk.2 _
      · exact scanNumberP_passes hk fuel _ _

theorem decStringP_passes {k : Except Err Bytes → Prog β} (hk : HK J k) (N : Nat) : Passes J (decStringP N k) := by
  refine scanStringP_passes ⟨?_, fun r => ?_⟩ N _ _
  · exact hk.1
  · cases r <;> exact hk.2 _

theorem decNumberP_passes {k : Except Err Body → Prog β} (hk : HK J k) (N b0 : Nat) :
    Passes J (decNumberP N b0 k) :=
  scanNumberP_passes ⟨hk.1, fun r => by cases r <;> exact hk.2 _⟩ N _ _

theorem literalP_passes {k : O → Prog β} (hk : HO J k) (s : St) (rest : Bytes) (b : Body) :
    Passes J (literalP s rest b k) := by
  refine passes_readN ⟨hk.1 s, fun r => ?_⟩
  cases r with
  | error e => cases e <;> exact hk.2 _
  | ok bs => exact ite_ind (hk.2 _) (hk.2 _)

theorem acceptValueP_passes {k : O → Prog β} (hk : HO J k) (N : Nat) (s : St) (mb : Nat) :
    Passes J (acceptValueP N s mb k) := by
  unfold acceptValueP
  refine ite_ind (hk.2 _) <| ite_ind (hk.2 _) <| ite_ind (literalP_passes hk ..) <| ite_ind ?_ <|
    ite_ind (literalP_passes hk ..) <| ite_ind (literalP_passes hk ..) <| ite_ind ?_ (hk.2 _)
  · exact decStringP_passes ⟨hk.1 s, fun r => by cases r <;> exact hk.2 _⟩ N
  · exact decNumberP_passes ⟨hk.1 s, fun r => by cases r <;> exact hk.2 _⟩ N mb

theorem arrEntryP_passes {k : O → Prog β} (hk : HO J k) (N : Nat) (s : St) (mb : Nat) :
    Passes J (arrEntryP N s mb k) :=
  ite_ind (hk.2 _) (acceptValueP_passes hk.inC ..)

theorem mapEntryP_passes {k : O → Prog β} (hk : HO J k) (N : Nat) (s : St) (mb : Nat) :
    Passes J (mapEntryP N s mb k) := by
  refine ite_ind (hk.2 _) <| ite_ind (hk.2 _) <| decStringP_passes ⟨hk.1 s, fun r => ?_⟩ N
  cases r with
  | error e => exact hk.2 _
  | ok key =>
    refine skipWsP_passes ⟨hk.1 s, fun r => ?_⟩ N
    cases r with
    | error e => exact hk.2 _
    | ok c => exact ite_ind (hk.2 _) (hk.2 _)

theorem afterSomeP_passes {k : O → Prog β} (hk : HO J k) (N : Nat) (s : St) (mb close : Nat) (ct : Body)
    (entry : St → Nat → (O → Prog β) → Prog β) (he : ∀ s mb, Passes J (entry s mb k)) :
    Passes J (afterSomeP N s mb close ct entry k) := by
  refine ite_ind (ite_ind (hk.2 _) <| ite_ind (skipWsP_passes ⟨hk.1 s, fun r => ?_⟩ N) (hk.2 _)) (he _ _)
  cases r with
  | error e => exact hk.2 _
  | ok mb2 => exact he _ _

theorem subStepP_passes {k : O → Prog β} (hk : HO J k) (N : Nat) (s : St) : Passes J (subStepP N s k) := by
  refine skipWsP_passes ⟨hk.1 s, fun r => ?_⟩ N
  cases r with
  | error e => exact hk.2 _
  | ok mb =>
    cases s.frame.k with
    | value => exact acceptValueP_passes hk ..
    | arr => exact afterSomeP_passes hk _ _ _ _ _ _ (arrEntryP_passes hk N)
    | mapKey => exact afterSomeP_passes hk _ _ _ _ _ _ (mapEntryP_passes hk N)
    | mapVal => exact acceptValueP_passes hk.inC ..

theorem stepP_passes {k : O → Prog β} (hk : HO J k) (N : Nat) (s : St) : Passes J (stepP N s k) := by
  refine subStepP_passes ⟨?_, fun _ => ?_⟩ N s
  · exact hk.1
  · exact hk.2 _

def Inj (r : Res) : Prop := r.2.1 = .error .injected

theorem runP_passes (N : Nat) : ∀ fuel s acc steps, Passes Inj (runP N fuel s acc steps)
  | 0, _, _, _ => trivial
  | fuel+1, s, acc, steps => by
    rw [runP]
    refine stepP_passes ⟨fun _ _ => rfl, fun o => ?_⟩ N s
    split
    · trivial
    · trivial
    · exact runP_passes N fuel _ _ _

end Refmt.C15Prog.Json

namespace Refmt.C16R.Json
open Refmt Refmt.JsonDec Refmt.C15 Refmt.C16R Refmt.C15Prog.Json

theorem run_fault_reported {M : Nat} {stop : Bool} (fuel : Nat) (s : St) (b : Rd) (acc : List Tok) (steps : Nat)
    (h : Ok M b) (hlen : (run fuel s b acc steps).rd.data.length < M) :
    (run fuel s (inj M stop b) acc steps).res = .error .injected :=
  model_fault_past (R := fun rd => run fuel s rd acc steps) (runP_passes (b.data.length + 1) fuel s acc steps)
    (fun rd hl => runP_spec _ fuel s rd acc steps (Nat.lt_succ_of_le hl)) h hlen

theorem decode_fault_reported (bs : Bytes) (k : Nat) (stop : Bool)
    (hk : k < bs.length - (decode (Rd.ofBytes bs)).rd.data.length) :
    (decode ⟨bs, some (k, stop), 0⟩).res = .error .injected := by
  rw [inj_ofBytes bs k stop (by omega)]
  exact run_fault_reported _ _ _ _ _ (ok_ofBytes bs k) (by show (decode (Rd.ofBytes bs)).rd.data.length < bs.length - k; omega)

end Refmt.C16R.Json
