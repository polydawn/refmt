-- The step equations of the six mutual functions of the object unmarshaller model (`unmV` … `unmStruct`), one per
-- machine, with failure propagation written with `URes.bind'`; every proof about the model goes through these.
import RefmtProofs.Lemmas.ObjStream
namespace Refmt.Obj
open Refmt
variable (ts : Types) (a : Atlas) (trs : Trs) (it : IfaceTys)

def capFull (cap : Option Nat) (acc : List Val) : Bool :=
  match cap with | some n => decide (acc.length ≥ n) | none => false

theorem capFull_none (acc : List Val) : capFull none acc = false := rfl
theorem capFull_some (n : Nat) (acc : List Val) : capFull (some n) acc = decide (acc.length ≥ n) := rfl

theorem unmV_zero (id cur toks) : unmV ts a trs it 0 id cur toks = .panic 0 := by rw [unmV.eq_def]
theorem unmBare_zero (id m cur toks) : unmBare ts a trs it 0 id m cur toks = .panic 0 := by rw [unmBare.eq_def]
theorem unmWild_zero (meth t rest) : unmWild ts a trs it 0 meth t rest = .panic 0 := by rw [unmWild.eq_def]
theorem unmElems_zero (e cap acc toks) : unmElems ts a trs it 0 e cap acc toks = .panic 0 := by rw [unmElems.eq_def]
theorem unmMapEntries_zero (kf vt es toks) : unmMapEntries ts a trs it 0 kf vt es toks = .panic 0 := by
  rw [unmMapEntries.eq_def]
theorem unmStruct_zero (id fields len idx cur toks) : unmStruct ts a trs it 0 id fields len idx cur toks = .panic 0 := by
  rw [unmStruct.eq_def]
theorem unmV_succ_nil (fuel id cur) : unmV ts a trs it (fuel+1) id cur [] = .more 0 := by rw [unmV.eq_def]
theorem unmBare_succ_nil (fuel id m cur) : unmBare ts a trs it (fuel+1) id m cur [] = .more 0 := by rw [unmBare.eq_def]
theorem unmElems_succ_nil (fuel e cap acc) : unmElems ts a trs it (fuel+1) e cap acc [] = .more 0 := by
  rw [unmElems.eq_def]
theorem unmMapEntries_succ_nil (fuel kf vt es) : unmMapEntries ts a trs it (fuel+1) kf vt es [] = .more 0 := by
  rw [unmMapEntries.eq_def]
theorem unmStruct_succ_nil (fuel id fields len idx cur) :
    unmStruct ts a trs it (fuel+1) id fields len idx cur [] = .more 0 := by
  rw [unmStruct.eq_def]

theorem unmV_cons (fuel id cur t rest) : unmV ts a trs it (fuel+1) id cur (t :: rest) =
    if (peel ts 64 0 id).1 == 0 then
      unmBare ts a trs it fuel (peel ts 64 0 id).2 (upickBare ts a (peel ts 64 0 id).2) cur (t :: rest)
    else match t.body with
      | .null => .ok (.ptr none) rest 1
      | _ => (unmBare ts a trs it fuel (peel ts 64 0 id).2 (upickBare ts a (peel ts 64 0 id).2)
                (innerCur ts (peel ts 64 0 id).1 id cur) (t :: rest)).bind'
                (fun v r u => .ok (wrapPtr (peel ts 64 0 id).1 v) r u) 0 := by
  rw [unmV.eq_def, bind'_zero_eq]
  rfl

theorem unmBare_prim (fuel id cur t rest) : unmBare ts a trs it (fuel+1) id .prim cur (t :: rest) =
    (match storePrim (ts.get id) t with | some v => .ok v rest 1 | none => .err 0) := by
  rw [unmBare.eq_def]
  rfl

theorem unmBare_errThunk (fuel id cur t rest) : unmBare ts a trs it (fuel+1) id .errThunk cur (t :: rest) = .err 0 := by
  rw [unmBare.eq_def]
theorem unmBare_panic (fuel id cur t rest) : unmBare ts a trs it (fuel+1) id .panic cur (t :: rest) = .panic 0 := by
  rw [unmBare.eq_def]

theorem unmBare_wild (fuel id cur t rest) : unmBare ts a trs it (fuel+1) id .wildcard cur (t :: rest) =
    unmWild ts a trs it fuel (UM.hasMethods ts id) t rest := by
  rw [unmBare.eq_def]
  rfl

theorem unmBare_slice (fuel id e cur t rest) : unmBare ts a trs it (fuel+1) id (.slice e) cur (t :: rest) =
    (match t.body with
     | .null => .ok (.slice none) rest 1
     | .arrOpen _ => (unmElems ts a trs it fuel e none [] rest).shift 1
     | _ => .err 0) := by
  rw [unmBare.eq_def]
  rfl

def arrFix (ts : Types) (n e : Nat) (v : Val) : Val :=
  match v with
  | .slice (some vs) => .arr (vs ++ List.replicate (n - vs.length) (zeroVal ts 64 e))
  | v => v

theorem arrFix_slice (ts : Types) (n e : Nat) (vs : List Val) :
    arrFix ts n e (.slice (some vs)) = .arr (vs ++ List.replicate (n - vs.length) (zeroVal ts 64 e)) := rfl

theorem arr_match_eq (n e : Nat) (x : URes) :
    (match x with
     | .ok (.slice (some vs)) r u => URes.ok (.arr (vs ++ List.replicate (n - vs.length) (zeroVal ts 64 e))) r (u + 1)
     | x => x.shift 1) = x.bind' (fun v r u => .ok (arrFix ts n e v) r (u + 1)) 1 := by
  cases x with
  | ok v r u =>
    cases v <;> try rfl
    rename_i o; cases o <;> rfl
  | _ => rfl

theorem unmBare_array (fuel id n e cur t rest) : unmBare ts a trs it (fuel+1) id (.array n e) cur (t :: rest) =
    (match t.body with
     | .null => .ok (zeroVal ts 64 id) rest 1
     | .arrOpen _ => (unmElems ts a trs it fuel e (some n) [] rest).bind' (fun v r u => .ok (arrFix ts n e v) r (u + 1)) 1
     | _ => .err 0) := by
  rw [unmBare.eq_def, ← arr_match_eq]
  rfl

theorem keyFnOfU_string {ts : Types} {kt : Nat} {b : Bool} (h : ts.get kt = .prim .string b) (a : Atlas) :
    UM.keyFnOfU ts a kt = some none := by
  simp [UM.keyFnOfU, h]

theorem unmBare_map (fuel id kt vt cur t rest) : unmBare ts a trs it (fuel+1) id (.map kt vt) cur (t :: rest) =
    (match UM.keyFnOfU ts a kt with
     | none => .err 0
     | some kf =>
       (match t.body with
        | .null => .ok (.map none) rest 1
        | .mapOpen _ => (unmMapEntries ts a trs it fuel kf vt (UM.mapEntries cur) rest).shift 1
        | _ => .err 0)) := by
  rw [unmBare.eq_def]
  rfl

theorem unmBare_structMap (fuel id fields cur t rest) : unmBare ts a trs it (fuel+1) id (.structMap fields) cur (t :: rest) =
    (match t.body with
     | .null => .ok (zeroVal ts 64 id) rest 1
     | .mapOpen len => (unmStruct ts a trs it fuel id fields len 0 cur rest).shift 1
     | _ => .err 0) := by
  rw [unmBare.eq_def]
  rfl

def trPost (trs : Trs) (fn : Nat) : Val → List Tok → Nat → URes := fun rv r u =>
  match trs.u fn rv with
  | some v => .ok v r u
  | none => .err (u - 1)

theorem trPost_some {trs : Trs} {fn : Nat} {rv v : Val} (h : trs.u fn rv = some v) (r u) :
    trPost trs fn rv r u = .ok v r u := by
  simp [trPost, h]
theorem trPost_none {trs : Trs} {fn : Nat} {rv : Val} (h : trs.u fn rv = none) (r u) :
    trPost trs fn rv r u = .err (u - 1) := by
  simp [trPost, h]
theorem trPost_ok_inv {trs : Trs} {fn : Nat} {rv v : Val} {r r' : List Tok} {u u' : Nat}
    (h : trPost trs fn rv r u = .ok v r' u') : trs.u fn rv = some v ∧ r' = r ∧ u' = u := by
  cases hu : trs.u fn rv with
  | none => rw [trPost_none hu] at h; cases h
  | some w => rw [trPost_some hu] at h; cases h; exact ⟨rfl, rfl, rfl⟩
theorem trPost_ne_panic {trs : Trs} {fn : Nat} {rv : Val} {r : List Tok} {u k : Nat} :
    trPost trs fn rv r u ≠ .panic k := by
  cases hu : trs.u fn rv with
  | none => rw [trPost_none hu]; exact URes.noConfusion
  | some w => rw [trPost_some hu]; exact URes.noConfusion

theorem unmBare_transform (fuel id fn uty cur t rest) : unmBare ts a trs it (fuel+1) id (.transform fn uty) cur (t :: rest) =
    (unmBare ts a trs it fuel uty (upickBare ts a uty) (zeroVal ts 64 uty) (t :: rest)).bind' (trPost trs fn) 0 := by
  rw [unmBare.eq_def, bind'_zero_eq]
  rfl

def unionClose (ty : Nat) : Val → List Tok → Nat → URes := fun v r u =>
  match r with
  | [] => .more (u + 2)
  | c :: r' =>
    (match c.body with
     | .mapClose => .ok (.iface (some (ty, v))) r' (u + 3)
     | _ => .err (u + 2))

theorem unionClose_nil (ty : Nat) (v : Val) (u : Nat) : unionClose ty v [] u = .more (u + 2) := rfl
theorem unionClose_close (ty : Nat) (v : Val) {c : Tok} (r : List Tok) (u : Nat) (h : c.body = .mapClose) :
    unionClose ty v (c :: r) u = .ok (.iface (some (ty, v))) r (u + 3) := by
  simp [unionClose, h]
theorem unionClose_other (ty : Nat) (v : Val) {c : Tok} (r : List Tok) (u : Nat) (h : c.body ≠ .mapClose) :
    unionClose ty v (c :: r) u = .err (u + 2) := by
  show (match c.body with | .mapClose => _ | _ => _) = _
  split
  · exact absurd ‹_› h
  · rfl
theorem unionClose_ok_inv {ty : Nat} {v w : Val} {r r' : List Tok} {u u' : Nat} (h : unionClose ty v r u = .ok w r' u') :
    ∃ cl, r = cl :: r' ∧ cl.body = .mapClose ∧ w = .iface (some (ty, v)) ∧ u' = u + 3 := by
  cases r with
  | nil => cases h
  | cons c r =>
    by_cases hc : c.body = .mapClose
    · rw [unionClose_close ty v r u hc] at h; cases h; exact ⟨c, rfl, hc, rfl, rfl⟩
    · rw [unionClose_other ty v r u hc] at h; cases h
theorem unionClose_ne_panic {ty : Nat} {v : Val} {r : List Tok} {u k : Nat} : unionClose ty v r u ≠ .panic k := by
  cases r with
  | nil => exact URes.noConfusion
  | cons c r =>
    by_cases hc : c.body = .mapClose
    · rw [unionClose_close ty v r u hc]; exact URes.noConfusion
    · rw [unionClose_other ty v r u hc]; exact URes.noConfusion

theorem unmBare_union (fuel id members cur t rest) : unmBare ts a trs it (fuel+1) id (.union members) cur (t :: rest) =
        (match t.body with
         | .mapOpen len =>
           if len != -1 && len != 1 then .err 0 else
           (match rest with
            | [] => .more 1
            | k :: rest2 =>
              (match k.body with
               | .str name =>
                 (match members.find? fun (nm, _) => nm == name with
                  | none => .err 1
                  | some (_, idx) =>
                    (match a.pool[idx]? with
                     | none => .panic 1
                     | some me =>
                       (match umachForEntry ts me with
                        | .errThunk => .err 1
                        | .panic => .panic 1
                        | dm => (unmBare ts a trs it fuel me.ty dm (zeroVal ts 64 me.ty) rest2).bind' (unionClose me.ty) 2)))
               | _ => .err 1))
         | _ => .err 0) := by
  rw [unmBare.eq_def]
  rfl

def wildRej (methods : Bool) (b : Body) : Bool :=
  methods && (match b with | .null | .mapClose | .arrClose => false | _ => true)

@[simp] theorem wildRej_false (b : Body) : wildRej false b = false := rfl

theorem unmWild_eq (fuel methods t rest) : unmWild ts a trs it (fuel+1) methods t rest =
      match t.tag with
      | some g =>
        (match a.getByTag g with
         | none => .err 0
         | some e =>
           if methods then .err 0 else
           (unmBare ts a trs it fuel e.ty (upickBare ts a e.ty) (zeroVal ts 64 e.ty) (t :: rest)).bind'
             (fun v r u => .ok (.iface (some (e.ty, v))) r u) 0)
      | none =>
        if wildRej methods t.body then .err 0 else
        match t.body with
        | .mapOpen _ =>
          (unmBare ts a trs it fuel it.mapSI (.map it.str it.iface) (.map (some [])) (t :: rest)).bind'
             (fun v r u => .ok (.iface (some (it.mapSI, v))) r u) 0
        | .arrOpen _ =>
          (unmBare ts a trs it fuel it.sliceI (.slice it.iface) (.slice none) (t :: rest)).bind'
             (fun v r u => .ok (.iface (some (it.sliceI, v))) r u) 0
        | .mapClose => .err 0
        | .arrClose => .err 0
        | .null => .ok (.iface none) rest 1
        | .str s => .ok (.iface (some (it.str, .str s))) rest 1
        | .bytes b => .ok (.iface (some (it.bytes, .bytes (some b)))) rest 1
        | .bool b => .ok (.iface (some (it.bool, .bool b))) rest 1
        | .int i => .ok (.iface (some (it.int, .int i))) rest 1
        | .uint n =>
          if n < two63 then .ok (.iface (some (it.int, .int n))) rest 1
          else .ok (.iface (some (it.uint64, .uint n))) rest 1
        | .float f => .ok (.iface (some (it.f64, .float f))) rest 1 := by
  rw [unmWild.eq_def]
  simp only [bind'_zero_eq]
  rfl

theorem unmElems_cons (fuel e cap acc t rest) : unmElems ts a trs it (fuel+1) e cap acc (t :: rest) =
      match t.body with
      | .mapClose => .err 0
      | .arrClose => .ok (.slice (some acc.reverse)) rest 1
      | _ =>
        if capFull cap acc then .err 0
        else (unmV ts a trs it fuel e (zeroVal ts 64 e) (t :: rest)).bind' (fun v r u => (unmElems ts a trs it fuel e cap (v :: acc) r).shift u) 0 := by
  rw [unmElems.eq_def, bind'_zero_eq]
  rfl

def mapKey (trs : Trs) (kf : Option Nat) (s : Bytes) : Option Val :=
  match kf with
  | none => some (.str s)
  | some fn => trs.u fn (.str s)

theorem mapKey_none (trs : Trs) (s : Bytes) : mapKey trs none s = some (.str s) := rfl

theorem unmMapEntries_cons (fuel kf vt es t rest) : unmMapEntries ts a trs it (fuel+1) kf vt es (t :: rest) =
      match t.body with
      | .mapClose => .ok (.map (some es)) rest 1
      | .str s =>
        (match mapKey trs kf s with
         | none => .err 0
         | some k =>
           if hasKey k es then .err 0
           else (unmV ts a trs it fuel vt (zeroVal ts 64 vt) rest).bind'
                  (fun v r u => (unmMapEntries ts a trs it fuel kf vt (es ++ [(k, v)]) r).shift (u + 1)) 1)
      | _ => .err 0 := by
  rw [unmMapEntries.eq_def]
  rfl

def structCont (ts : Types) (a : Atlas) (trs : Trs) (it : IfaceTys) (fuel id : Nat) (fields : List SMField) (expectLen : Int) (idx : Nat)
    (cur : Val) (route : List Nat) : Val → List Tok → Nat → URes := fun v r u =>
  match setRoute ts 64 id route cur (fun _ => v) with
  | none => .panic 1
  | some cur' => (unmStruct ts a trs it fuel id fields expectLen (idx + 1) cur' r).shift (u + 1)

theorem structCont_some {ts a trs it fuel id fields expectLen idx cur route v cur'}
    (h : setRoute ts 64 id route cur (fun _ => v) = some cur') (r u) :
    structCont ts a trs it fuel id fields expectLen idx cur route v r u =
      (unmStruct ts a trs it fuel id fields expectLen (idx + 1) cur' r).shift (u + 1) := by
  simp [structCont, h]
theorem structCont_ok_inv {ts a trs it fuel id fields expectLen idx cur route v r u w r' u'}
    (h : structCont ts a trs it fuel id fields expectLen idx cur route v r u = .ok w r' u') :
    ∃ cur' u0, setRoute ts 64 id route cur (fun _ => v) = some cur' ∧
      unmStruct ts a trs it fuel id fields expectLen (idx + 1) cur' r = .ok w r' u0 ∧ u' = u0 + (u + 1) := by
  cases hs : setRoute ts 64 id route cur (fun _ => v) with
  | none => simp [structCont, hs] at h
  | some cur' =>
    rw [structCont_some hs] at h
    obtain ⟨u0, h0, rfl⟩ := shift_ok_inv h
    exact ⟨cur', u0, rfl, h0, rfl⟩

theorem unmStruct_cons (fuel id fields expectLen idx cur t rest) :
    unmStruct ts a trs it (fuel+1) id fields expectLen idx cur (t :: rest) =
      match t.body with
      | .mapClose => if expectLen ≥ 0 && expectLen != idx then .err 0 else .ok cur rest 1
      | .str name =>
        (match fields.find? fun f => f.name == name with
         | none => .err 0
         | some f =>
           if f.ignore then
             (match rest with
              | [] => .more 1
              | v :: rest2 =>
                (unmWild ts a trs it fuel false v rest2).bind'
                  (fun _ r u => (unmStruct ts a trs it fuel id fields expectLen (idx + 1) cur r).shift (u + 1)) 1)
           else
             (match rest with
              | [] => .more 1
              | _ =>
                (match getRoute ts 64 id f.route cur with
                 | none => .err 1
                 | some fcur =>
                   (unmV ts a trs it fuel f.ty fcur rest).bind' (structCont ts a trs it fuel id fields expectLen idx cur f.route) 1)))
      | _ => .err 0 := by
  rw [unmStruct.eq_def]
  rfl

end Refmt.Obj
