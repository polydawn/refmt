/-
  The token-level round trip, one machine at a time.  `VRt` / `BRt` say it of a value / of the machine of a type in
  terms of the two run relations: every successful run of the marshaller (`MRun.Writes`) is read back by a successful
  run of the unmarshaller (`Reads`) on the same tokens as the wire delivers them.  Each machine lemma takes the round
  trip of the parts, inverts the rule of `Writes` by `cases` and applies the rule of `Reads` that reads it back.
  Nothing here looks at which types or values are admitted: the inductions on fuel over a class of types (`plainTy` in
  Props/C13, `structTy` in Props/C11, `fullTy` in Lemmas/FullStep) dispatch over these.
-/
import RefmtProofs.Lemmas.ObjRoundTrip
import RefmtProofs.Lemmas.MarshalRun
import RefmtProofs.Lemmas.ObjRunSeq

namespace Refmt.C13
open Refmt Refmt.Obj
open Refmt.MachL
variable (ts : Types) (a : Atlas) (trs : Trs) (it : IfaceTys)

theorem nullSer_true (base : Nat) (inner : Val) (hb : ∀ e, ts.get base ≠ .ptr e) {tg : Option Int}
    (h : (marshalBare ts a trs 999 base (pickBare ts a base) inner).toks = [⟨.null, tg⟩]) :
    isNullSer ts a trs base inner = true := by
  unfold isNullSer
  rw [show (1000 : Nat) = 999 + 1 from rfl, MachL.marshalV_nonptr hb]
  simp [h]

theorem nullSer_false (base : Nat) (inner : Val) (hb : ∀ e, ts.get base ≠ .ptr e) (t : Tok) (r : List Tok)
    (h : (marshalBare ts a trs 999 base (pickBare ts a base) inner).toks = t :: r) (ht : t.body ≠ .null) :
    isNullSer ts a trs base inner = false := by
  unfold isNullSer
  rw [show (1000 : Nat) = 999 + 1 from rfl, MachL.marshalV_nonptr hb, h]
  cases r with
  | nil => simp only
  | cons x xs => rfl

/-- A pointer reads a lone null as nil, so its round trip asks whether the pointee's rendering `toks` is one: that
    `isNullSer` (a second marshalling, with fuel 1000) answers for the run at hand.  It does for every machine that
    writes its first token before it recurses (`Mach.headFirst`, `NullSpec.of_writes`). -/
def NullSpec (toks : List Tok) (base : Nat) (inner : Val) : Prop :=
  ((∃ tg, toks = [⟨.null, tg⟩]) ∧ isNullSer ts a trs base inner = true) ∨
  (∃ t r, toks = t :: r ∧ t.body ≠ .null ∧ isNullSer ts a trs base inner = false)

/-- `δ = 0`, `τ = id`: the same fuel on both sides (C13 / C11); `δ = 1`: the full domain, where an untyped slot needs
    one unit more. -/
def VRt (τ : Tok → Tok) (δ f e : Nat) (x r : Val) : Prop :=
  ∀ toks, MRun.Writes ts a trs f (.v e x) toks → Reads ts a trs it (f + δ) (.v e (zeroVal ts 64 e)) (toks.map τ) r

def BRt (τ : Tok → Tok) (δ f id : Nat) (cur v r : Val) : Prop :=
  ∀ toks, MRun.Writes ts a trs f (.bare id (pickBare ts a id) v) toks →
    Reads ts a trs it (f + δ) (.bare id (upickBare ts a id) cur) (toks.map τ) r

variable {ts a trs it}

theorem VRt.unmV {τ : Tok → Tok} {δ f e : Nat} {x r : Val} (h : VRt ts a trs it τ δ f e x r) {toks : List Tok}
    (hm : marshalV ts a trs f e x = ⟨toks, none⟩) {F : Nat} (hF : f + δ ≤ F) (rest : List Tok) :
    unmV ts a trs it F e (zeroVal ts 64 e) (toks.map τ ++ rest) = .ok r rest toks.length := by
  simpa using ((h toks (MRun.of_out (job := .v e x) hm)).mono hF).sound rest

theorem BRt.of_pick {τ : Tok → Tok} {δ f id : Nat} {cur v r : Val} {m : Mach} {um : UMach} (hpk : pickBare ts a id = m)
    (hupk : upickBare ts a id = um)
    (h : ∀ toks, MRun.Writes ts a trs (f+1) (.bare id m v) toks →
      Reads ts a trs it (f+δ+1) (.bare id um cur) (toks.map τ) r) : BRt ts a trs it τ δ (f+1) id cur v r := by
  intro toks hm
  rw [hpk] at hm
  rw [hupk, Nat.add_right_comm]
  exact h toks hm

theorem zeroVal_mapEntries (ts : Types) (k id : Nat) : UM.mapEntries (zeroVal ts k id) = [] := by
  cases k with
  | zero => rfl
  | succ k =>
    rw [zeroVal_one_level]
    split <;> try rfl
    split <;> rfl

def _root_.Refmt.Obj.Mach.headFirst : Mach → Bool
  | .prim | .slice _ | .array _ | .map .. | .structMap .. => true
  | _ => false

theorem _root_.Refmt.MRun.Writes.head_at {f id : Nat} {m : Mach} {v : Val} {toks : List Tok} (hf : m.headFirst = true)
    (hm : MRun.Writes ts a trs f (.bare id m v) toks) (g : Nat) :
    (∃ tg, toks = [⟨.null, tg⟩] ∧ (marshalBare ts a trs (g+1) id m v).toks = [⟨.null, tg⟩]) ∨
    ∃ t r, toks = t :: r ∧ t.body ≠ .null ∧ ∃ r', (marshalBare ts a trs (g+1) id m v).toks = t :: r' := by
  cases hm with
  | prim hp =>
    obtain ⟨b, rfl, -⟩ := ObjL.primTok_cases hp
    have hg : (marshalBare ts a trs (g+1) id .prim v).toks = [⟨b, none⟩] := by rw [marshalBare_prim, hp]
    by_cases hb : b = .null
    · subst hb; exact .inl ⟨none, rfl, hg⟩
    · exact .inr ⟨_, _, rfl, hb, _, hg⟩
  | sliceNil => exact .inl ⟨none, rfl, congrArg MOut.toks (MRun.Writes.sliceNil (f := g)).out⟩
  | mapNil hkf => exact .inl ⟨none, rfl, congrArg MOut.toks (MRun.Writes.mapNil (f := g) hkf).out⟩
  | slice => exact .inr ⟨_, _, rfl, by simp, by rw [marshalBare_slice]; exact ObjL.bracket_toks_head [_] _ _⟩
  | array => exact .inr ⟨_, _, rfl, by simp, by rw [marshalBare_array]; exact ObjL.bracket_toks_head [_] _ _⟩
  | struct => exact .inr ⟨_, _, rfl, by simp, by rw [marshalBare_struct]; exact ObjL.bracket_toks_head [_] _ _⟩
  | map hkf hkvs =>
    exact .inr ⟨_, _, rfl, by simp, by
      rw [marshalBare_map, hkf]
      simp only [Option.getD_some, hkvs, Option.isNone_some, Bool.false_eq_true, if_false]
      exact ObjL.bracket_toks_head [_] _ _⟩
  | wildNil | wild | transform | union => cases hf

theorem NullSpec.of_writes {f id : Nat} {v : Val} {toks : List Tok} (hnp : ∀ e, ts.get id ≠ .ptr e)
    (hf : (pickBare ts a id).headFirst = true) (hm : MRun.Writes ts a trs f (.bare id (pickBare ts a id) v) toks) :
    NullSpec ts a trs toks id v := by
  rcases hm.head_at hf 998 with ⟨tg, rfl, h⟩ | ⟨t, r, rfl, ht, r', h⟩
  · exact .inl ⟨⟨tg, rfl⟩, nullSer_true ts a trs id v hnp h⟩
  · exact .inr ⟨t, r, rfl, ht, nullSer_false ts a trs id v hnp t r' h ht⟩

theorem _root_.Refmt.MRun.Writes.map_strKeys {f id kt vt : Nat} {mode : KeySort} {bk : Bool} {es : List (Val × Val)}
    {toks : List Tok} (hm : MRun.Writes ts a trs (f+1) (.bare id (.map kt vt mode) (.map (some es))) toks)
    (hkt : ts.get kt = .prim .string bk) (hkeys : ∀ q ∈ es, ∃ s, q.1 = Val.str s) :
    ∃ tl, MRun.Writes ts a trs f (.entries vt (sortKeys mode (es.map fun (k, x) => (keyStr k, x)))) tl ∧
      toks = ⟨.mapOpen es.length, none⟩ :: (tl ++ [⟨.mapClose, none⟩]) := by
  cases hm with
  | @map _ _ _ _ _ kf _ kvs tl hkf hkvs h =>
    cases hkf.symm.trans (ObjL.keyFnOf_string hkt a)
    cases hkvs.symm.trans (stringify_strKeys es hkeys)
    exact ⟨tl, h, rfl⟩

theorem _root_.Refmt.MRun.Writes.of_strKeys {f kt vt : Nat} {mode : KeySort} {bk : Bool} {es : List (Val × Val)} {tl : List Tok}
    (h : MRun.Writes ts a trs f (.entries vt (sortKeys mode (es.map fun (k, x) => (keyStr k, x)))) tl)
    (hkt : ts.get kt = .prim .string bk) (hkeys : ∀ q ∈ es, ∃ s, q.1 = Val.str s) (id : Nat) :
    MRun.Writes ts a trs (f+1) (.bare id (.map kt vt mode) (.map (some es)))
      (⟨.mapOpen es.length, none⟩ :: (tl ++ [⟨.mapClose, none⟩])) :=
  .map (ObjL.keyFnOf_string hkt a) (stringify_strKeys es hkeys) h

section wire
variable {τ : Tok → Tok} {ok : Bytes → Prop} (T : TokMap τ ok) {δ : Nat}
include T

theorem ptr_rt {f id n base : Nat} {v : Val} (hpeel : peel ts 64 0 id = (n, base)) (hch : chain ts n id base) (rb : Val → Val)
    (hb : ∀ inner, derefN n v = some inner →
      (∀ toks, MRun.Writes ts a trs f (.bare base (pickBare ts a base) inner) toks → NullSpec ts a trs toks base inner) ∧
      BRt ts a trs it τ δ f base (zeroVal ts 64 base) inner (rb inner)) :
    VRt ts a trs it τ δ (f+1) id v (ptrStep ts a trs n base rb v) := by
  intro toks hm
  unfold ptrStep
  rw [Nat.add_right_comm]
  cases hm with
  | v_direct hp h =>
    cases hpeel.symm.trans hp
    cases hch
    exact .v_direct hp ((hb v rfl).2 toks h)
  | v_nil hp hd =>
    cases hpeel.symm.trans hp
    simpa [hd] using Reads.v_nil (t := τ MRun.nullTok) hp (T.null none)
  | v_deref hp hd h =>
    cases hpeel.symm.trans hp
    have hr := (hb _ hd).2 toks h
    rw [← innerCur_zeroVal ts _ id _ hch] at hr
    rcases (hb _ hd).1 toks h with ⟨⟨tg, rfl⟩, hnull⟩ | ⟨t, r, rfl, hnn, hnull⟩
    · simpa [hd, hnull] using Reads.v_nil hp (T.null tg)
    · simpa [hd, hnull] using Reads.v_deref hp (mt (T.null_iff t).1 hnn) hr

omit T in
/-- an element further down the list is written and read with less fuel: hence `∀ f' < f` -/
theorem elems_rt {e : Nat} (R : Val → Val) {cap : Option Nat} {c : Tok} (hc : c.body = .arrClose)
    {vs : List Val} {f : Nat} {toks : List Tok} (hm : MRun.Writes ts a trs f (.list e vs) toks)
    (hel : ∀ f' < f, ∀ x ∈ vs, VRt ts a trs it τ δ f' e x (R x)) (acc : List Val)
    (hcap : ∀ n, cap = some n → acc.length + vs.length ≤ n) :
    Reads ts a trs it (f + δ) (.elems e cap acc) (toks.map τ ++ [c]) (.slice (some (acc.reverse ++ vs.map R))) := by
  obtain ⟨items, rfl, rfl, hf, hit⟩ := hm.list_items
  have := Reads.elems_at (fun p : Val × List Tok => p.2.map τ) (fun p => R p.1) hc items (f + δ) acc (by omega)
    (fun i h => (hit i h).elim fun g hg =>
      ⟨g + δ, by omega, hel g (by omega) _ (List.mem_map_of_mem (List.getElem_mem h)) _ hg.2⟩)
    (by simpa using hcap)
  simpa [List.map_flatMap, List.map_map, Function.comp_def] using this

theorem slice_rt {f id e : Nat} (hpk : pickBare ts a id = .slice e) (hupk : upickBare ts a id = .slice e)
    (R : Val → Val) (o : Option (List Val))
    (hel : ∀ es, o = some es → ∀ f' < f, ∀ x ∈ es, VRt ts a trs it τ δ f' e x (R x)) (cur : Val) :
    BRt ts a trs it τ δ (f+1) id cur (.slice o) (mapSlice R (.slice o)) := by
  refine BRt.of_pick hpk hupk fun toks hm => ?_
  cases hm with
  | sliceNil => exact .slice_null (T.null none)
  | @slice _ _ _ es tl h =>
    obtain ⟨l', hl'⟩ := T.arrOpen es.length none
    simpa [mapSlice_some] using Reads.slice hl' (elems_rt R T.arrClose h (hel es rfl) [] (by simp))

theorem array_rt {f id n e : Nat} (hpk : pickBare ts a id = .array e) (hupk : upickBare ts a id = .array n e)
    (R : Val → Val) (es : List Val) (hn : es.length = n)
    (hel : ∀ f' < f, ∀ x ∈ es, VRt ts a trs it τ δ f' e x (R x)) (cur : Val) :
    BRt ts a trs it τ δ (f+1) id cur (.arr es) (.arr (es.map R)) := by
  refine BRt.of_pick hpk hupk fun toks hm => ?_
  cases hm with
  | @array _ _ _ _ tl h =>
    obtain ⟨l', hl'⟩ := T.arrOpen es.length none
    simpa [arrFix_slice, hn] using
      Reads.array hl' (elems_rt (cap := some n) R T.arrClose h hel [] (by simp [hn]))

omit T in
theorem prim_bare_rt {f id : Nat} {v r : Val} (hpk : pickBare ts a id = .prim) (hupk : upickBare ts a id = .prim)
    (hs : ∀ toks, primTok ts id v = ⟨toks, none⟩ → ∃ tok, toks = [tok] ∧ storePrim (ts.get id) (τ tok) = some r) (cur : Val) :
    BRt ts a trs it τ δ (f+1) id cur v r := by
  refine BRt.of_pick hpk hupk fun toks hm => ?_
  cases hm with
  | prim hp =>
    obtain ⟨tok, rfl, hs⟩ := hs toks hp
    exact .prim hs

theorem entries_rt {vt : Nat} (R : Val → Val) {c : Tok} (hc : c.body = .mapClose)
    {kvs : List (Bytes × Val)} {f : Nat} {toks : List Tok} (hm : MRun.Writes ts a trs f (.entries vt kvs) toks)
    (hel : ∀ f' < f, ∀ q ∈ kvs, VRt ts a trs it τ δ f' vt q.2 (R q.2)) (hnd : (kvs.map (·.1)).Nodup) (hok : ∀ q ∈ kvs, ok q.1)
    (es0 : List (Val × Val)) (hes : ∀ q ∈ kvs, hasKey (.str q.1) es0 = false) :
    Reads ts a trs it (f + δ) (.entries none vt es0) (toks.map τ ++ [c])
      (.map (some (es0 ++ kvs.map fun (q : Bytes × Val) => (Val.str q.1, R q.2)))) := by
  obtain ⟨items, rfl, rfl, hf, hit⟩ := hm.entries_items
  have hmem : ∀ p ∈ items, p.1 ∈ items.map (·.1) := fun p hp => List.mem_map_of_mem hp
  have := Reads.entries_at (fun p : (Bytes × Val) × List Tok => τ ⟨.str p.1.1, none⟩) (fun p => p.1.1) (fun p => p.2.map τ)
    (fun p => R p.1.2) hc items (f + δ) es0 (by omega) (fun p hp => T.str _ (hok _ (hmem p hp)))
    (fun i h => (hit i h).elim fun g hg => ⟨g + δ, by omega, hel g (by omega) _ (hmem _ (List.getElem_mem h)) _ hg.2⟩)
    (by simpa [List.map_map, Function.comp_def] using hnd) (fun p hp => hes _ (hmem p hp))
  simpa [List.map_flatMap, List.map_map, Function.comp_def] using this

theorem map_rt {f id kt vt : Nat} {bk : Bool} (hpk : pickBare ts a id = .map kt vt a.defaultSort)
    (hupk : upickBare ts a id = .map kt vt) (hkt : ts.get kt = .prim .string bk)
    (R : Val → Val) (o : Option (List (Val × Val)))
    (hkeys : ∀ es, o = some es → (∀ q ∈ es, ∃ s, q.1 = Val.str s ∧ ok s) ∧ (es.map fun p => keyStr p.1).Nodup)
    (hel : ∀ es, o = some es → ∀ f' < f, ∀ q ∈ es, VRt ts a trs it τ δ f' vt q.2 (R q.2))
    (cur : Val) (hcur : UM.mapEntries cur = []) :
    BRt ts a trs it τ δ (f+1) id cur (.map o) (mapSorted a.defaultSort R (.map o)) := by
  refine BRt.of_pick hpk hupk fun toks hm => ?_
  have huk : UM.keyFnOfU ts a kt = some none := keyFnOfU_string hkt a
  cases o with
  | none => cases hm; exact .map_null huk (T.null none)
  | some es =>
    obtain ⟨hstrok, hnd⟩ := hkeys es rfl
    obtain ⟨tl, h, rfl⟩ := hm.map_strKeys hkt (fun q hq => (hstrok q hq).imp fun s h => h.1)
    have hm' := entries_rt T R T.mapClose h
      (fun f' hf' q hq => by obtain ⟨q', hq', he, _⟩ := mem_sortKeys_keyStr hq; rw [he]; exact hel es rfl f' hf' q' hq')
      (nodup_sortKeys_keyStr hnd)
      (fun q hq => by
        obtain ⟨q', hq', _, he⟩ := mem_sortKeys_keyStr hq
        obtain ⟨s, hs, hoks⟩ := hstrok q' hq'
        rw [he, hs]; exact hoks)
      [] (by intro q hq; simp [hasKey])
    obtain ⟨l', hl'⟩ := T.mapOpen_some es.length none
    simpa using Reads.map (id := id) (cur := cur) huk hl' (by rw [hcur]; exact hm')

end wire

end Refmt.C13
