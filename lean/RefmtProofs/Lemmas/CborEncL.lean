/-
  The encoder machine for C02: `Runs`, a run of `runOut` over a prefix that only answers `cont`, with what it
  writes and where it ends; the steps of `CborEnc.step` on a scalar, a key, an open and a close token; a whole
  container as one run; what is written against `Spec.Cbor`.
-/
import RefmtProofs.Lemmas.Heads
namespace Refmt.C02L
open Refmt Refmt.CborEnc

def Runs (s : St) (ts : List Tok) (ws : List Bytes) (s' : St) : Prop :=
  ∀ more, runOut step s (ts ++ more) =
    (List.replicate ts.length Flag.cont ++ (runOut step s' more).1, ws ++ (runOut step s' more).2)

theorem Runs.nil (s : St) : Runs s [] [] s := by
  intro more; simp

theorem Runs.cons {s s' : St} {t : Tok} {ts : List Tok} {ws : List Bytes}
    (hf : (step s t).ret.flag = .cont) (h : Runs (step s t).st ts ws s') :
    Runs s (t :: ts) ((step s t).writes ++ ws) s' := by
  intro more
  have := h more
  simp only [List.cons_append, runOut, hf, this, List.length_cons, List.replicate_succ,
    List.append_assoc]

theorem Runs.append {s s' s'' : St} {ts us : List Tok} {ws ws' : List Bytes}
    (h1 : Runs s ts ws s') (h2 : Runs s' us ws' s'') : Runs s (ts ++ us) (ws ++ ws') s'' := by
  intro more
  rw [List.append_assoc, h1 (us ++ more), h2 more]
  simp only [List.length_append, List.append_assoc, ← List.replicate_append_replicate]

theorem Runs.single {s : St} {t : Tok} (hf : (step s t).ret.flag = .cont) :
    Runs s [t] (step s t).writes (step s t).st := by
  have := Runs.cons hf (Runs.nil (step s t).st)
  simpa using this

theorem Runs.finish {s s' : St} {ts : List Tok} {ws : List Bytes} {t : Tok}
    (h : Runs s ts ws s') (hf : (step s' t).ret.flag = .done) :
    runOut step s (ts ++ [t]) = (List.replicate ts.length Flag.cont ++ [Flag.done], ws ++ (step s' t).writes) := by
  rw [h [t]]
  simp [runOut, hf]

theorem tagHead_flatten (tag : Option Int) : (tagHead tag).flatten = Spec.Cbor.tagBytes tag := by
  cases tag <;> simp [tagHead, Spec.Cbor.tagBytes, emitHead_flatten, majTag]

theorem scalarWrites_flatten (b : Body) (hb : bodyInRange b = true) :
    (scalarWrites b).flatten = Spec.Cbor.encBody b := by
  cases b with
  | bool x => cases x <;> simp [scalarWrites, Spec.Cbor.encBody, sigTrue, sigFalse]
  | int i =>
    have : - (two63 : Int) ≤ i ∧ i < (two63 : Int) := by simpa [bodyInRange] using hb
    simp only [scalarWrites, Spec.Cbor.encBody, encInt]
    split
    · simp [emitHead_flatten, majUint]
    · rw [toU64_of_nonneg, emitHead_flatten]; simp [majNeg]
      · omega
      · unfold two64; unfold two63 at this; omega
  | _ => simp [scalarWrites, Spec.Cbor.encBody, emitHead_flatten, sigNil, majStr, majBytes, majUint, sigF64]

theorem openWrites_flatten (isMap : Bool) (len : Int) (h0 : 0 ≤ len) (h1 : len < (two63 : Int)) :
    (openWrites isMap len).flatten = Spec.Cbor.head (if isMap then 0xa0 else 0x80) len.toNat := by
  unfold openWrites
  rw [if_pos h0, emitHead_flatten, toU64_of_nonneg _ h0]
  · cases isMap <;> simp [majMap, majArr]
  · unfold two64; unfold two63 at h1; omega

theorem step_of_scalar (s : St) (t : Tok) :
    (keyOk .cbor t.body = true → step s t = stepKeyable s t) ∧
      (t.body.isScalar = true → step s t = stepKeyable s t ∨ step s t = stepValueOnly s t) := by
  unfold step
  cases t.body with
  | str _ | int _ | uint _ => exact ⟨fun _ => rfl, fun _ => .inl rfl⟩
  | null | bytes _ | bool _ | float _ => exact ⟨nofun, fun _ => .inr rfl⟩
  | mapOpen _ | arrOpen _ | mapClose | arrClose => exact ⟨nofun, nofun⟩

theorem step_scalar (stk : List Phase) (cur c : Phase) (t : Tok) (hs : t.body.isScalar = true)
    (hc : valuePos cur = some c) :
    step ⟨stk, cur⟩ t = ⟨⟨stk, c⟩, tagHead t.tag ++ scalarWrites t.body, .ck (cur == .any)⟩ := by
  rcases (step_of_scalar ⟨stk, cur⟩ t).2 hs with h | h
  · simp only [h, stepKeyable, hc]
  · simp only [h, stepValueOnly, hc]

theorem step_key (stk : List Phase) (k kv : Phase) (t : Tok) (hk : keyOk .cbor t.body = true)
    (hc : keyPos k = some kv) :
    step ⟨stk, k⟩ t = ⟨⟨stk, kv⟩, tagHead t.tag ++ scalarWrites t.body, .ck (k == .any)⟩ := by
  have hv : valuePos k = none := by cases k <;> simp [keyPos] at hc <;> rfl
  simp only [(step_of_scalar ⟨stk, k⟩ t).1 hk, stepKeyable, hv, hc]

theorem Runs.leaf {stk : List Phase} {cur c : Phase} {t : Tok} {w : List Bytes}
    (hstep : step ⟨stk, cur⟩ t = ⟨⟨stk, c⟩, w, .ck (cur == .any)⟩) (hne : cur ≠ .any) :
    Runs ⟨stk, cur⟩ [t] w ⟨stk, c⟩ := by
  have := Runs.single (s := ⟨stk, cur⟩) (t := t) (by rw [hstep]; simp [Ret.flag, hne])
  rwa [hstep] at this

theorem Runs.scalar {stk : List Phase} {cur c : Phase} {t : Tok} (hs : t.body.isScalar = true)
    (hc : valuePos cur = some c) (hne : cur ≠ .any) :
    Runs ⟨stk, cur⟩ [t] (tagHead t.tag ++ scalarWrites t.body) ⟨stk, c⟩ :=
  Runs.leaf (step_scalar stk cur c t hs hc) hne

theorem Runs.key {stk : List Phase} {k kv : Phase} {t : Tok} (hk : keyOk .cbor t.body = true)
    (hc : keyPos k = some kv) (hne : k ≠ .any) :
    Runs ⟨stk, k⟩ [t] (tagHead t.tag ++ scalarWrites t.body) ⟨stk, kv⟩ :=
  Runs.leaf (step_key stk k kv t hk hc) hne

theorem openPhase_arr (len : Int) :
    valuePos (openPhase false len) = some (openPhase false len) ∧ openPhase false len ≠ .any := by
  unfold openPhase; split <;> exact ⟨rfl, by simp⟩

theorem openPhase_map (len : Int) :
    ∃ pv, keyPos (openPhase true len) = some pv ∧ valuePos pv = some (openPhase true len) ∧ pv ≠ .any ∧
      openPhase true len ≠ .any := by
  unfold openPhase; split
  · exact ⟨.mapDefVal, rfl, rfl, by simp, by simp⟩
  · exact ⟨.mapIndefVal, rfl, rfl, by simp, by simp⟩

theorem step_open (isMap : Bool) (stk : List Phase) (cur c : Phase) (tag : Option Int) (len : Int)
    (hc : valuePos cur = some c) :
    step ⟨stk, cur⟩ (openTok isMap len tag) =
      ⟨⟨openPhase isMap len :: stk, openPhase isMap len⟩, tagHead tag ++ openWrites isMap len, .ck false⟩ := by
  cases isMap <;> simp [openTok, step, stepOpen, hc, push]

theorem step_close (isMap : Bool) (len : Int) (stk : List Phase) :
    step ⟨openPhase isMap len :: stk, openPhase isMap len⟩ (closeTok isMap) =
      popRet ⟨openPhase isMap len :: stk, openPhase isMap len⟩ (if 0 ≤ len then [] else [[0xff]]) (decide (len < 0)) := by
  by_cases h : 0 ≤ len <;> cases isMap <;>
    simp [closeTok, openPhase, step, stepArrClose, stepMapClose, h, sigBreak, Int.not_lt.2, Int.not_le.1]

theorem flag_ck_plain (checked d : Bool) :
    (if checked then Ret.ck d else Ret.plain d).flag = if d then .done else .cont := by
  cases checked <;> rfl

theorem Runs.container (isMap : Bool) {tag : Option Int} {len : Int} {c cur : Phase} {r : List Phase}
    {ts : List Tok} {ws : List Bytes} (hc : valuePos cur = some c)
    (h : Runs ⟨openPhase isMap len :: c :: r, openPhase isMap len⟩ ts ws
      ⟨openPhase isMap len :: c :: r, openPhase isMap len⟩) :
    Runs ⟨c :: r, cur⟩ (openTok isMap len tag :: (ts ++ [closeTok isMap]))
      (tagHead tag ++ openWrites isMap len ++ ws ++ (if 0 ≤ len then [] else [[0xff]])) ⟨c :: r, c⟩ := by
  have hopen := step_open isMap (c :: r) cur c tag len hc
  have hclose : step ⟨openPhase isMap len :: c :: r, openPhase isMap len⟩ (closeTok isMap) =
      ⟨⟨c :: r, c⟩, if 0 ≤ len then [] else [[0xff]], if decide (len < 0) then .ck false else .plain false⟩ :=
    step_close isMap len (c :: r)
  have h1 : Runs ⟨c :: r, cur⟩ [openTok isMap len tag] _ _ := Runs.single (by rw [hopen]; rfl)
  have h3 : Runs _ [closeTok isMap] _ _ := Runs.single (by rw [hclose]; exact flag_ck_plain _ false)
  rw [hopen] at h1
  rw [hclose] at h3
  exact (h1.append h).append h3

theorem Runs.container_top (isMap : Bool) {tag : Option Int} {len : Int} {ts : List Tok} {ws : List Bytes}
    (h : Runs ⟨[openPhase isMap len], openPhase isMap len⟩ ts ws ⟨[openPhase isMap len], openPhase isMap len⟩) :
    runOut step init (openTok isMap len tag :: (ts ++ [closeTok isMap])) =
      (List.replicate (ts.length + 1) Flag.cont ++ [Flag.done],
        tagHead tag ++ openWrites isMap len ++ ws ++ (if 0 ≤ len then [] else [[0xff]])) := by
  have hopen := step_open isMap [] .any .any tag len rfl
  -- `popRet` on a stack of one: done, and the state is left as it is
  have hclose : step ⟨[openPhase isMap len], openPhase isMap len⟩ (closeTok isMap) =
      ⟨⟨[openPhase isMap len], openPhase isMap len⟩, if 0 ≤ len then [] else [[0xff]],
        if decide (len < 0) then .ck true else .plain true⟩ :=
    step_close isMap len []
  have h1 : Runs ⟨[], .any⟩ [openTok isMap len tag] _ _ := Runs.single (by rw [hopen]; rfl)
  rw [hopen] at h1
  have := (h1.append h).finish (t := closeTok isMap) (by rw [hclose]; exact flag_ck_plain _ true)
  rw [hclose, List.length_append, Nat.add_comm] at this
  exact this

/-- What `Spec.Cbor.enc` puts around the encoding `E` of a container's items. -/
def containerBytes (isMap : Bool) (tag : Option Int) (len : Int) (E : Bytes) : Bytes :=
  (Spec.Cbor.tagBytes tag ++ (if 0 ≤ len then Spec.Cbor.head (if isMap then 0xa0 else 0x80) len.toNat
    else [if isMap then 0xbf else 0x9f])) ++ E ++ (if 0 ≤ len then [] else [0xff])

theorem container_bytes (isMap : Bool) (tag : Option Int) {len : Int} (hl : len < (two63 : Int)) (ws : List Bytes) :
    (tagHead tag ++ openWrites isMap len ++ ws ++ (if 0 ≤ len then [] else [[0xff]])).flatten =
      containerBytes isMap tag len ws.flatten := by
  unfold containerBytes
  by_cases h : 0 ≤ len
  · simp [h, tagHead_flatten, openWrites_flatten isMap len h hl]
  · cases isMap <;> simp [h, tagHead_flatten, openWrites, sigIndefMap, sigIndefArr]

theorem containerBytes_length (isMap : Bool) (tag : Option Int) (len : Int) (E : Bytes) :
    E.length + 1 ≤ (containerBytes isMap tag len E).length := by
  unfold containerBytes
  have := head_pos (if isMap then 0xa0 else 0x80) len.toNat
  simp only [List.length_append]
  split <;> simp only [List.length_cons, List.length_nil] <;> omega

end Refmt.C02L
