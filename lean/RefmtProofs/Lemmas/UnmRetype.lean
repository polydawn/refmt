/-
  Lemmas for C01 (JSON): what a JSON round trip does to one token (`Spec.Json.retypeTok`; `tokMap_rt`, `storePrim_rt`),
  and: on typed targets, when the unmarshaller accepts a token list it accepts the list as re-typed and stores the same
  value (`Reads.retype`).  Token hypotheses (`jOk`): carriable by JSON (`jsonOk`), strings valid UTF-8, floats not -0 and
  re-read exactly (`rereadOk`).  Type hypotheses: `C01.typedTy`, and no ignored field in struct-map entries (`noIgnore`):
  an ignored field's value is slurped by the wildcard machine, whose sub-machines are outside `typedTy`.
  `C01.typedTy`, `rereadOk`, `plainOk`, `jOk`, `noIgnore` are defined here.
-/
import RefmtProofs.Lemmas.ObjRun
import RefmtProofs.Lemmas.ObjRoundTrip
import RefmtProofs.Lemmas.TransportJson
import RefmtProofs.Lemmas.Untyped

namespace Refmt.C01
open Refmt.Obj

/-- no untyped slot, union or transform is reachable from the type: every float token lands in a float target -/
def typedTy (ts : Types) (a : Atlas) : Nat → Nat → Bool
  | 0, _ => false
  | fuel+1, id =>
    match ts.get id with
    | .prim _ _ => (a.get id).isNone
    | .bytes _ => (a.get id).isNone
    | .byteArr _ => (a.get id).isNone
    | .slice e => (a.get id).isNone && typedTy ts a fuel e
    | .arr _ e => (a.get id).isNone && typedTy ts a fuel e
    | .map k e => (a.get id).isNone && (match ts.get k with | .prim .string _ => true | _ => false) && typedTy ts a fuel e
    | .ptr e => typedTy ts a fuel e
    | .struct _ =>
      (match a.get id with
       | some ⟨_, _, none, .structMap fields⟩ => fields.all fun f => typedTy ts a fuel f.ty
       | _ => false)
    | _ => false

end Refmt.C01

namespace Refmt.C01L
open Refmt Refmt.Obj

-- in the names of this file and of Lemmas/JFullRT `rt` is `retypeTok`, not "round trip"
local notation "rt" => Spec.Json.retypeTok

theorem rt_float_kind (x : Nat) (tg : Option Int) :
    (∃ i, rt ⟨.float x, tg⟩ = ⟨.int i, none⟩) ∨ (∃ n, rt ⟨.float x, tg⟩ = ⟨.uint n, none⟩) ∨
      (∃ y, rt ⟨.float x, tg⟩ = ⟨.float y, none⟩) := by
  simp only [Spec.Json.retypeTok]
  cases hn : JsonDec.numTok (FloatText.jsonFloat x) with
  | error e => exact Or.inr (Or.inr ⟨x, rfl⟩)
  | ok b' =>
    rcases C12L.numTok_kinds hn with ⟨i, rfl, -, -⟩ | ⟨n, rfl, -, -⟩ | ⟨y, rfl⟩
    · exact Or.inl ⟨i, rfl⟩
    · exact Or.inr (Or.inl ⟨n, rfl⟩)
    · exact Or.inr (Or.inr ⟨y, rfl⟩)

theorem rt_body_iff (t : Tok) {b : Body} (hb : b = .null ∨ b = .arrClose ∨ b = .mapClose) :
    (rt t).body = b ↔ t.body = b := by
  obtain ⟨body, tag⟩ := t
  rcases hb with rfl | rfl | rfl <;>
  · cases body with
    | float x => rcases rt_float_kind x tag with ⟨i, h1⟩ | ⟨n, h1⟩ | ⟨y, h1⟩ <;> rw [h1] <;> simp
    | uint n => simp only [Spec.Json.retypeTok]; split <;> simp
    | _ => simp [Spec.Json.retypeTok]

theorem rt_arrOpen {t : Tok} {l : Int} (hb : t.body = .arrOpen l) : (rt t).body = .arrOpen (-1) := by
  simp [Spec.Json.retypeTok, hb]

theorem rt_mapOpen {t : Tok} {l : Int} (hb : t.body = .mapOpen l) : (rt t).body = .mapOpen (-1) := by
  simp [Spec.Json.retypeTok, hb]

theorem rt_str {s : Bytes} (h : toValidUtf8 s = s) (tg : Option Int) : rt ⟨.str s, tg⟩ = ⟨.str s, none⟩ := by
  simp [Spec.Json.retypeTok, h]

theorem tokMap_rt : TokMap Spec.Json.retypeTok (fun s => toValidUtf8 s = s) where
  null_iff := fun t => rt_body_iff t (Or.inl rfl)
  arrClose_iff := fun t => rt_body_iff t (Or.inr (Or.inl rfl))
  mapClose_iff := fun t => rt_body_iff t (Or.inr (Or.inr rfl))
  arrOpen := fun _ _ => ⟨-1, rfl⟩
  mapOpen := fun _ _ => Or.inr rfl
  str := fun s hs => by rw [rt_str hs]

theorem storePrim_rt_of {d : TyDesc} {t : Tok} {v : Val} (hnf : ∀ b, t.body ≠ .float b)
    (hstr : ∀ s, t.body = .str s → toValidUtf8 s = s) (hs : storePrim d t = some v) :
    storePrim d (rt t) = some v := by
  obtain ⟨body, tag⟩ := t
  cases body with
  | uint n =>
    -- an unsigned token up to MaxInt64 comes back as an integer token: the two spellings are stored alike
    simp only [Spec.Json.retypeTok]
    split
    · rw [← storePrim_uint_eq_int d n none]; exact hs
    · exact hs
  | float b => exact absurd rfl (hnf b)
  | str s => rw [rt_str (hstr s rfl)]; exact hs
  | mapOpen l => cases storePrim_scalar hs
  | arrOpen l => cases storePrim_scalar hs
  | _ => exact hs

/-- the token the float's JSON text is typed as stores back the same float: a check on the float text routines of the
    trusted base, like `C03L.floatOk`; `C03Sem.rereadOk_finite` proves it for finite floats other than -0 -/
def rereadOk (b : Nat) : Bool :=
  match JsonDec.numTok (FloatText.jsonFloat b) with
  | .ok (.float b2) => b2 == b
  | .ok (.int i) => FloatText.intToF64 i == b
  | .ok (.uint n) => FloatText.intToF64 (n : Int) == b
  | .ok _ => false
  | .error _ => true

/-- `C01.plainJson` is this predicate (`C01.plainJson_eq`) -/
def plainOk (t : Tok) : Bool :=
  match t.body with
  | .str s => toValidUtf8 s == s
  | .float b => b != 9223372036854775808 && rereadOk b
  | _ => true

def jOk (t : Tok) : Bool := jsonOk t && plainOk t

theorem jOk_tag {t : Tok} (h : jOk t = true) : t.tag = none := by
  unfold jOk jsonOk at h
  simp only [Bool.and_eq_true, Option.isNone_iff_eq_none] at h
  exact h.1.1

theorem reread_num {b : Nat} {b' : Body} (h : rereadOk b = true) (hn : JsonDec.numTok (FloatText.jsonFloat b) = .ok b') :
    (b' = .float b) ∨ (∃ i, b' = .int i ∧ FloatText.intToF64 i = b) ∨
      (∃ n : Nat, b' = .uint n ∧ FloatText.intToF64 (n : Int) = b) := by
  unfold rereadOk at h
  rw [hn] at h
  cases b' <;> simp at h
  · exact Or.inr (Or.inl ⟨_, rfl, h⟩)
  · exact Or.inr (Or.inr ⟨_, rfl, h⟩)
  · exact Or.inl (by rw [h])

theorem jOk_reread {b : Nat} {tag : Option Int} (h : jOk ⟨.float b, tag⟩ = true) : rereadOk b = true := by
  unfold jOk plainOk at h
  simp only [Bool.and_eq_true] at h
  exact h.2.2

theorem rt_float_cases {b : Nat} {tag : Option Int} (h : jOk ⟨.float b, tag⟩ = true) :
    rt ⟨.float b, tag⟩ = ⟨.float b, none⟩ ∨ (∃ i, rt ⟨.float b, tag⟩ = ⟨.int i, none⟩ ∧ FloatText.intToF64 i = b) ∨
      (∃ n : Nat, rt ⟨.float b, tag⟩ = ⟨.uint n, none⟩ ∧ FloatText.intToF64 (n : Int) = b) := by
  simp only [Spec.Json.retypeTok]
  cases hn : JsonDec.numTok (FloatText.jsonFloat b) with
  | error e => exact Or.inl rfl
  | ok b' =>
    rcases reread_num (jOk_reread h) hn with rfl | ⟨i, rfl, hi⟩ | ⟨n, rfl, hi⟩
    · exact Or.inl rfl
    · exact Or.inr (Or.inl ⟨i, rfl, hi⟩)
    · exact Or.inr (Or.inr ⟨n, rfl, hi⟩)

theorem jOk_str {t : Tok} {s : Bytes} (h : jOk t = true) (hb : t.body = .str s) : toValidUtf8 s = s := by
  unfold jOk plainOk at h
  simp only [Bool.and_eq_true, hb, beq_iff_eq] at h
  exact h.2

theorem rt_str_body {t : Tok} {s : Bytes} (h : jOk t = true) (hb : t.body = .str s) : (rt t).body = .str s := by
  obtain ⟨body, tag⟩ := t
  cases (show body = .str s from hb)
  rw [rt_str (jOk_str h rfl)]

theorem storePrim_rt {d : TyDesc} {t : Tok} {v : Val} (h : jOk t = true) (hs : storePrim d t = some v) :
    storePrim d (rt t) = some v := by
  by_cases hf : ∃ b, t.body = .float b
  · -- a float is stored at a float kind only, where an integer token that converts to it is stored as the same
    obtain ⟨body, tag⟩ := t
    obtain ⟨b, rfl⟩ : ∃ b, body = .float b := hf
    have hf : ∃ x, storePrim d ⟨.float b, tag⟩ = some (.float x) ∧
        (∀ i, FloatText.intToF64 i = b → storePrim d ⟨.int i, none⟩ = some (.float x)) ∧
        (∀ n : Nat, FloatText.intToF64 (n : Int) = b → storePrim d ⟨.uint n, none⟩ = some (.float x)) := by
      cases d with
      | prim k bi =>
        cases k <;> simp [storePrim] at hs
        · exact ⟨_, rfl, fun i hi => by simp [storePrim, hi], fun n hn => by simp [storePrim, hn]⟩
        · exact ⟨_, rfl, fun i hi => by simp [storePrim, hi], fun n hn => by simp [storePrim, hn]⟩
      | _ => simp [storePrim] at hs
    obtain ⟨x, hx, hi, hn⟩ := hf
    rw [hx] at hs
    rcases rt_float_cases h with h1 | ⟨i, h1, e⟩ | ⟨n, h1, e⟩ <;> rw [h1]
    · rw [storePrim_body d (t := ⟨.float b, none⟩) (t' := ⟨.float b, tag⟩) rfl, hx]; exact hs
    · rw [hi i e]; exact hs
    · rw [hn n e]; exact hs
  · exact storePrim_rt_of (fun b hb => hf ⟨b, hb⟩) (fun s hb => jOk_str h hb) hs

def noIgnore (a : Atlas) : Bool :=
  a.pool.all fun e => match e.k with | .structMap fs => fs.all (fun f => !f.ignore) | _ => true

open Refmt.C01 (typedTy)
open Refmt.C12L (of_all_cons of_all_append)

def TypedM (ts : Types) (a : Atlas) (k : Nat) : UMach → Prop
  | .prim => True
  | .slice e => typedTy ts a k e = true
  | .array _ e => typedTy ts a k e = true
  | .map _ vt => typedTy ts a k vt = true
  | .structMap fs => ∀ f ∈ fs, f.ignore = false ∧ typedTy ts a k f.ty = true
  | _ => False

theorem typedM_pick (ts : Types) (a : Atlas) (hni : noIgnore a = true) (k id : Nat) (h : typedTy ts a (k+1) id = true)
    (hnp : ∀ e, ts.get id ≠ .ptr e) : TypedM ts a k (upickBare ts a id) := by
  rw [typedTy] at h
  cases hd : ts.get id with
  | prim kd b => rw [(C13.pick_prim hd (by simpa [hd] using h)).2]; trivial
  | bytes b => rw [(C13.pick_bytes hd (by simpa [hd] using h)).2]; trivial
  | byteArr n => rw [(C13.pick_byteArr hd (by simpa [hd] using h)).2]; trivial
  | slice e =>
    simp only [hd, Option.isNone_iff_eq_none, Bool.and_eq_true] at h
    rw [(C13.pick_slice hd h.1).2]; exact h.2
  | arr n e =>
    simp only [hd, Option.isNone_iff_eq_none, Bool.and_eq_true] at h
    rw [(C13.pick_arr hd h.1).2]; exact h.2
  | map kt vt =>
    simp only [hd, Option.isNone_iff_eq_none, Bool.and_eq_true] at h
    rw [(C13.pick_map hd h.1.1).2]; exact h.2
  | ptr e => exact absurd hd (hnp e)
  | struct fds =>
    rw [hd] at h; simp only at h
    split at h
    · next r ty fields hg =>
      rw [(C11.pick_struct hd hg).2]
      intro f hf
      have h1 := List.all_eq_true.mp (List.all_eq_true.mp hni _ (List.mem_of_find?_eq_some hg)) f hf
      exact ⟨by simpa using h1, List.all_eq_true.mp h f hf⟩
    · simp at h
  | iface m => rw [hd] at h; simp at h
  | other => rw [hd] at h; simp at h

def TypedJob (ts : Types) (a : Atlas) : Job → Prop
  | .v id _ => ∃ k, k ≤ 64 ∧ typedTy ts a k id = true
  | .bare _ m _ => ∃ k, k ≤ 64 ∧ TypedM ts a k m
  | .wild _ => False
  | .elems e _ _ => ∃ k, k ≤ 64 ∧ typedTy ts a k e = true
  | .entries _ vt _ => ∃ k, k ≤ 64 ∧ typedTy ts a k vt = true
  | .struct _ fs _ _ _ => ∃ k, k ≤ 64 ∧ ∀ f ∈ fs, f.ignore = false ∧ typedTy ts a k f.ty = true

/-- JSON does not carry the declared length of a struct -/
def rtJob : Job → Job
  | .struct id fs _ idx cur => .struct id fs (-1) idx cur
  | j => j

abbrev rl : List Tok → List Tok := List.map Spec.Json.retypeTok

variable {ts : Types} {a : Atlas} {trs : Trs} {it : IfaceTys}

theorem TypedJob.of_peel (hni : noIgnore a = true) {k id : Nat} {cur : Val} (hk : k ≤ 64) (ht : typedTy ts a k id = true) :
    TypedJob ts a (.bare (peel ts 64 0 id).2 (upickBare ts a (peel ts 64 0 id).2) cur) := by
  obtain ⟨m, base, p', hpeel, hT, hnp, -, hle⟩ := peel_chain ts (T := typedTy ts a) (fun _ => rfl)
    (fun p id e hd h => by rw [typedTy, hd] at h; exact h) k 64 0 id ht hk
  rw [hpeel]
  exact ⟨p', by omega, typedM_pick ts a hni p' _ hT hnp⟩

theorem _root_.Refmt.Obj.Reads.retype (hni : noIgnore a = true) {f j c v} (h : Reads ts a trs it f j c v) :
    TypedJob ts a j → c.all jOk = true → Reads ts a trs it f (rtJob j) (rl c) v := by
  induction h with
  | v_bare h0 _ ih =>
    rintro ⟨k, hk, ht⟩ hj
    exact .v_bare h0 (ih (TypedJob.of_peel hni hk ht) hj)
  | v_null h0 hb => intro _ hj; exact .v_null h0 ((tokMap_rt.null_iff _).2 hb)
  | v_ptr h0 hb _ ih =>
    rintro ⟨k, hk, ht⟩ hj
    exact .v_ptr h0 (fun e => hb ((tokMap_rt.null_iff _).1 e)) (ih (TypedJob.of_peel hni hk ht) hj)
  | prim hs => intro _ hj; exact .prim (storePrim_rt (of_all_cons hj).1 hs)
  | slice_null hb => intro _ hj; exact .slice_null ((tokMap_rt.null_iff _).2 hb)
  | slice hb _ ih => intro hD hj; exact .slice (rt_arrOpen hb) (ih hD (of_all_cons hj).2)
  | array_null hb => intro _ hj; exact .array_null ((tokMap_rt.null_iff _).2 hb)
  | array hb _ ih => intro hD hj; exact .array (rt_arrOpen hb) (ih hD (of_all_cons hj).2)
  | map_null hk hb => intro _ hj; exact .map_null hk ((tokMap_rt.null_iff _).2 hb)
  | map hk hb _ ih => intro hD hj; exact .map hk (rt_mapOpen hb) (ih hD (of_all_cons hj).2)
  | struct_null hb => intro _ hj; exact .struct_null ((tokMap_rt.null_iff _).2 hb)
  | struct hb _ ih => intro hD hj; exact .struct (rt_mapOpen hb) (ih hD (of_all_cons hj).2)
  | elems_close hb => intro _ hj; exact .elems_close ((tokMap_rt.arrClose_iff _).2 hb)
  | elems_cons hb1 hb2 hcap _ _ ih1 ih2 =>
    intro hD hj
    obtain ⟨hj1, hj2⟩ := of_all_append hj
    simp only [rl, List.map_append, List.map_cons]
    exact .elems_cons (fun e => hb1 ((tokMap_rt.mapClose_iff _).1 e))
      (fun e => hb2 ((tokMap_rt.arrClose_iff _).1 e)) hcap (ih1 hD hj1) (ih2 hD hj2)
  | entries_close hb => intro _ hj; exact .entries_close ((tokMap_rt.mapClose_iff _).2 hb)
  | entries_cons hb hk hh _ _ ih1 ih2 =>
    intro hD hj
    obtain ⟨hjt, hj'⟩ := of_all_cons hj
    obtain ⟨hj1, hj2⟩ := of_all_append hj'
    simp only [rl, List.map_append, List.map_cons]
    exact .entries_cons (rt_str_body hjt hb) hk hh (ih1 hD hj1) (ih2 hD hj2)
  | struct_close hb _ =>
    intro _ hj
    exact .struct_close ((tokMap_rt.mapClose_iff _).2 hb) rfl
  | struct_skip hb hf hi _ _ _ _ =>
    rintro ⟨k, hk, hfs⟩ _
    exact absurd hi (by simp [(hfs _ (List.mem_of_find?_eq_some hf)).1])
  | struct_field hb hf hi hg _ hs _ ih1 ih2 =>
    rintro ⟨k, hk, hfs⟩ hj
    obtain ⟨hjt, hj'⟩ := of_all_cons hj
    obtain ⟨hj1, hj2⟩ := of_all_append hj'
    simp only [rl, List.map_append, List.map_cons]
    exact .struct_field (rt_str_body hjt hb) hf hi hg (ih1 ⟨k, hk, (hfs _ (List.mem_of_find?_eq_some hf)).2⟩ hj1) hs
      (ih2 ⟨k, hk, hfs⟩ hj2)
  | wildcard | transform | union => exact fun ⟨_, _, hD⟩ => hD.elim
  | wild_tag | wild_map | wild_arr | wild_scalar => exact fun hD => hD.elim

theorem unm_retype_ok (ts : Types) (a : Atlas) (trs : Trs) (it : IfaceTys) (fuel id : Nat) (cur : Val) (toks : List Tok)
    (v : Val) (r : List Tok) (u : Nat) (hni : noIgnore a = true) (ht : typedTy ts a 64 id = true)
    (hj : toks.all jOk = true) (h : unmV ts a trs it fuel id cur toks = .ok v r u) :
    unmV ts a trs it fuel id cur (toks.map Spec.Json.retypeTok) = .ok v (r.map Spec.Json.retypeTok) u := by
  obtain ⟨c, rfl, rfl, hr⟩ := (reads_iff (j := .v id cur)).1 h
  have := (hr.retype hni ⟨64, Nat.le_refl _, ht⟩ (of_all_append hj).1).sound (rl r)
  rw [List.map_append]
  simpa only [rl, rtJob, run_v, List.length_map] using this

end Refmt.C01L
