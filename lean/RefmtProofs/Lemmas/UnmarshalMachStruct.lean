/-
  Stateful object unmarshaller: the struct-map machine.
-/
import RefmtProofs.Lemmas.UnmarshalMachWild
namespace Refmt.UMachU
open Refmt Refmt.Obj Refmt.Obj.UM

variable {ts : Types} {a : Atlas} {trs : Trs} {it : IfaceTys} {ub : Nat}

def rowSt (row : URow) (sm : StructM) : URow := { row with struct := sm }

@[simp] theorem rowSt_ptr (row sm) : (rowSt row sm).ptr = row.ptr := rfl
@[simp] theorem rowSt_struct (row sm) : (rowSt row sm).struct = sm := rfl
theorem rowSt_same (row : URow) (sm : StructM) (h : sm.fields = row.struct.fields) : SameCfg row (rowSt row sm) :=
  ⟨rfl, rfl, rfl, rfl, rfl, h, rfl, rfl, rfl, rfl, rfl, rfl⟩

def stReset (sm : StructM) (v : Val) (rt : Nat) : StructM := { sm with rv := v, rt := rt, index := -1, value := false }
def stOpen (sm : StructM) (len : Int) : StructM := { sm with expectLen := len, index := sm.index + 1 }
def stKey (sm : StructM) (f : SMField) : StructM := { sm with fieldEntry := f, value := true }
def stVal (sm : StructM) : StructM := { sm with index := sm.index + 1, value := false }
def stAbs (sm : StructM) (rv' : Val) : StructM := { sm with rv := rv' }

theorem struct_reset {f : Nat} {lo hi : List URow} {row : URow} {rt : Nat} {v : Val} :
    resetM ts a (f+1) ⟨lo.length, .struct⟩ rt v (lo ++ row :: hi)
      = .ok (lo ++ rowSt row (stReset row.struct v rt) :: hi) := by
  simp only [resetM, resetBody, RowL.getRow, resetStruct, updRow_at]
  rfl

theorem struct_step_init_open {f : Nat} {lo hi : List URow} {row : URow} {stk st be} {t : Tok} {len : Int}
    (hix : row.struct.index < 0) (ht : t.body = .mapOpen len) :
    stepM ts a trs it (f+1) ⟨lo.length, .struct⟩ ⟨lo ++ row :: hi, stk, st, be⟩ t
      = .ok ⟨none, ⟨lo ++ rowSt row (stOpen row.struct len) :: hi, stk, st, be⟩⟩ := by
  simp only [stepM, stepBody, RowL.getRow, stepStruct, hix, if_true, ht, cont, UState.upd, updRow_at]
  rfl

theorem struct_step_init_null {f : Nat} {lo hi : List URow} {row : URow} {stk st be} {t : Tok}
    (hix : row.struct.index < 0) (ht : t.body = .null) :
    stepM ts a trs it (f+1) ⟨lo.length, .struct⟩ ⟨lo ++ row :: hi, stk, st, be⟩ t
      = .ok ⟨some (zeroVal ts 64 row.struct.rt), ⟨lo ++ row :: hi, stk, st, be⟩⟩ := by
  simp only [stepM, stepBody, RowL.getRow, stepStruct, hix, if_true, ht, fin]

theorem struct_step_init_other {f : Nat} {lo hi : List URow} {row : URow} {stk st be} {t : Tok}
    (hix : row.struct.index < 0) (h1 : ∀ len, t.body ≠ .mapOpen len) (h2 : t.body ≠ .null) :
    stepM ts a trs it (f+1) ⟨lo.length, .struct⟩ ⟨lo ++ row :: hi, stk, st, be⟩ t = .error (.f .err) := by
  simp only [stepM, stepBody, RowL.getRow, stepStruct, hix, if_true]
  rfl

theorem struct_absorb {f : Nat} {lo hi : List URow} {row : URow} {v rv' : Val}
    (hig : row.struct.fieldEntry.ignore = false)
    (hset : setRoute ts 64 row.struct.rt row.struct.fieldEntry.route row.struct.rv (fun _ => v) = some rv') :
    absorbM ts (f+1) ⟨lo.length, .struct⟩ v (lo ++ row :: hi) = .ok (lo ++ rowSt row (stAbs row.struct rv') :: hi) := by
  simp only [absorbM, absorbBody, RowL.getRow, hig, hset, updRow_at]
  rfl

theorem struct_absorb_fail {f : Nat} {lo hi : List URow} {row : URow} {v : Val}
    (hig : row.struct.fieldEntry.ignore = false)
    (hset : setRoute ts 64 row.struct.rt row.struct.fieldEntry.route row.struct.rv (fun _ => v) = none) :
    absorbM ts (f+1) ⟨lo.length, .struct⟩ v (lo ++ row :: hi) = .error (.f .panic) := by
  simp only [absorbM, absorbBody, RowL.getRow, hig, hset]
  rfl

theorem ite_state (c : Prop) [Decidable c] (R A : List URow) (stk : List URef) (st : Option URef) (be : Option XFail) :
    (if c then UState.mk A stk st be else UState.mk R stk st be)
      = ⟨if c then A else R, stk, st, be⟩ := by
  split <;> rfl

theorem struct_step_close {f : Nat} {lo hi hi1 : List URow} {row : URow} {stk st be} {t : Tok}
    (hix : ¬ row.struct.index < 0) (hv : row.struct.value = false) (ht : t.body = .mapClose)
    (hR1 : (if row.struct.index > 0 then release (lo ++ row :: hi) else lo ++ row :: hi) = lo ++ row :: hi1) :
    stepM ts a trs it (f+1) ⟨lo.length, .struct⟩ ⟨lo ++ row :: hi, stk, st, be⟩ t
      = if (row.struct.expectLen ≥ 0 && row.struct.expectLen != row.struct.index) = true then .error (.f .err)
        else .ok ⟨some row.struct.rv, ⟨lo ++ row :: hi1, stk, st, be⟩⟩ := by
  simp only [stepM, stepBody, RowL.getRow, stepStruct, hix, hv, Bool.false_eq_true, ↓reduceIte, ht, ite_state, hR1]
  split <;> rfl

theorem struct_step_key {f : Nat} {lo hi hi1 : List URow} {row : URow} {stk st be} {t : Tok} {name : Bytes}
    (hix : ¬ row.struct.index < 0) (hv : row.struct.value = false) (ht : t.body = .str name)
    (hR1 : (if row.struct.index > 0 then release (lo ++ row :: hi) else lo ++ row :: hi) = lo ++ row :: hi1) :
    stepM ts a trs it (f+1) ⟨lo.length, .struct⟩ ⟨lo ++ row :: hi, stk, st, be⟩ t
      = match row.struct.fields.find? fun f => f.name == name with
        | none => .error (.f .err)
        | some fe => .ok ⟨none, ⟨lo ++ rowSt row (stKey row.struct fe) :: hi1, stk, st, be⟩⟩ := by
  simp only [stepM, stepBody, RowL.getRow, stepStruct, hix, hv, Bool.false_eq_true, ↓reduceIte, ht, ite_state, hR1]
  cases row.struct.fields.find? fun f => f.name == name with
  | none => rfl
  | some fe => simp only [cont, UState.upd, updRow_at]; rfl

theorem struct_step_keyother {f : Nat} {lo hi : List URow} {row : URow} {stk st be} {t : Tok}
    (hix : ¬ row.struct.index < 0) (hv : row.struct.value = false) (h1 : t.body ≠ .mapClose)
    (h2 : ∀ x, t.body ≠ .str x) :
    stepM ts a trs it (f+1) ⟨lo.length, .struct⟩ ⟨lo ++ row :: hi, stk, st, be⟩ t = .error (.f .err) := by
  simp only [stepM, stepBody, RowL.getRow, stepStruct, hix, hv, Bool.false_eq_true, ↓reduceIte]
  rfl

theorem struct_step_noroute {f : Nat} {lo hi : List URow} {row : URow} {stk st be} {t : Tok}
    (hix : ¬ row.struct.index < 0) (hv : row.struct.value = true) (hig : row.struct.fieldEntry.ignore = false)
    (hg : getRoute ts 64 row.struct.rt row.struct.fieldEntry.route row.struct.rv = none) :
    stepM ts a trs it (f+1) ⟨lo.length, .struct⟩ ⟨lo ++ row :: hi, stk, st, be⟩ t = .error (.f .err) := by
  simp only [stepM, stepBody, RowL.getRow, stepStruct, hix, hv, Bool.false_eq_true, ↓reduceIte, hig, hg, Option.map]
  rfl

theorem struct_step_value {f : Nat} {lo hi : List URow} {row : URow} {stk st be} {t : Tok} {fcur : Val} {crow : URow}
    {d : URef}
    (hix : ¬ row.struct.index < 0) (hv : row.struct.value = true) (hig : row.struct.fieldEntry.ignore = false)
    (hg : getRoute ts 64 row.struct.rt row.struct.fieldEntry.route row.struct.rv = some fcur)
    (hreq : requisition ts a f (lo ++ rowSt row (stVal row.struct) :: hi) row.struct.fieldEntry.ty
      = .ok ((lo ++ rowSt row (stVal row.struct) :: hi) ++ [crow], d)) :
    stepM ts a trs it (f+1) ⟨lo.length, .struct⟩ ⟨lo ++ row :: hi, stk, st, be⟩ t
      = recurse ts a trs it f ⟨(lo ++ rowSt row (stVal row.struct) :: hi) ++ [crow], stk, st, be⟩ t fcur
          row.struct.fieldEntry.ty d := by
  simp only [rowSt, stVal] at hreq
  simp only [stepM, stepBody, RowL.getRow, stepStruct, hix, hv, hig, hg, Option.map, UState.upd,
    updRow_at, Bool.false_eq_true, ↓reduceIte, hreq]
  rfl

theorem struct_step_value_ign {f : Nat} {lo hi : List URow} {row : URow} {stk st be} {t : Tok} {crow : URow} {d : URef}
    (hix : ¬ row.struct.index < 0) (hv : row.struct.value = true) (hig : row.struct.fieldEntry.ignore = true)
    (hreq : requisition ts a f (lo ++ rowSt row (stVal row.struct) :: hi) it.iface
      = .ok ((lo ++ rowSt row (stVal row.struct) :: hi) ++ [crow], d)) :
    stepM ts a trs it (f+1) ⟨lo.length, .struct⟩ ⟨lo ++ row :: hi, stk, st, be⟩ t
      = recurse ts a trs it f ⟨(lo ++ rowSt row (stVal row.struct) :: hi) ++ [crow], stk, st, be⟩ t (.iface none)
          it.iface d := by
  simp only [rowSt, stVal] at hreq
  simp only [stepM, stepBody, RowL.getRow, stepStruct, hix, hv, hig, UState.upd,
    updRow_at, ↓reduceIte, hreq]
  rfl

theorem struct_absorb_ign {f : Nat} {lo hi : List URow} {row : URow} {v : Val}
    (hig : row.struct.fieldEntry.ignore = true) :
    absorbM ts (f+1) ⟨lo.length, .struct⟩ v (lo ++ row :: hi) = .ok (lo ++ row :: hi) := by
  simp only [absorbM, absorbBody, RowL.getRow, hig, if_true]

/-- the functional model after a key naming field `fe`, seen from the first token of the value -/
def fieldRun (ts : Types) (a : Atlas) (trs : Trs) (it : IfaceTys) (n id : Nat) (fields : List SMField) (el : Int)
    (idx : Nat) (cur : Val) (fe : SMField) : List Tok → URes
  | [] => .more 0
  | t :: rest =>
    if fe.ignore then
      (unmWild ts a trs it n false t rest).bind'
        (fun _ r u => (unmStruct ts a trs it n id fields el (idx + 1) cur r).shift u) 0
    else
      match getRoute ts 64 id fe.route cur with
      | none => .err 0
      | some fcur =>
        (unmV ts a trs it n fe.ty fcur (t :: rest)).bind' (fun v r u =>
          match setRoute ts 64 id fe.route cur (fun _ => v) with
          | none => .panic 0
          | some cur' => (unmStruct ts a trs it n id fields el (idx + 1) cur' r).shift u) 0

theorem unmStruct_field {n id : Nat} {fields : List SMField} {el : Int} {idx : Nat} {cur : Val} {t : Tok}
    {rest : List Tok} {name : Bytes} {fe : SMField} (ht : t.body = .str name)
    (hfind : (fields.find? fun f => f.name == name) = some fe) :
    unmStruct ts a trs it (n+1) id fields el idx cur (t :: rest)
      = (fieldRun ts a trs it n id fields el idx cur fe rest).shift 1 := by
  rw [unmStruct_cons]
  simp only [ht, hfind]
  cases rest with
  | nil => cases fe.ignore <;> rfl
  | cons t2 rest2 =>
    simp only [fieldRun]
    split
    · exact bind'_one (fun _ _ _ => (URes.shift_shift _ _ _).symm) _
    · cases getRoute ts 64 id fe.route cur with
      | none => rfl
      | some fcur =>
        refine bind'_one (fun v r u => ?_) _
        simp only [structCont]
        cases setRoute ts 64 id fe.route cur (fun _ => v) with
        | none => rfl
        | some cur' => exact (URes.shift_shift _ _ _).symm

variable (ts a trs it)

structure StKSt (row : URow) (id : Nat) (fields : List SMField) (el : Int) (idx : Nat) (cur : Val) : Prop where
  fields : row.struct.fields = fields
  rt : row.struct.rt = id
  rv : row.struct.rv = cur
  expectLen : row.struct.expectLen = el
  index : row.struct.index = (idx : Int)
  value : row.struct.value = false

structure StVSt (row : URow) (id : Nat) (fields : List SMField) (el : Int) (idx : Nat) (cur : Val) (fe : SMField) :
    Prop where
  fields : row.struct.fields = fields
  rt : row.struct.rt = id
  rv : row.struct.rv = cur
  expectLen : row.struct.expectLen = el
  index : row.struct.index = (idx : Int)
  value : row.struct.value = true
  fieldEntry : row.struct.fieldEntry = fe

/-- `0 < idx → tl ≠ []`: from the second key on the step first releases the row of the last value's machine, so there
    is one -/
def StInv (S : List Nat) (wi : Option Nat) (n : Nat) : LoopInv := fun _ row tl g =>
  ∃ id fields el idx cur, (∀ f ∈ fields, if f.ignore then wildIn S wi else f.ty ∈ S) ∧
    ((StKSt row id fields el idx cur ∧ (0 < idx → tl ≠ []) ∧ g = unmStruct ts a trs it n id fields el idx cur) ∨
     (∃ m fe, n = m + 1 ∧ fe ∈ fields ∧ StVSt row id fields el idx cur fe ∧
        g = fieldRun ts a trs it m id fields el idx cur fe))

abbrev SimSt (ub : Nat) (S : List Nat) (wi : Option Nat) (n : Nat) : Prop :=
  SimLoop ts a trs it ub .struct (StInv ts a trs it S wi n)

variable {ts a trs it}

theorem simSt_zero (S : List Nat) (wi : Option Nat) : SimSt ts a trs it ub S wi 0 :=
  loop_zero fun _ _ _ _ ⟨_, _, _, _, _, _, h⟩ _ => by
    rcases h with ⟨_, _, hg⟩ | ⟨m, _, hm, _⟩
    · rw [hg, unmStruct_zero]
    · cases hm

theorem struct_released {lo hi : List URow} {row : URow} {idx : Nat} (hix : row.struct.index = (idx : Int))
    (hne : 0 < idx → hi ≠ []) :
    ∃ hi1, (if row.struct.index > 0 then release (lo ++ row :: hi) else lo ++ row :: hi) = lo ++ row :: hi1 := by
  by_cases h : 0 < idx
  · obtain ⟨hi', x, rfl⟩ := RowL.snoc_of_ne_nil hi (hne h)
    refine ⟨hi', ?_⟩
    rw [if_pos (by rw [hix]; exact_mod_cast h), dropLast_at]
  · exact ⟨hi, by rw [if_neg (by rw [hix]; omega)]⟩

theorem childWild {S : List Nat} {wi : Option Nat} {n : Nat} (hS : Closed ts a S wi) (hWd : WildHyp ts a it ub S)
    (hD : WildDeps ts a trs it ub S n) (crow : URow) :
    ChildSim ts a trs it ub (StillBare ts a crow it.iface .wild .wildcard) it.iface (.iface none) .wild crow
      (unmBare ts a trs it (n+1) it.iface .wildcard (.iface none)) := by
  intro L hi stk be toks fr sf1 sf hfr hsf1 hsf
  rw [rtp_eq]
  exact simBare_wild hS hWd hD crow (.iface none) L hi stk be _ _root_.id 0 toks fr sf1 sf (WrP.refl L crow .wild)
    (by omega) (by omega) hsf

theorem struct_act {S : List Nat} {wi : Option Nat} {n : Nat} (hS : Closed ts a S wi)
    (hWd : wildIn S wi → WildHyp ts a it ub S) (hV : SimV ts a trs it ub S n)
    (hW : wildIn S wi → ∀ crow, ChildSim ts a trs it ub (StillBare ts a crow it.iface .wild .wildcard) it.iface (.iface none) .wild crow
      (unmBare ts a trs it (n+1) it.iface .wildcard (.iface none))) :
    Steps ts a trs it ub .struct (StInv ts a trs it S wi n) (StInv ts a trs it S wi (n+1)) := by
  intro lo row tl g h
  obtain ⟨id, fields, el, idx, cur, hf, ⟨⟨hfl, hrt, hrv, hel, hix, hval⟩, hne, rfl⟩ |
    ⟨m, fe, hm, hmem, ⟨hfl, hrt, hrv, hel, hix, hval, hfe⟩, rfl⟩⟩ := h
  · have hix0 : ¬ row.struct.index < 0 := by rw [hix]; omega
    obtain ⟨tl1, hR1⟩ := struct_released (lo := lo) hix hne
    refine ⟨.inl (unmStruct_succ_nil ..), fun t rest => ?_⟩
    cases hb : t.body with
    | mapClose =>
      rw [unmStruct_cons]
      simp only [hb]
      split
      · next hc =>
        exact .plain (.fail fun _ _ _ _ => by rw [struct_step_close hix0 hval hb hR1, hel, hix, if_pos hc])
      · next hc =>
        exact .plain (.close cur row tl1 (fun _ _ _ _ => by rw [struct_step_close hix0 hval hb hR1, hel, hix, hrv, if_neg hc])
          (SameCfg.refl _))
    | str name =>
      cases hfind : fields.find? (fun f => f.name == name) with
      | none =>
        rw [unmStruct_cons]
        simp only [hb, hfind]
        exact .plain (.fail fun _ _ _ _ => by rw [struct_step_key hix0 hval hb hR1, hfl, hfind])
      | some fe =>
        rw [unmStruct_field hb hfind]
        exact .plain (.cont (rowSt row (stKey row.struct fe)) tl1 _
          (fun _ _ _ _ => by rw [struct_step_key hix0 hval hb hR1, hfl, hfind]) ⟨rfl, rowSt_same _ _ rfl⟩
          ⟨id, fields, el, idx, cur, hf, .inr ⟨n, fe, rfl, List.mem_of_find?_eq_some hfind,
            ⟨hfl, hrt, hrv, hel, hix, rfl, rfl⟩, rfl⟩⟩)
    | _ =>
      rw [unmStruct_cons]
      simp only [hb]
      exact .plain (.fail fun _ _ _ _ =>
        struct_step_keyother hix0 hval (show t.body ≠ .mapClose by simp [hb]) (show ∀ x, t.body ≠ .str x by simp [hb]))
  · obtain rfl : m = n := by omega
    have hix0 : ¬ row.struct.index < 0 := by rw [hix]; omega
    have hix1 : (rowSt row (stVal row.struct)).struct.index = ((idx + 1 : Nat) : Int) := by
      show row.struct.index + 1 = _
      rw [hix]; push_cast; rfl
    have hlist : ∀ crow : URow, (lo ++ rowSt row (stVal row.struct) :: tl) ++ [crow]
        = lo ++ rowSt row (stVal row.struct) :: (tl ++ crow :: []) := fun _ => by simp
    refine ⟨.inl rfl, fun t rest => ?_⟩
    have hfe' := hf fe hmem
    simp only [fieldRun]
    cases hig : fe.ignore with
    | true =>
      rw [hig] at hfe'
      have hwi : wildIn S wi := by simpa using hfe'
      have hig' : row.struct.fieldEntry.ignore = true := by rw [hfe]; exact hig
      obtain ⟨crow, cck, hreq, hcc⟩ := requisition_cov (lo ++ rowSt row (stVal row.struct) :: tl) hS (hWd hwi).ifc
      obtain rfl := (hWd hwi).cfg hcc
      rw [if_pos rfl, show unmWild ts a trs it m false t rest
          = unmBare ts a trs it (m+1) it.iface .wildcard (.iface none) (t :: rest) by
        rw [unmBare_wild, (hWd hwi).ifcMeth]]
      refine .call _ _ _ it.iface (.iface none) (rowSt row (stVal row.struct)) tl crow [] .wild
        (fun _ => rowSt row (stVal row.struct)) (fun _ => unmStruct ts a trs it m id fields el (idx + 1) cur)
        (fun f stk st be hf => ?_) (hW hwi crow) ⟨rfl, rowSt_same _ _ rfl⟩ fun v => .inr
          ⟨fun _ _ => rfl, fun _ _ => struct_absorb_ign hig', ⟨rfl, rowSt_same _ _ rfl⟩, fun crow' hi' _ =>
            ⟨id, fields, el, idx + 1, cur, hf, .inl ⟨⟨hfl, hrt, hrv, hel, hix1, rfl⟩, fun _ => by simp, rfl⟩⟩⟩
      obtain ⟨f', rfl⟩ : ∃ f', f = f' + 4 := ⟨f - 4, by omega⟩
      rw [struct_step_value_ign hix0 hval hig' (hreq f'), hlist, RowL.len_at]
    | false =>
      rw [hig] at hfe'
      have hty : fe.ty ∈ S := by simpa using hfe'
      have hig' : row.struct.fieldEntry.ignore = false := by rw [hfe]; exact hig
      rw [if_neg Bool.false_ne_true]
      cases hg : getRoute ts 64 id fe.route cur with
      | none =>
        exact .plain (.fail fun _ _ _ _ => struct_step_noroute hix0 hval hig' (by rw [hrt, hfe, hrv]; exact hg))
      | some fcur =>
        obtain ⟨crow, cck, hreq, hcc⟩ := requisition_cov (lo ++ rowSt row (stVal row.struct) :: tl) hS hty
        -- the row and the run after the value `v` matter only when `setRoute` accepts `v`: else the functional model
        -- panics and nothing is claimed
        refine .call _ _ _ fe.ty fcur (rowSt row (stVal row.struct)) tl crow [] cck
          (fun v => rowSt row (stAbs (stVal row.struct) ((setRoute ts 64 id fe.route cur fun _ => v).getD cur)))
          (fun v => unmStruct ts a trs it m id fields el (idx + 1) ((setRoute ts 64 id fe.route cur fun _ => v).getD cur))
          (fun f stk st be hf => ?_) (hV _ hty _ _ _ hcc) ⟨rfl, rowSt_same _ _ rfl⟩ fun v => ?_
        · obtain ⟨f', rfl⟩ : ∃ f', f = f' + 4 := ⟨f - 4, by omega⟩
          rw [struct_step_value hix0 hval hig' (by rw [hrt, hfe, hrv]; exact hg) (by rw [hfe]; exact hreq f'), hfe, hlist,
            RowL.len_at]
        · cases hset : setRoute ts 64 id fe.route cur (fun _ => v) with
          | none => exact .inl fun _ _ => ⟨0, rfl⟩
          | some cur' =>
            refine .inr ⟨fun _ _ => rfl, fun _ _ => ?_, ⟨rfl, rowSt_same _ _ rfl⟩, fun crow' hi' _ =>
              ⟨id, fields, el, idx + 1, cur', hf, .inl ⟨⟨hfl, hrt, rfl, hel, hix1, rfl⟩, fun _ => by simp, rfl⟩⟩⟩
            exact struct_absorb (row := rowSt row (stVal row.struct)) hig' (by
              show setRoute ts 64 row.struct.rt row.struct.fieldEntry.route row.struct.rv _ = _
              rw [hrt, hfe, hrv]; exact hset)

theorem simLeaf_struct {S : List Nat} {wi : Option Nat} {n : Nat} (hSt : SimSt ts a trs it ub S wi n) {base : Nat} {fields : List SMField}
    (hf : ∀ f ∈ fields, if f.ignore then wildIn S wi else f.ty ∈ S) {row : URow} (hfl : row.struct.fields = fields) :
    SimLeaf ts a trs it ub n base .struct (.structMap fields) row := by
  refine SimLeaf.of_cons fun cur lo hi stk be c F w d t rest f sf1 sf un hw hd hfr hsf1 hsf => ?_
  rw [unmBare_structMap]
  have hneg : (rowSt row (stReset row.struct cur base)).struct.index < 0 := by
    show (-1 : Int) < 0
    omega
  refine loop_start hSt hw hd struct_reset ⟨rfl, rowSt_same _ _ rfl⟩ hsf1 hsf stk be ?_
  split
  · next hb => exact .close _ _ _ (fun _ _ _ _ => struct_step_init_null hneg hb) (SameCfg.refl _)
  · next len hb =>
    exact .cont _ _ _ (fun _ _ _ _ => struct_step_init_open hneg hb) ⟨rfl, rowSt_same _ _ rfl⟩
      ⟨base, fields, len, 0, cur, hf, .inl ⟨⟨hfl, rfl, rfl, rfl, rfl, rfl⟩, fun h => absurd h (Nat.lt_irrefl 0), rfl⟩⟩
  · next h1 h2 => exact .fail fun _ _ _ _ => struct_step_init_other hneg h2 h1

end Refmt.UMachU
