/-
  The frame of the refinement proof of the stateful marshaller model.  The run of one machine is `Steps`: its own
  Steps, with what the driver does in between, in a child, kept as driver steps; the statement for one machine is
  `Sim` (for every machine at one functional fuel: `SimV`, in MarshalMachCont).  A machine that steps a delegate sees the delegate's rows through an `Embed` (`Steps.wrap`, `Steps.pass`);
  one that recurses into a child uses `Steps.child`.  Rows are seen as `lo ++ row :: hi` (Lemmas/RowList).
-/
import RefmtProofs.Lemmas.MarshalMachMono
import RefmtProofs.Lemmas.RowList
open Refmt Refmt.Obj Refmt.Obj.MM

namespace Refmt.MachL

variable {ts : Types} {a : Atlas} {trs : Trs}

theorem updRow_at (lo : List Row) (row : Row) (hi : List Row) (f : Row → Row) :
    updRow (lo ++ row :: hi) lo.length f = lo ++ f row :: hi := by
  simp [updRow]

theorem upd_at (lo : List Row) (row : Row) (hi : List Row) (f : Row → Row) (st be) (cur : Option MRef) :
    (MState.mk (lo ++ row :: hi) st cur be).upd lo.length f = ⟨lo ++ f row :: hi, st, cur, be⟩ := by
  simp [MState.upd, updRow_at]

theorem drop_cons_inv {α : Type} {l : List α} {i : Nat} {x : α} {xs : List α} (h : l.drop i = x :: xs) :
    l[i]? = some x ∧ i < l.length ∧ l.drop (i + 1) = xs := by
  have hx : l[i]? = some x := by
    have := congrArg (·[0]?) h
    simpa using this
  refine ⟨hx, RowL.lt_of_getElem? hx, ?_⟩
  rw [← List.drop_drop, h]; rfl

theorem idx_mid {i n : Nat} (h : i < n) : ¬ ((i : Int) < 0) ∧ ¬ ((i : Int) = n) ∧ ¬ ((i : Int) > n) := by omega

theorem requisition_at {n R id row' k} (h : yieldM ts a n Row.zero id = .ok (row', k)) :
    requisition ts a n R id = .ok (R ++ [row'], ⟨R.length, k⟩) := by
  simp [requisition, h]

theorem release_snoc (R : List Row) (x : Row) : release (R ++ [x]) = R := by
  simp [release]

theorem yieldTip_snoc {n R x id row' k} (h : yieldM ts a n x id = .ok (row', k)) :
    yieldTip ts a n (R ++ [x]) id = .ok (R ++ [row'], ⟨R.length, k⟩) := by
  simp [yieldTip, h]

theorem lenOf_of_elemsOf {sl v es} (h : elemsOf sl v = some es) : lenOf sl v = some es.length := by
  unfold elemsOf at h; unfold lenOf
  split at h <;> simp_all

theorem notNil_of_elemsOf {k : MK} {v es} (h : elemsOf (k == .slice) v = some es) :
    ((k == .slice) && isNilSlice v) = false := by
  unfold elemsOf at h
  split at h <;> simp_all [isNilSlice]

theorem release_at (lo : List Row) (row : Row) (rest : List Row) (h : rest ≠ []) :
    release (lo ++ row :: rest) = lo ++ row :: rest.dropLast := by
  unfold release
  rw [List.dropLast_append_of_ne_nil (by simp), List.dropLast_cons_of_ne_nil h]

theorem stepM_at {n lo row hi k st cur be} :
    stepM ts a trs (n+1) ⟨lo.length, k⟩ ⟨lo ++ row :: hi, st, cur, be⟩ =
      stepBody ts a n (stepM ts a trs n) (recurse ts a trs n) ⟨lo.length, k⟩ ⟨lo ++ row :: hi, st, cur, be⟩ := rfl

theorem resetM_at {n lo row hi k rt v} :
    resetM ts a trs (n+1) ⟨lo.length, k⟩ rt v (lo ++ row :: hi) =
      resetBody ts a trs n (resetM ts a trs n) ⟨lo.length, k⟩ rt v (lo ++ row :: hi) := rfl

theorem stepM_kind {n lo row hi k st cur be} :
    stepM ts a trs (n+1) ⟨lo.length, k⟩ ⟨lo ++ row :: hi, st, cur, be⟩ =
      (match k with
       | .ptr => stepPtr (stepM ts a trs n) ⟨lo.length, k⟩ row ⟨lo ++ row :: hi, st, cur, be⟩
       | .prim => stepPrim ts row ⟨lo ++ row :: hi, st, cur, be⟩
       | .wild => stepWild (stepM ts a trs n) row ⟨lo ++ row :: hi, st, cur, be⟩
       | .map => stepMap (recurse ts a trs n) ⟨lo.length, k⟩ row ⟨lo ++ row :: hi, st, cur, be⟩
       | .slice | .array => stepSlice (recurse ts a trs n) ⟨lo.length, k⟩ row ⟨lo ++ row :: hi, st, cur, be⟩
       | .struct => stepStruct ts a n (recurse ts a trs n) ⟨lo.length, k⟩ row ⟨lo ++ row :: hi, st, cur, be⟩
       | .transform => stepTransform (stepM ts a trs n) ⟨lo.length, k⟩ row ⟨lo ++ row :: hi, st, cur, be⟩
       | .union => stepUnion (stepM ts a trs n) ⟨lo.length, k⟩ row ⟨lo ++ row :: hi, st, cur, be⟩
       | .errThunk => stepErr row) := by
  simp only [stepM_at, stepBody, RowL.getRow]
  cases k <;> rfl

theorem resetM_kind {n lo row hi k rt v} :
    resetM ts a trs (n+1) ⟨lo.length, k⟩ rt v (lo ++ row :: hi) =
      (match k with
       | .ptr => resetPtr ts (resetM ts a trs n) ⟨lo.length, k⟩ row rt v (lo ++ row :: hi)
       | .prim => resetPrim ⟨lo.length, k⟩ v (lo ++ row :: hi)
       | .wild => resetWild ts a n (resetM ts a trs n) ⟨lo.length, k⟩ v (lo ++ row :: hi)
       | .map => resetMap ts a trs n ⟨lo.length, k⟩ rt v (lo ++ row :: hi)
       | .slice | .array => resetSlice ts a n ⟨lo.length, k⟩ rt v (lo ++ row :: hi)
       | .struct => resetStruct ⟨lo.length, k⟩ v (lo ++ row :: hi)
       | .transform => resetTransform trs (resetM ts a trs n) ⟨lo.length, k⟩ row v (lo ++ row :: hi)
       | .union => resetUnion ts a n (resetM ts a trs n) ⟨lo.length, k⟩ row v (lo ++ row :: hi)
       | .errThunk => resetErr row (lo ++ row :: hi)) := by
  simp only [resetM_at, resetBody, RowL.getRow]
  cases k <;> rfl

variable (ts a trs)

/-- `CS`: the Step of the current machine of `s` answers `res` on some fuel, and `res` is not `stuck`; `DS`: the same of the
    driver's step `mstep`, which is that Step followed by the pop after a `done` (`popDone`, `CS.toDS`). -/
def CS (s : MState) (res : X SRes) : Prop :=
  ∃ n cur, s.step = some cur ∧ stepM ts a trs n cur s = res ∧ NS res

def DS (s : MState) (res : X SRes) : Prop := ∃ n, mstep ts a trs n s = res ∧ NS res

def Emits : MState → List Tok → MState → Prop
  | s, [], s' => s = s'
  | s, t :: toks, s' => ∃ s1, DS ts a trs s (.ok ⟨t, false, s1⟩) ∧ Emits s1 toks s'

variable {ts a trs}

theorem CS.of_step {n c R st be res} (hs : stepM ts a trs n c ⟨R, st, some c, be⟩ = res) (hn : NS res) :
    CS ts a trs ⟨R, st, some c, be⟩ res := ⟨n, c, rfl, hs, hn⟩

def popDone : X SRes → X SRes
  | .ok ⟨t, true, ⟨R, p :: st, _, be⟩⟩ => .ok ⟨t, false, ⟨R, st, some p, be⟩⟩
  | res => res

theorem NS.popDone {res : X SRes} (h : NS res) : NS (popDone res) := by
  unfold MachL.popDone
  split
  · exact NS.ok
  · exact h

theorem mstep_of_step {n s cur} (hc : s.step = some cur) :
    mstep ts a trs (n+1) s = popDone (stepM ts a trs n cur s) := by
  simp only [mstep, mstepBody, hc]
  cases stepM ts a trs n cur s with
  | error x => rfl
  | ok res =>
    obtain ⟨t, dn, R, st, c, be⟩ := res
    cases dn <;> cases st <;> rfl

theorem CS.toDS {s res} (h : CS ts a trs s res) : DS ts a trs s (popDone res) := by
  obtain ⟨n, cur, hc, hs, hn⟩ := h
  exact ⟨n+1, by rw [mstep_of_step hc, hs], hn.popDone⟩

theorem Emits.nil {s} : Emits ts a trs s [] s := rfl

theorem Emits.cons {s t s1 toks s'} (hd : DS ts a trs s (.ok ⟨t, false, s1⟩)) (hr : Emits ts a trs s1 toks s') :
    Emits ts a trs s (t :: toks) s' := ⟨s1, hd, hr⟩

theorem Emits.one {s t s1} (h : DS ts a trs s (.ok ⟨t, false, s1⟩)) : Emits ts a trs s [t] s1 := .cons h .nil

theorem Emits.append {s toks1 s1 toks2 s2} (h1 : Emits ts a trs s toks1 s1) (h2 : Emits ts a trs s1 toks2 s2) :
    Emits ts a trs s (toks1 ++ toks2) s2 := by
  induction toks1 generalizing s with
  | nil => cases h1; exact h2
  | cons t toks ih =>
    obtain ⟨s', hd, hr⟩ := h1
    exact .cons hd (ih hr)

theorem recurse_eq {s' : MState} {cur d x rt n0 n1 R1 res}
    (hcur : s'.step = some cur) (hr : resetM ts a trs n0 d rt x s'.rows = .ok R1)
    (hm : mstep ts a trs n1 ⟨R1, cur :: s'.stack, some d, s'.bindErr⟩ = res) (hns : NS res) :
    recurse ts a trs (max n0 n1 + 1) s' x rt d = res.map fun r => { r with done := false } := by
  simp only [recurse, recurseBody, hcur, resetM_le hr NS.ok (Nat.le_max_left n0 n1),
    mstep_le hm hns (Nat.le_max_right n0 n1)]
  cases res <;> rfl

theorem recurse_resetfail {s' : MState} {cur d x rt n0 e}
    (hcur : s'.step = some cur) (hr : resetM ts a trs n0 d rt x s'.rows = .error (.f e)) :
    recurse ts a trs (n0 + 1) s' x rt d = .error (.f e) := by
  simp [recurse, recurseBody, hcur, hr]

theorem recurse_of_step {R R1 R' : List Row} {st cur be d x rt n0 n1 t dn} (hr : resetM ts a trs n0 d rt x R = .ok R1)
    (hs : stepM ts a trs n1 d ⟨R1, cur :: st, some d, be⟩ = .ok ⟨t, dn, ⟨R', cur :: st, some d, be⟩⟩) :
    ∃ n, recurse ts a trs n ⟨R, st, some cur, be⟩ x rt d =
      .ok ⟨t, false, if dn then ⟨R', st, some cur, be⟩ else ⟨R', cur :: st, some d, be⟩⟩ := by
  have hm : mstep ts a trs (n1+1) ⟨R1, cur :: st, some d, be⟩ =
      popDone (.ok ⟨t, dn, ⟨R', cur :: st, some d, be⟩⟩) := by rw [mstep_of_step rfl, hs]
  cases dn
  · exact ⟨_, recurse_eq (s' := ⟨R, st, some cur, be⟩) rfl hr hm NS.ok⟩
  · exact ⟨_, recurse_eq (s' := ⟨R, st, some cur, be⟩) rfl hr hm NS.ok⟩

theorem recurse_first {s' : MState} {cur d x rt n0 R1 t1 rest s_end}
    (hcur : s'.step = some cur) (hr : resetM ts a trs n0 d rt x s'.rows = .ok R1)
    (he : Emits ts a trs ⟨R1, cur :: s'.stack, some d, s'.bindErr⟩ (t1 :: rest) s_end) :
    ∃ n s1, recurse ts a trs n s' x rt d = .ok ⟨t1, false, s1⟩ ∧ Emits ts a trs s1 rest s_end := by
  obtain ⟨s1, ⟨n1, hm, hns⟩, hrest⟩ := he
  exact ⟨max n0 n1 + 1, s1, recurse_eq hcur hr hm hns, hrest⟩

theorem recurse_stepfail {s' : MState} {cur d x rt n0 R1 e}
    (hcur : s'.step = some cur) (hr : resetM ts a trs n0 d rt x s'.rows = .ok R1)
    (hd : DS ts a trs ⟨R1, cur :: s'.stack, some d, s'.bindErr⟩ (.error (.f e))) :
    ∃ n, recurse ts a trs n s' x rt d = .error (.f e) := by
  obtain ⟨n1, hm, hns⟩ := hd
  exact ⟨max n0 n1 + 1, recurse_eq hcur hr hm hns⟩

/-- no map machine in these rows was left between a key and its value.  Every statement carries it because the map
    machine's `Reset` leaves `value` as it finds it (`resetMap`), so in a row with `value = true` the Step after the
    open would `Recurse` for a value where the key is due. -/
def Clean (rows : List Row) : Prop := ∀ r ∈ rows, r.map.value = false

theorem Clean.cons {r : Row} {rows : List Row} (h : r.map.value = false) (hr : Clean rows) : Clean (r :: rows) := by
  intro x hx; cases hx with
  | head => exact h
  | tail _ hx => exact hr x hx

theorem Clean.single {r : Row} (h : r.map.value = false) : Clean [r] := Clean.cons h (fun _ h => by cases h)

theorem Clean.head {r : Row} {rows : List Row} (h : Clean (r :: rows)) : r.map.value = false := h r (by simp)

theorem Clean.tail {r : Row} {rows : List Row} (h : Clean (r :: rows)) : Clean rows := fun x hx => h x (by simp [hx])

theorem Clean.append {r1 r2 : List Row} (h1 : Clean r1) (h2 : Clean r2) : Clean (r1 ++ r2) := by
  intro x hx; rcases List.mem_append.mp hx with h | h
  · exact h1 x h
  · exact h2 x h

theorem Clean.left {r1 r2 : List Row} (h : Clean (r1 ++ r2)) : Clean r1 := fun x hx => h x (by simp [hx])

theorem Clean.right {r1 r2 : List Row} (h : Clean (r1 ++ r2)) : Clean r2 := fun x hx => h x (by simp [hx])

theorem Clean.dropLast {r : List Row} (h : Clean r) : Clean r.dropLast :=
  fun x hx => h x (List.dropLast_subset _ hx)

theorem Clean.zero : Row.zero.map.value = false := rfl

theorem zero_clean : Clean [Row.zero] := Clean.single Clean.zero

theorem Clean.of_map {r r' : Row} {rows : List Row} (h : Clean (r :: rows)) (hm : r'.map.value = r.map.value) :
    Clean (r' :: rows) := Clean.cons (hm ▸ h.head) h.tail

def CfgBare (m : Mach) (k : MK) (row : Row) : Prop :=
  match m with
  | .prim => k = .prim
  | .slice _ => k = .slice
  | .array _ => k = .array
  | .map _ _ mode => k = .map ∧ row.map.morphism = mode
  | .wildcard => k = .wild
  | .structMap e fs => k = .struct ∧ row.struct.cfg = e ∧ row.struct.fields = fs
  | .errThunk => k = .errThunk ∧ row.err.err = some .err
  | _ => False

def QB (m : Mach) (k : MK) (P : PtrM) (r : Row) : Prop := CfgBare m k r ∧ r.ptr = P

def CfgM (ts : Types) (a : Atlas) (m : Mach) (k : MK) (row : Row) : Prop :=
  match m with
  | .transform e fn mty =>
    k = .transform ∧ row.transform.trFunc = fn ∧ row.transform.mty = mty ∧ row.transform.tag = e.tag ∧
      ∃ kd, row.transform.delegate = some kd ∧ CfgBare (pickBare ts a mty) kd row
  | .union e ms => k = .union ∧ row.union.cfg = e ∧ row.union.members = ms
  | m => CfgBare m k row

theorem CfgBare.congr {m : Mach} {k : MK} {r r' : Row} (hm : r'.map = r.map) (hs : r'.struct = r.struct)
    (he : r'.err = r.err) (h : CfgBare m k r) : CfgBare m k r' := by
  cases m <;> simp only [CfgBare, hm, hs, he] at h ⊢ <;> exact h

/-- the union sub-struct matters for a union machine only: the member of a union machine that is configured in the
    union machine's own row finds it rewritten (`sim_okm`) -/
theorem CfgM.congr {m : Mach} {k : MK} {r r' : Row} (hm : r'.map = r.map) (hs : r'.struct = r.struct)
    (he : r'.err = r.err) (ht : r'.transform = r.transform) (hu : (∃ e ms, m = .union e ms) → r'.union = r.union)
    (h : CfgM ts a m k r) : CfgM ts a m k r' := by
  cases m with
  | transform e fn mty =>
    obtain ⟨h1, h2, h3, h4, kd, h5, h6⟩ := h
    exact ⟨h1, by rw [ht, h2], by rw [ht, h3], by rw [ht, h4], kd, by rw [ht, h5], h6.congr hm hs he⟩
  | union e ms =>
    obtain ⟨h1, h2, h3⟩ := h
    exact ⟨h1, by rw [hu ⟨e, ms, rfl⟩, h2], by rw [hu ⟨e, ms, rfl⟩, h3]⟩
  | _ =>
    simp only [CfgM] at h ⊢
    exact CfgBare.congr hm hs he h

def CfgV (ts : Types) (a : Atlas) (id : Nat) (k : MK) (row : Row) : Prop :=
  if (peel ts 64 0 id).1 = 0 then CfgM ts a (pickBare ts a (peel ts 64 0 id).2) k row
  else k = .ptr ∧ row.ptr.peelCount = (peel ts 64 0 id).1 ∧
    ∃ k', row.ptr.mach = some k' ∧ CfgM ts a (pickBare ts a (peel ts 64 0 id).2) k' row

theorem cfgV_bare {id : Nat} {k : MK} {row : Row} (h : (peel ts 64 0 id).1 = 0) :
    CfgV ts a id k row ↔ CfgM ts a (pickBare ts a (peel ts 64 0 id).2) k row := by
  simp only [CfgV, h, if_true]

theorem cfgV_ptr {id : Nat} {k : MK} {row : Row} (h : (peel ts 64 0 id).1 ≠ 0) :
    CfgV ts a id k row ↔ k = .ptr ∧ row.ptr.peelCount = (peel ts 64 0 id).1 ∧
      ∃ k', row.ptr.mach = some k' ∧ CfgM ts a (pickBare ts a (peel ts 64 0 id).2) k' row := by
  simp only [CfgV, h, if_false]

def MachTy (ts : Types) (id : Nat) (m : Mach) : Prop :=
  match m with
  | .slice e => elemOf ts id = some e
  | .array e => elemOf ts id = some e
  | .map kt vt _ => ts.get id = .map kt vt
  | _ => True

def YieldOK (ts : Types) (a : Atlas) : Prop :=
  ∀ id row, ∃ n row' k, yieldM ts a n row id = .ok (row', k) ∧ CfgV ts a id k row' ∧
    row'.map.value = row.map.value

theorem YieldOK.fresh (h : YieldOK ts a) (id : Nat) :
    ∃ n drow k, yieldM ts a n Row.zero id = .ok (drow, k) ∧ CfgV ts a id k drow ∧ Clean [drow] := by
  obtain ⟨n, drow, k, hy, hcfg, hval⟩ := h id Row.zero
  exact ⟨n, drow, k, hy, hcfg, Clean.single (hval.trans Clean.zero)⟩

abbrev WVal := PtrM × TransM × UnionM

/-- A choice among the wrapper sub-structs of a row, in the order ptrDeref, transform, union; `true` marks one as
    foreign to the machine spoken of.  A statement about a machine takes two: `mk`, those that it does not write, and
    `vm`, those that it does not rely on either, so that they may change under it between two Steps; no relation
    between the two is needed.  A wrapper machine owns its own sub-struct, any other machine none; to a wrapper's
    delegate in the same row the wrapper's sub-struct is foreign as well, and so are those of the wrappers further
    out. -/
abbrev Mask := Bool × Bool × Bool

def getW (r : Row) : WVal := (r.ptr, r.transform, r.union)

def setWm (mk : Mask) (w : WVal) (r : Row) : Row :=
  { r with ptr := if mk.1 then w.1 else r.ptr,
           transform := if mk.2.1 then w.2.1 else r.transform,
           union := if mk.2.2 then w.2.2 else r.union }

def agreeW (mk : Mask) (r r' : Row) : Prop :=
  (mk.1 = true → r'.ptr = r.ptr) ∧ (mk.2.1 = true → r'.transform = r.transform) ∧
  (mk.2.2 = true → r'.union = r.union)

theorem agreeW.of_getW {mk : Mask} {r r' : Row} (h : getW r' = getW r) : agreeW mk r r' :=
  ⟨fun _ => congrArg (·.1) h, fun _ => congrArg (·.2.1) h, fun _ => congrArg (·.2.2) h⟩

theorem agreeW.refl (mk : Mask) (r : Row) : agreeW mk r r := .of_getW rfl

theorem agreeW.symm {mk : Mask} {r1 r2 : Row} (h : agreeW mk r1 r2) : agreeW mk r2 r1 :=
  ⟨fun x => (h.1 x).symm, fun x => (h.2.1 x).symm, fun x => (h.2.2 x).symm⟩

abbrev Mask.le (m m' : Mask) : Prop :=
  (m.1 = true → m'.1 = true) ∧ (m.2.1 = true → m'.2.1 = true) ∧ (m.2.2 = true → m'.2.2 = true)

theorem agreeW.of_le {mk mk' : Mask} {r r' : Row} (h : agreeW mk r r') (hle : mk'.le mk) : agreeW mk' r r' :=
  ⟨fun x => h.1 (hle.1 x), fun x => h.2.1 (hle.2.1 x), fun x => h.2.2 (hle.2.2 x)⟩

theorem ite_eq_left_of {α : Type} {c : Bool} {x y : α} (h : c = false → x = y) : (if c then x else y) = x := by
  cases c
  · exact (h rfl).symm
  · rfl

theorem setWm_getW {vm : Mask} {r X : Row} (h1 : X.prim = r.prim) (h2 : X.wild = r.wild) (h3 : X.map = r.map)
    (h4 : X.slice = r.slice) (h5 : X.struct = r.struct) (h6 : X.err = r.err) (hp : vm.1 = false → X.ptr = r.ptr)
    (ht : vm.2.1 = false → X.transform = r.transform) (hu : vm.2.2 = false → X.union = r.union) :
    setWm vm (getW X) r = X := by
  cases X
  simp only [setWm, getW, ite_eq_left_of hp, ite_eq_left_of ht, ite_eq_left_of hu, ← h1, ← h2, ← h3, ← h4, ← h5, ← h6]

theorem setWm_self (mk : Mask) (r : Row) : setWm mk (getW r) r = r :=
  setWm_getW rfl rfl rfl rfl rfl rfl (fun _ => rfl) (fun _ => rfl) (fun _ => rfl)

theorem setWm_widen {vm vmD : Mask} (hle : vm.le vmD) (w : WVal) (r : Row) :
    setWm vmD (getW (setWm vm w r)) r = setWm vm w r :=
  setWm_getW rfl rfl rfl rfl rfl rfl
    (fun h => if_neg fun hv => by rw [hle.1 hv] at h; cases h)
    (fun h => if_neg fun hv => by rw [hle.2.1 hv] at h; cases h)
    (fun h => if_neg fun hv => by rw [hle.2.2 hv] at h; cases h)

abbrev FFF : Mask := (false, false, false)

theorem setWm_FFF (w : WVal) (r : Row) : setWm FFF w r = r := rfl

theorem setWm_map (mk : Mask) (w : WVal) (r : Row) : (setWm mk w r).map = r.map := rfl

theorem setWm_prim (mk : Mask) (w : WVal) (r : Row) : (setWm mk w r).prim = r.prim := rfl

theorem setWm_wild (mk : Mask) (w : WVal) (r : Row) : (setWm mk w r).wild = r.wild := rfl

theorem agreeW_setWm (mk : Mask) (w : WVal) (r : Row) : agreeW mk (setWm mk w r) (setWm mk w r) := agreeW.refl _ _

theorem setWm_slice (mk : Mask) (w : WVal) (r : Row) : (setWm mk w r).slice = r.slice := rfl

theorem setWm_struct (mk : Mask) (w : WVal) (r : Row) : (setWm mk w r).struct = r.struct := rfl

theorem setWm_err (mk : Mask) (w : WVal) (r : Row) : (setWm mk w r).err = r.err := rfl

theorem Clean.setWm {mk : Mask} {w : WVal} {r : Row} {rows : List Row} (h : Clean (r :: rows)) :
    Clean (setWm mk w r :: rows) := h.of_map rfl

theorem cfgBare_setWm {m : Mach} {k : MK} {r : Row} (mk : Mask) (w : WVal) (h : CfgBare m k r) :
    CfgBare m k (setWm mk w r) := h.congr rfl rfl rfl

theorem seq_fail_left {x : MOut} {y : Unit → MOut} {f : Fail} (h : (x.seq y).fail ≠ some f) : x.fail ≠ some f := by
  intro hx; apply h; simp [MOut.seq, hx]

theorem seq_fail_right {x : MOut} {y : Unit → MOut} {f : Fail} (h : (x.seq y).fail ≠ some f) (hx : x.fail = none) :
    (y ()).fail ≠ some f := by
  intro hy; apply h; simp [MOut.seq, hx, hy]

theorem seq_of_fail {x : MOut} {y : Unit → MOut} {e : Fail} (h : x.fail = some e) : x.seq y = ⟨x.toks, some e⟩ := by
  cases x; simp only at h; subst h; rfl

theorem seq_of_ok {x : MOut} {y : Unit → MOut} (h : x.fail = none) :
    x.seq y = ⟨x.toks ++ (y ()).toks, (y ()).fail⟩ := by
  cases x; simp only at h; subst h; rfl

theorem seq_assoc (x : MOut) (y z : Unit → MOut) : (x.seq y).seq z = x.seq fun _ => (y ()).seq z := by
  cases hx : x.fail <;> cases hy : (y ()).fail <;> simp [MOut.seq, hx, hy]

theorem seq_tok (t : Tok) (r : MOut) : ((MOut.ok [t]).seq fun _ => r) = ⟨t :: r.toks, r.fail⟩ := rfl

variable (ts a trs) in
/-- The Steps of one machine `c` (row `lo.length`) from the rows `lo ++ row :: hi` on, each taken while the driver is in
    `⟨st, some cur, be⟩` (`cur` is `c`, or a wrapper around it), with the tokens that they and the children in between
    emit, and the outcome.  A Step that `Recurse`s into a child leaves the driver elsewhere; what the driver does until
    `c` is stepped again is kept as `Emits` (`trip`), or ends with the child's failure (`tripErr`).  The `Bool` says
    whether the first Step may be such a trip; after Reset it never is, which is what lets a transform machine rewrite
    the row after it.  `mk`, `vm`: see `Mask`. -/
inductive Steps (c cur : MRef) (st : List MRef) (be : Option XFail) (lo : List Row) (mk vm : Mask) (Q : Row → Prop) :
    Bool → Row → List Row → List Tok → Option Fail → Prop
  | fin {fr row hi t row' hi' n} :
      stepM ts a trs n c ⟨lo ++ row :: hi, st, some cur, be⟩ = .ok ⟨t, true, ⟨lo ++ row' :: hi', st, some cur, be⟩⟩ →
      agreeW mk row row' → Q row' → Clean (row' :: hi') → Steps c cur st be lo mk vm Q fr row hi [t] none
  | err {fr row hi e n} :
      stepM ts a trs n c ⟨lo ++ row :: hi, st, some cur, be⟩ = .error (.f e) →
      Steps c cur st be lo mk vm Q fr row hi [] (some e)
  | tok {fr row hi t rowA hiA toks fl n} :
      stepM ts a trs n c ⟨lo ++ row :: hi, st, some cur, be⟩ = .ok ⟨t, false, ⟨lo ++ rowA :: hiA, st, some cur, be⟩⟩ →
      agreeW mk row rowA →
      (∀ w, Steps c cur st be lo mk vm Q true (setWm vm w rowA) hiA toks fl) →
      Steps c cur st be lo mk vm Q fr row hi (t :: toks) fl
  | trip {row hi t rowA hiA stA curA mid rowM hiM toks fl n} :
      stepM ts a trs n c ⟨lo ++ row :: hi, st, some cur, be⟩ = .ok ⟨t, false, ⟨lo ++ rowA :: hiA, stA, curA, be⟩⟩ →
      agreeW mk row rowA →
      Emits ts a trs ⟨lo ++ rowA :: hiA, stA, curA, be⟩ mid ⟨lo ++ rowM :: hiM, st, some cur, be⟩ →
      agreeW mk row rowM →
      (∀ w, Steps c cur st be lo mk vm Q true (setWm vm w rowM) hiM toks fl) →
      Steps c cur st be lo mk vm Q true row hi (t :: (mid ++ toks)) fl
  | tripErr {row hi t rowA hiA stA curA mid smid e n} :
      stepM ts a trs n c ⟨lo ++ row :: hi, st, some cur, be⟩ = .ok ⟨t, false, ⟨lo ++ rowA :: hiA, stA, curA, be⟩⟩ →
      agreeW mk row rowA →
      Emits ts a trs ⟨lo ++ rowA :: hiA, stA, curA, be⟩ mid smid → DS ts a trs smid (.error (.f e)) →
      Steps c cur st be lo mk vm Q true row hi (t :: mid) (some e)

variable (ts a trs) in
/-- The simulation statement for one machine of kind `k`, configured in `row`, Reset with (`rt`, `v`); `r` is the
    functional result, `Q` what the callers need of the configuration, again after the last Step.  It is stated for
    ANY rows `lo` of length `L` below the machine's: for one fixed `lo` it would be too weak, since a union machine
    whose member sits in a row above its own lies in the member's `lo`, and it is stepped, so its row changes, between
    the member's Reset and the member's first Step (`sim_union_tip`).  `hne`: a failure before any token is a failed
    Reset (`bad`), so after a Reset that succeeds the first Step emits a token; `child_trip` needs that, a `Recurse`
    being the child's Reset and its first Step in one Step of the parent, and the first clause of `unionOut` makes the
    same split (`unionOut_eq`). -/
inductive Sim (mk vm : Mask) (Q : Row → Prop) (L : Nat) (row : Row) (hi : List Row) (k : MK) (rt : Nat) (v : Val)
    (r : MOut) : Prop
  | bad {e} (hr : r = .bad e) (n : Nat)
      (h : ∀ lo : List Row, lo.length = L → resetM ts a trs n ⟨L, k⟩ rt v (lo ++ row :: hi) = .error (.f e))
  | run (hne : ¬ (r.toks = [] ∧ r.fail ≠ none)) (n : Nat) (row1 : Row) (hi1 : List Row)
      (hr : ∀ lo : List Row, lo.length = L → resetM ts a trs n ⟨L, k⟩ rt v (lo ++ row :: hi) = .ok (lo ++ row1 :: hi1))
      (hag : agreeW mk row row1) (hq : Q row1) (hcl : Clean (row1 :: hi1))
      (hrun : ∀ lo : List Row, lo.length = L → ∀ w cur st be,
        Steps ts a trs ⟨L, k⟩ cur st be lo mk vm Q false (setWm vm w row1) hi1 r.toks r.fail)

theorem Steps.mono {Q Q' : Row → Prop} (hQ : ∀ r, Q r → Q' r) {c cur : MRef} {st be lo mk vm fr row hi toks fl}
    (h : Steps ts a trs c cur st be lo mk vm Q fr row hi toks fl) :
    Steps ts a trs c cur st be lo mk vm Q' fr row hi toks fl := by
  induction h with
  | fin hs hag hq hcl => exact .fin hs hag (hQ _ hq) hcl
  | err hs => exact .err hs
  | tok hs hag _ ih => exact .tok hs hag ih
  | trip hs hagA hmid hagM _ ih => exact .trip hs hagA hmid hagM ih
  | tripErr hs hag hmid hd => exact .tripErr hs hag hmid hd

theorem Sim.mono {Q Q' : Row → Prop} (hQ : ∀ r, Q r → Q' r) {mk vm : Mask} {L row hi k rt v r}
    (h : Sim ts a trs mk vm Q L row hi k rt v r) : Sim ts a trs mk vm Q' L row hi k rt v r := by
  rcases h with ⟨hr, n, h⟩ | ⟨hne, n, row1, hi1, hr, hag, hq, hcl, hrun⟩
  · exact .bad hr n h
  · exact .run hne n row1 hi1 hr hag (hQ _ hq) hcl fun lo hl w cur st be => (hrun lo hl w cur st be).mono hQ

theorem Steps.unchanged {c cur : MRef} {st be lo mk vm} {Q : Row → Prop} {fr row hi toks fl}
    (h : ∀ w, Steps ts a trs c cur st be lo mk vm Q fr (setWm vm w row) hi toks fl) :
    Steps ts a trs c cur st be lo mk vm Q fr row hi toks fl := by
  have := h (getW row)
  rwa [setWm_self] at this

theorem Steps.weaken {c cur : MRef} {st be lo mk vm} {Q : Row → Prop} {row hi toks fl}
    (h : Steps ts a trs c cur st be lo mk vm Q false row hi toks fl) :
    Steps ts a trs c cur st be lo mk vm Q true row hi toks fl := by
  cases h with
  | fin h1 h2 h3 h4 => exact .fin h1 h2 h3 h4
  | err h1 => exact .err h1
  | tok h1 h2 h3 => exact .tok h1 h2 h3

/-- the Step that reports done stays at machine level (`CS`), since what the driver makes of it depends on the stack -/
theorem Steps.drun {c : MRef} {st be lo mk vm} {Q : Row → Prop} {fr row hi toks fl}
    (h : Steps ts a trs c c st be lo mk vm Q fr row hi toks fl) :
    (fl = none → ∃ init last smid row' hi', toks = init ++ [last] ∧
      Emits ts a trs ⟨lo ++ row :: hi, st, some c, be⟩ init smid ∧
      CS ts a trs smid (.ok ⟨last, true, ⟨lo ++ row' :: hi', st, some c, be⟩⟩) ∧ Q row' ∧ Clean (row' :: hi')) ∧
    (∀ e, fl = some e → ∃ smid, Emits ts a trs ⟨lo ++ row :: hi, st, some c, be⟩ toks smid ∧
      DS ts a trs smid (.error (.f e))) := by
  induction h with
  | fin hs _ hq hcl =>
    exact ⟨fun _ => ⟨[], _, _, _, _, rfl, .nil, .of_step hs NS.ok, hq, hcl⟩, fun e h => by cases h⟩
  | err hs =>
    refine ⟨fun h => (by cases h), fun e h => ?_⟩
    cases h
    exact ⟨_, .nil, (CS.of_step hs NS.f).toDS⟩
  | @tok _ row hi t rowA hiA toks fl n hs _ _ ih =>
    have h1 : DS ts a trs ⟨lo ++ row :: hi, st, some c, be⟩ (.ok ⟨t, false, ⟨lo ++ rowA :: hiA, st, some c, be⟩⟩) :=
      (CS.of_step hs NS.ok).toDS
    have ih := ih (getW rowA)
    rw [setWm_self] at ih
    refine ⟨fun hf => ?_, fun e hf => ?_⟩
    · obtain ⟨init, last, smid, row', hi', e1, e2, e3⟩ := ih.1 hf
      exact ⟨t :: init, last, smid, row', hi', by rw [e1]; rfl, .cons h1 e2, e3⟩
    · obtain ⟨smid, e2, e3⟩ := ih.2 e hf
      exact ⟨smid, .cons h1 e2, e3⟩
  | @trip row hi t rowA hiA stA curA mid rowM hiM toks fl n hs _ hmid _ _ ih =>
    have h1 : DS ts a trs ⟨lo ++ row :: hi, st, some c, be⟩ (.ok ⟨t, false, ⟨lo ++ rowA :: hiA, stA, curA, be⟩⟩) :=
      (CS.of_step hs NS.ok).toDS
    have ih := ih (getW rowM)
    rw [setWm_self] at ih
    refine ⟨fun hf => ?_, fun e hf => ?_⟩
    · obtain ⟨init, last, smid, row', hi', e1, e2, e3⟩ := ih.1 hf
      exact ⟨t :: (mid ++ init), last, smid, row', hi', by rw [e1]; simp, .cons h1 (hmid.append e2), e3⟩
    · obtain ⟨smid, e2, e3⟩ := ih.2 e hf
      exact ⟨smid, .cons h1 (hmid.append e2), e3⟩
  | tripErr hs _ hmid hd =>
    refine ⟨fun h => (by cases h), fun e h => ?_⟩
    cases h
    exact ⟨_, .cons (CS.of_step hs NS.ok).toDS hmid, hd⟩

/-- How a wrapper machine (rows `lo`) sees the rows of its delegate (rows `loD`): `E r hiD rW hiW` says that the
    delegate's row `r` with the rows `hiD` above it are, seen from the wrapper, its own row `rW` with `hiW` above it.
    The delegate lives in the wrapper's row (`Same`) or in one of its own further up (`Above`). -/
structure Embed (E : Row → List Row → Row → List Row → Prop) (lo loD : List Row) (mk mkD vm vmD : Mask) : Prop where
  rows : ∀ {r hiD rW hiW}, E r hiD rW hiW → loD ++ r :: hiD = lo ++ rW :: hiW
  next : ∀ {r hiD rW hiW r'} (hiD'), E r hiD rW hiW → agreeW mkD r r' →
    ∃ rW' hiW', E r' hiD' rW' hiW' ∧ agreeW mk rW rW'
  outside : ∀ {r hiD rW hiW} (w), E r hiD rW hiW → ∃ w', E (setWm vmD w' r) hiD (setWm vm w rW) hiW

structure Same (I : Row → Prop) (r : Row) (hiD : List Row) (rW : Row) (hiW : List Row) : Prop where
  row : r = rW
  up : hiD = hiW
  inv : I r

structure Above (wrow : Row) (hi0 : List Row) (r : Row) (hiD : List Row) (rW : Row) (hiW : List Row) : Prop where
  row : wrow = rW
  up : hiW = hi0 ++ r :: hiD

theorem Embed.same {I : Row → Prop} {lo : List Row} {mk mkD vm vmD : Mask} (hmk : mk.le mkD) (hvm : vm.le vmD)
    (hI : ∀ {r r'}, I r → agreeW mkD r r' → I r') (hIvm : ∀ {r} (w), I r → I (setWm vm w r)) :
    Embed (Same I) lo lo mk mkD vm vmD where
  rows := by
    rintro r h _ _ ⟨rfl, rfl, _⟩
    rfl
  next := by
    rintro r h _ _ r' h' ⟨rfl, rfl, hi⟩ hag
    exact ⟨_, _, ⟨rfl, rfl, hI hi hag⟩, hag.of_le hmk⟩
  outside := by
    rintro r h _ _ w ⟨rfl, rfl, hi⟩
    exact ⟨getW (setWm vm w r), by rw [setWm_widen hvm]; exact ⟨rfl, rfl, hIvm w hi⟩⟩

theorem Embed.above (wrow : Row) (hi0 lo : List Row) (mk mkD vmD : Mask) :
    Embed (Above wrow hi0) lo (lo ++ wrow :: hi0) mk mkD FFF vmD where
  rows := by
    rintro r h _ _ ⟨rfl, rfl⟩
    rw [RowL.reassoc]
  next := by
    rintro r h _ _ r' h' ⟨rfl, rfl⟩ _
    exact ⟨_, _, ⟨rfl, rfl⟩, agreeW.refl _ _⟩
  outside := by
    rintro r h _ _ w ⟨rfl, rfl⟩
    exact ⟨getW r, by rw [setWm_self, setWm_FFF]; exact ⟨rfl, rfl⟩⟩

/-- `hok`, `herr`, `hfin` say what the wrapper's Step is on the rows as the delegate sees them, since the rows a Step
    leaves have a name on the wrapper's side only after `Embed.next`; `ktoks`: tokens of the wrapper's own after the
    delegate's last Step. -/
theorem Steps.wrap {W D cur : MRef} {st be} {lo loD : List Row} {mk mkD vm vmD : Mask} {Q QD : Row → Prop}
    {E : Row → List Row → Row → List Row → Prop} (hemb : Embed E lo loD mk mkD vm vmD) (ktoks : List Tok)
    (hok : ∀ {r hiD rW hiW n t r2 hi2 st2 cur2}, E r hiD rW hiW → agreeW mkD r r2 →
      stepM ts a trs n D ⟨loD ++ r :: hiD, st, some cur, be⟩ = .ok ⟨t, false, ⟨loD ++ r2 :: hi2, st2, cur2, be⟩⟩ →
      ∃ n', stepM ts a trs n' W ⟨loD ++ r :: hiD, st, some cur, be⟩ =
        .ok ⟨t, false, ⟨loD ++ r2 :: hi2, st2, cur2, be⟩⟩)
    (herr : ∀ {r hiD rW hiW n e}, E r hiD rW hiW →
      stepM ts a trs n D ⟨loD ++ r :: hiD, st, some cur, be⟩ = .error (.f e) →
      ∃ n', stepM ts a trs n' W ⟨loD ++ r :: hiD, st, some cur, be⟩ = .error (.f e))
    (hfin : ∀ {fr r hiD rW hiW n t r' hiD'}, E r hiD rW hiW → agreeW mkD r r' →
      stepM ts a trs n D ⟨loD ++ r :: hiD, st, some cur, be⟩ = .ok ⟨t, true, ⟨loD ++ r' :: hiD', st, some cur, be⟩⟩ →
      QD r' → Clean (r' :: hiD') → Steps ts a trs W cur st be lo mk vm Q fr rW hiW (t :: ktoks) none)
    {fr row hi toks fl} (h : Steps ts a trs D cur st be loD mkD vmD QD fr row hi toks fl) {rW hiW}
    (h0 : E row hi rW hiW) {toks'} (htoks : toks' = toks ++ (if fl = none then ktoks else [])) :
    Steps ts a trs W cur st be lo mk vm Q fr rW hiW toks' fl := by
  subst htoks
  induction h generalizing rW hiW with
  | fin hs hag hq hcl =>
    exact hfin h0 hag hs hq hcl
  | err hs =>
    obtain ⟨n', h'⟩ := herr h0 hs
    rw [hemb.rows h0] at h'
    exact .err h'
  | @tok _ row hi t rowA hiA toks fl n hs hagA _ ih =>
    obtain ⟨n', h'⟩ := hok h0 hagA hs
    obtain ⟨rW', hW', hE', hag'⟩ := hemb.next hiA h0 hagA
    rw [hemb.rows h0, hemb.rows hE'] at h'
    refine .tok h' hag' fun w => ?_
    obtain ⟨w', hEw⟩ := hemb.outside w hE'
    exact ih w' hEw
  | @trip row hi t rowA hiA stA curA mid rowM hiM toks fl n hs hagA hmid hagM _ ih =>
    obtain ⟨n', h'⟩ := hok h0 hagA hs
    obtain ⟨rWA, hWA, hEA, hagA'⟩ := hemb.next hiA h0 hagA
    obtain ⟨rWM, hWM, hEM, hagM'⟩ := hemb.next hiM h0 hagM
    rw [hemb.rows h0, hemb.rows hEA] at h'
    rw [hemb.rows hEA, hemb.rows hEM] at hmid
    rw [List.cons_append, List.append_assoc]
    refine .trip h' hagA' hmid hagM' fun w => ?_
    obtain ⟨w', hEw⟩ := hemb.outside w hEM
    exact ih w' hEw
  | @tripErr row hi t rowA hiA stA curA mid smid e n hs hagA hmid hd =>
    obtain ⟨n', h'⟩ := hok h0 hagA hs
    obtain ⟨rWA, hWA, hEA, hagA'⟩ := hemb.next hiA h0 hagA
    rw [hemb.rows h0, hemb.rows hEA] at h'
    rw [hemb.rows hEA] at hmid
    simp only [reduceCtorEq, ↓reduceIte, List.append_nil]
    exact .tripErr h' hagA' hmid hd

theorem Steps.pass {W D cur : MRef} {st be} {lo loD : List Row} {mk mkD vm vmD : Mask} {Q QD : Row → Prop}
    {E : Row → List Row → Row → List Row → Prop} (hemb : Embed E lo loD mk mkD vm vmD)
    (hok : ∀ {r hiD rW hiW n t dn r2 hi2 st2 cur2}, E r hiD rW hiW → agreeW mkD r r2 →
      stepM ts a trs n D ⟨loD ++ r :: hiD, st, some cur, be⟩ = .ok ⟨t, dn, ⟨loD ++ r2 :: hi2, st2, cur2, be⟩⟩ →
      ∃ n', stepM ts a trs n' W ⟨loD ++ r :: hiD, st, some cur, be⟩ =
        .ok ⟨t, dn, ⟨loD ++ r2 :: hi2, st2, cur2, be⟩⟩)
    (herr : ∀ {r hiD rW hiW n e}, E r hiD rW hiW →
      stepM ts a trs n D ⟨loD ++ r :: hiD, st, some cur, be⟩ = .error (.f e) →
      ∃ n', stepM ts a trs n' W ⟨loD ++ r :: hiD, st, some cur, be⟩ = .error (.f e))
    (hQ : ∀ {r hiD rW hiW}, E r hiD rW hiW → QD r → Clean (r :: hiD) → Q rW ∧ Clean (rW :: hiW))
    {fr row hi toks fl} (h : Steps ts a trs D cur st be loD mkD vmD QD fr row hi toks fl) {rW hiW} (h0 : E row hi rW hiW) :
    Steps ts a trs W cur st be lo mk vm Q fr rW hiW toks fl := by
  refine h.wrap hemb [] hok herr (fun {fr r hr rW hW n t r' h'} hE hag hs hq hcl => ?_) h0 (by rw [ite_self, List.append_nil])
  obtain ⟨n', hs'⟩ := hok hE hag hs
  obtain ⟨rW', hW', hE', hag'⟩ := hemb.next h' hE hag
  rw [hemb.rows hE, hemb.rows hE'] at hs'
  exact .fin hs' hag' (hQ hE' hq hcl).1 (hQ hE' hq hcl).2

theorem child_trip {mkd vmd : Mask} {Qd : Row → Prop} {L lo_d drow dhi kd rt x r st cur be}
    (hsim : Sim ts a trs mkd vmd Qd L drow dhi kd rt x r) (hL : lo_d.length = L) :
    (∃ e n, r = .bad e ∧ recurse ts a trs n ⟨lo_d ++ drow :: dhi, st, some cur, be⟩ x rt ⟨L, kd⟩ = .error (.f e)) ∨
    (∃ n t rest rowA hiA stA curA, r.toks = t :: rest ∧
      recurse ts a trs n ⟨lo_d ++ drow :: dhi, st, some cur, be⟩ x rt ⟨L, kd⟩ =
        .ok ⟨t, false, ⟨lo_d ++ rowA :: hiA, stA, curA, be⟩⟩ ∧
      ((r.fail = none ∧ ∃ drow2 dhi2, Emits ts a trs ⟨lo_d ++ rowA :: hiA, stA, curA, be⟩ rest
          ⟨lo_d ++ drow2 :: dhi2, st, some cur, be⟩ ∧ Qd drow2 ∧ Clean (drow2 :: dhi2)) ∨
       (∃ e smid, r.fail = some e ∧ Emits ts a trs ⟨lo_d ++ rowA :: hiA, stA, curA, be⟩ rest smid ∧
          DS ts a trs smid (.error (.f e))))) := by
  rcases hsim with ⟨rfl, n0, hr⟩ | ⟨hne, n0, row1, hi1, hr, _, _, _, hrun⟩
  · exact .inl ⟨_, n0 + 1, rfl, recurse_resetfail (s' := ⟨lo_d ++ drow :: dhi, st, some cur, be⟩) rfl (hr lo_d hL)⟩
  · right
    -- the child is the current machine while it runs, the parent on top of the stack
    have h := Steps.unchanged fun w => hrun lo_d hL w ⟨L, kd⟩ (cur :: st) be
    generalize hT : r.toks = toks at h
    generalize hF : r.fail = fl at h
    cases h with
    | fin hs _ hq hcl =>
      obtain ⟨n, hn⟩ := recurse_of_step (hr lo_d hL) hs
      exact ⟨n, _, [], _, _, _, _, rfl, hn, .inl ⟨rfl, _, _, .nil, hq, hcl⟩⟩
    | err hs => exact absurd ⟨hT, by rw [hF]; simp⟩ hne
    | @tok _ _ _ t rowA hiA toks' _ n hs _ hrest =>
      obtain ⟨n, hn⟩ := recurse_of_step (hr lo_d hL) hs
      refine ⟨n, t, toks', rowA, hiA, _, _, rfl, hn, ?_⟩
      -- its last Step pops the parent
      have hd := (Steps.unchanged hrest).drun
      cases fl with
      | none =>
        obtain ⟨init, last, smid, row', hi', rfl, e2, e3, hq, hc⟩ := hd.1 rfl
        exact .inl ⟨rfl, row', hi', e2.append (.one e3.toDS), hq, hc⟩
      | some e =>
        obtain ⟨smid, e2, e3⟩ := hd.2 e rfl
        exact .inr ⟨e, smid, rfl, e2, e3⟩

theorem Steps.child {mk vm mkd vmd : Mask} {Q Qd : Row → Prop} {lo : List Row} {c cur : MRef} {prow prow' : Row}
    {hiP hi0 : List Row} {drow : Row} {dhi : List Row} {kd rt x st be} {r1 r2 : MOut}
    (hsim : Sim ts a trs mkd vmd Qd (lo.length + 1 + hi0.length) drow dhi kd rt x r1)
    (hag : agreeW mk prow prow')
    (hstep : ∀ n res, recurse ts a trs n ⟨lo ++ prow' :: (hi0 ++ drow :: dhi), st, some cur, be⟩ x rt
        ⟨lo.length + 1 + hi0.length, kd⟩ = res →
      NS res → ∃ n', stepM ts a trs n' c ⟨lo ++ prow :: hiP, st, some cur, be⟩ = res)
    (hnext : r1.fail = none → ∀ w drow2 dhi2, Qd drow2 → Clean (drow2 :: dhi2) →
      Steps ts a trs c cur st be lo mk vm Q true (setWm vm w prow') (hi0 ++ drow2 :: dhi2) r2.toks r2.fail) :
    Steps ts a trs c cur st be lo mk vm Q true prow hiP (r1.seq fun _ => r2).toks (r1.seq fun _ => r2).fail := by
  rcases child_trip (st := st) (cur := cur) (be := be) hsim (RowL.len_at lo prow' hi0) with
    ⟨e, n, rfl, hn⟩ | ⟨n, t, rest, rowA, hiA, stA, curA, htoks, hrec, hseg⟩
  · simp only [RowL.reassoc] at hn
    obtain ⟨n', h'⟩ := hstep n _ hn NS.f
    exact .err h'
  · simp only [RowL.reassoc] at hrec
    obtain ⟨n', h'⟩ := hstep n _ hrec NS.ok
    rcases hseg with ⟨hf, drow2, dhi2, he, hq, hc⟩ | ⟨e, smid, hf, he, hd⟩
    · rw [seq_of_ok (x := r1) hf, htoks, List.cons_append]
      simp only [RowL.reassoc] at he
      exact .trip h' hag he hag (fun w => hnext hf w drow2 dhi2 hq hc)
    · rw [seq_of_fail (x := r1) hf, htoks]
      simp only [RowL.reassoc] at he
      exact .tripErr h' hag he hd

end Refmt.MachL
