/-
  Trees returned by the CBOR reference parser `Spec.Cbor.parse`.  Their scalar nodes hold scalar bodies, never an
  open / close token (`SB`; any input).  On input made of bytes their leaves are within the wire ranges: unsigned
  integers below 2^64, negative integers at least -2^63, float bit patterns below 2^64 (half and single precision
  are widened exactly), strings made of bytes (`LB`).  Both are instances of `parse_induction`.  (`SB` is in namespace
  `PumpL`, with the transcoding properties that use it; `LB` in `CborLeaves`.)
-/
import RefmtProofs.Lemmas.HalfTable
import RefmtProofs.Lemmas.Heads
import RefmtProofs.Lemmas.CborParse
namespace Refmt.PumpL
open Refmt Refmt.Spec.Cbor Refmt.C04

mutual
  def SB : TV → Bool
    | .scalar t => t.body.isScalar
    | .arr _ _ items => SBl items
    | .map _ _ es => SBe es
  def SBl : List TV → Bool
    | [] => true
    | v :: vs => SB v && SBl vs
  def SBe : List (TV × TV) → Bool
    | [] => true
    | (k, v) :: es => SB k && SB v && SBe es
end

theorem headOf_scalar (coerce : Bool) (bs : Bytes) (b : Body) (r : Bytes)
    (hh : headOf coerce bs = some (.scalar b r)) : b.isScalar = true := by
  cases headOf_isHead hh <;> rfl

theorem parseItem_SB (coerce : Bool) : ∀ f bs tag v r, parseItem coerce f bs tag = some (v, r) → SB v = true := by
  refine parse_induction coerce (PN := fun _ _ _ vs _ => SBl vs = true) (PE := fun _ _ _ es _ => SBe es = true)
    (PU := fun _ _ _ vs _ => SBl vs = true) (PEU := fun _ _ _ es _ => SBe es = true)
    ?scalar ?arrI ?mapI ?arrD ?mapD ?tagged ?nilN ?consN ?nilE ?consE ?nilU ?consU ?nilEU ?consEU
  case scalar => intro _ bs _ b r hh; exact headOf_scalar coerce bs b r hh
  case arrI | mapI | arrD | mapD => intro _ _ _ _ _ _ _ _ h; simpa only [SB] using h
  case tagged => intro _ _ _ _ _ _ _ _ h; exact h
  case nilN | nilE | nilU | nilEU => intros; rfl
  case consN | consU => intro _ _ _ _ _ _ _ _ h1 h2; simp only [SBl, h1, h2, Bool.and_self]
  case consE | consEU => intro _ _ _ _ _ _ _ _ _ _ _ h1 h2 h3; simp only [SBe, h1, h2, h3, Bool.and_self]

theorem parse_SB (coerce : Bool) (bs : Bytes) (v : TV) (rest : Bytes)
    (h : Spec.Cbor.parse coerce bs = some (v, rest)) : SB v = true :=
  parseItem_SB coerce _ _ _ _ _ h

end Refmt.PumpL

namespace Refmt.CborLeaves
open Refmt Refmt.Spec.Cbor Refmt.C04 Refmt.PumpL

theorem f32to64_lt (x : Nat) : f32to64 x < two64 := by
  -- in each case a sign bit, an exponent field below `2^11` and a fraction below `2^52`
  obtain ⟨s, e, m, hs, he, hm, hx⟩ := HalfTable.f32to64_fields x
  unfold two64
  by_cases e255 : e = 255
  · rw [hx, e255, HalfTable.f32to64_special s m hs hm]
    unfold pow2_63 pow2_52
    split <;> omega
  by_cases e0 : e = 0
  · rw [e0, Nat.zero_mul, Nat.add_zero] at hx
    by_cases m0 : m = 0
    · rw [hx, m0, Nat.add_zero, HalfTable.f32to64_zero s hs]
      unfold pow2_63
      omega
    · -- subnormals: the exponent field is at most `22 + 874`
      have hk : m.log2 < 23 := (Nat.log2_lt m0).2 hm
      have hfr := HalfTable.subnormal_frac_lt m (by omega)
      rw [hx, HalfTable.f32to64_subnormal s m hs m0 hm]
      unfold pow2_63 pow2_52
      omega
  · rw [hx, HalfTable.f32to64_normal s e m hs (by omega) (by omega) hm]
    unfold pow2_63 pow2_52
    omega

theorem beTake_lt (r : Bytes) (hr : PumpL.B256 r) (n : Nat) (hl : r.length ≥ n) : beVal (r.take n) < 256 ^ n := by
  have := C02L.beVal_lt (r.take n) (hr.take n)
  have h2 : (r.take n).length = n := by simp; omega
  rw [h2] at this
  exact this

theorem half_lt (h : Nat) : halfToF64 h < two64 :=
  HalfTable.half_exact_all h ▸ f32to64_lt _

theorem be8_lt (r : Bytes) (hr : PumpL.B256 r) (hl : r.length ≥ 8) : beVal (r.take 8) < two64 := by
  simpa [two64] using beTake_lt r hr 8 hl

theorem arg_lt (ai : Nat) (bs : Bytes) (hb : PumpL.B256 bs) (n : Nat) (r : Bytes) (h : arg ai bs = some (n, r)) :
    n < two64 := by
  unfold two64
  cases arg_isArg h with
  | imm ai bs hi => omega
  | one b t => have := hb.head; omega
  | be ai k bs hk hl =>
    have := beTake_lt bs hb k hl
    rcases be_width hk with ⟨-, rfl⟩ | ⟨-, rfl⟩ | ⟨-, rfl⟩ <;> omega

theorem chunks_B256 (major : Nat) : ∀ (f : Nat) (bs acc s r : Bytes), PumpL.B256 bs → PumpL.B256 acc →
    chunks major f bs acc = some (s, r) → PumpL.B256 s
  | 0, _, _, _, _, _, _, h | _+1, [], _, _, _, _, _, h => by cases h
  | f+1, b :: t, acc, s, r, hb, hacc, h => by
    rcases (chunks_succ ..).1 h with ⟨_, rfl, _⟩ | ⟨_, _, n, r', ha, _, h'⟩
    · exact hacc
    · have hr' : PumpL.B256 r' := hb.tail.rest (arg_rest _ _ _ _ ha)
      exact chunks_B256 major f _ _ _ _ (hr'.drop n) (hacc.append (hr'.take n)) h'

def leafOk : Body → Bool
  | .uint n => decide (n < two64)
  | .int i => decide (-(two63 : Int) ≤ i) && decide (i < (two63 : Int))
  | .float x => decide (x < two64)
  | .str s => s.all (· < 256)
  | .bytes s => s.all (· < 256)
  | .null => true
  | .bool _ => true
  | _ => false

mutual
  def LB : TV → Bool
    | .scalar t => leafOk t.body
    | .arr _ _ items => LBl items
    | .map _ _ es => LBe es
  def LBl : List TV → Bool
    | [] => true
    | v :: vs => LB v && LBl vs
  def LBe : List (TV × TV) → Bool
    | [] => true
    | (k, v) :: es => LB k && LB v && LBe es
end

theorem headOf_leaf (coerce : Bool) (bs : Bytes) (hbs : PumpL.B256 bs) (b : Body) (r : Bytes)
    (hh : headOf coerce bs = some (.scalar b r)) : leafOk b = true := by
  cases headOf_isHead hh with
  | false r | true r | null r | undef r => rfl
  | f16 r hl => exact decide_eq_true (half_lt _)
  | f32 r hl => exact decide_eq_true (f32to64_lt _)
  | f64 r hl => exact decide_eq_true (be8_lt r hbs.tail hl)
  | bytesI r s r' hc | strI r s r' hc => exact all_of_B256 (chunks_B256 _ _ _ _ _ _ hbs.tail PumpL.B256.nil hc)
  | uint x r n r' _ ha => exact decide_eq_true (arg_lt _ _ hbs.tail _ _ ha)
  | nint x r n r' _ ha hn =>
    simp only [leafOk, Bool.and_eq_true, decide_eq_true_eq]
    unfold two63 at hn ⊢
    omega
  | bytes x r n r' _ ha | str x r n r' _ ha =>
    exact all_of_B256 ((hbs.tail.rest (arg_rest _ _ _ _ ha)).take n)

theorem parseItem_LB (coerce : Bool) : ∀ f bs tag v r, parseItem coerce f bs tag = some (v, r) →
    PumpL.B256 bs → LB v = true := by
  refine parse_induction coerce
    (PN := fun _ _ bs vs _ => PumpL.B256 bs → LBl vs = true)
    (PE := fun _ _ bs es _ => PumpL.B256 bs → LBe es = true)
    (PU := fun _ _ bs vs _ => PumpL.B256 bs → LBl vs = true)
    (PEU := fun _ _ bs es _ => PumpL.B256 bs → LBe es = true)
    ?scalar ?arrI ?mapI ?arrD ?mapD ?tagged ?nilN ?consN ?nilE ?consE ?nilU ?consU ?nilEU ?consEU
  case scalar => intro _ bs _ b r hh hb; exact headOf_leaf coerce bs hb b r hh
  case arrI | mapI | arrD | mapD => intro _ bs _ _ r0 _ _ hh h hb; simpa only [LB] using h (hb.headOf hh)
  case tagged => intro _ bs _ r0 _ _ hh _ h hb; exact h (hb.headOf hh)
  case nilN | nilE | nilU | nilEU => intros; rfl
  case consN | consU =>
    intro _ _ _ _ _ _ _ hi h1 h2 hb; simp only [LBl, h1 hb, h2 (hb.parseItem hi), Bool.and_self]
  case consE | consEU =>
    intro _ _ _ _ _ _ _ _ _ hi hi2 h1 h2 h3 hb
    simp only [LBe, h1 hb, h2 (hb.parseItem hi), h3 ((hb.parseItem hi).parseItem hi2), Bool.and_self]

theorem parse_LB (coerce : Bool) (bs : Bytes) (v : TV) (rest : Bytes) (hb : ∀ x ∈ bs, x < 256)
    (h : Spec.Cbor.parse coerce bs = some (v, rest)) : LB v = true :=
  parseItem_LB coerce _ _ _ _ _ h hb

end Refmt.CborLeaves
