/-
  The JSON encoder's run on a tree whose leaves it accepts (`EOk`: scalars the encoder writes, string keys): the
  tokens of the tree in value position take the machine from `vS` to `vE` and write the tree's text `txtV`.
  What the decoder accepts (`DOk`) the encoder accepts.
-/
import RefmtProofs.Lemmas.JsonParseL
namespace Refmt.C12L
open Refmt Refmt.JsonEnc Refmt.C03L

mutual
  def EOk : TV → Bool
    | .scalar t => encOk t.body
    | .arr _ _ items => EOkL items
    | .map _ _ es => EOkE es
  def EOkL : List TV → Bool
    | [] => true
    | v :: vs => EOk v && EOkL vs
  def EOkE : List (TV × TV) → Bool
    | [] => true
    | (k, v) :: es =>
      (match k with | .scalar t => (match t.body with | .str _ => true | _ => false) | _ => false) && EOk v && EOkE es
end

mutual
  theorem eencV (c : Cfg) : ∀ (v : TV), EOk v = true → ∀ (inArr : Bool) (r : List Phase) (sm : Bool),
      Runs c (vS inArr r sm) v.flatten (vPre c inArr r sm ++ txtV c (r.length + 1) v) (vE inArr r)
    | .scalar t, h, inArr, r, sm => by
      have := step_scalar c inArr r sm t (by simpa [EOk] using h)
      simpa [TV.flatten, txtV] using this
    | .arr tag len items, h, inArr, r, sm => by
      have h1 := step_open c true inArr r sm len tag
      have h2 := eencL c items (by simpa [EOk] using h) (topPh inArr :: r) false
      have h3 := step_close c true (topPh inArr) r (false || !items.isEmpty)
      have := (h1.append h2).append h3
      simpa [TV.flatten, txtV, vE, openBody, closeBody, openB, closeB, topPh] using this
    | .map tag len es, h, inArr, r, sm => by
      have h1 := step_open c false inArr r sm len tag
      have h2 := eencE c es (by simpa [EOk] using h) (topPh inArr :: r) false
      have h3 := step_close c false (topPh inArr) r (false || !es.isEmpty)
      have := (h1.append h2).append h3
      simpa [TV.flatten, txtV, vE, openBody, closeBody, openB, closeB, topPh] using this
  theorem eencL (c : Cfg) : ∀ (vs : List TV), EOkL vs = true → ∀ (r : List Phase) (sm : Bool),
      Runs c ⟨.arr :: r, .arr, sm⟩ (TV.flattenList vs) (txtL c (r.length + 1) sm vs) ⟨.arr :: r, .arr, sm || !vs.isEmpty⟩
    | [], _, r, sm => by simpa [TV.flattenList, txtL] using Runs.nil c _
    | v :: vs, h, r, sm => by
      simp only [EOkL, Bool.and_eq_true] at h
      have h1 := eencV c v h.1 true r sm
      have h2 := eencL c vs h.2 r true
      have := h1.append h2
      simpa [TV.flattenList, txtL, vS, vE, vPre, topPh] using this
  theorem eencE (c : Cfg) : ∀ (es : List (TV × TV)), EOkE es = true → ∀ (r : List Phase) (sm : Bool),
      Runs c ⟨.mapKey :: r, .mapKey, sm⟩ (TV.flattenEntries es) (txtE c (r.length + 1) sm es)
        ⟨.mapKey :: r, .mapKey, sm || !es.isEmpty⟩
    | [], _, r, sm => by simpa [TV.flattenEntries, txtE] using Runs.nil c _
    | (k, v) :: es, h, r, sm => by
      simp only [EOkE, Bool.and_eq_true] at h
      obtain ⟨⟨hk, hv⟩, hes⟩ := h
      obtain ⟨s, tag, rfl⟩ := key_form (p := fun _ => true) hk
      have h1 := step_key c r sm s tag
      have h2 := eencV c v hv false r true
      have h3 := eencE c es hes r true
      have := (h1.append h2).append h3
      simpa [TV.flattenEntries, TV.flatten, txtE, keyTxt, scalarTxt, vS, vE, vPre, topPh] using this
end

mutual
  theorem eok_of_dok : ∀ (v : TV), DOk v = true → EOk v = true
    | .scalar t, h => by simp only [DOk] at h; simpa [EOk] using decOk_encOk h
    | .arr _ _ items, h => by simp only [DOk] at h; simpa [EOk] using eokL_of_dok items h
    | .map _ _ es, h => by simp only [DOk] at h; simpa [EOk] using eokE_of_dok es h
  theorem eokL_of_dok : ∀ (vs : List TV), DOkL vs = true → EOkL vs = true
    | [], _ => rfl
    | v :: vs, h => by
      simp only [DOkL, Bool.and_eq_true] at h
      simp only [EOkL, Bool.and_eq_true]
      exact ⟨eok_of_dok v h.1, eokL_of_dok vs h.2⟩
  theorem eokE_of_dok : ∀ (es : List (TV × TV)), DOkE es = true → EOkE es = true
    | [], _ => rfl
    | (k, v) :: es, h => by
      simp only [DOkE, Bool.and_eq_true] at h
      simp only [EOkE, Bool.and_eq_true]
      exact ⟨⟨h.1.1, eok_of_dok v h.1.2⟩, eokE_of_dok es h.2⟩
end

end Refmt.C12L
