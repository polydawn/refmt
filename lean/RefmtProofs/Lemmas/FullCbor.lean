-- the token-level (CBOR) round trip on `fullTy`: the instance of the induction `rt_full` where the tokens arrive as
-- written (see RefmtProofs/Props/C13Full.lean)
import RefmtProofs.Lemmas.FullStep
namespace Refmt.Obj
open Refmt Refmt.C13 Refmt.C11 Refmt.C12

variable {ts : Types} {a : Atlas} {trs : Trs} {it : IfaceTys}

theorem wildTok_cbor {dt : Nat} {dv : Val} {tok : Tok} (hp : primTok ts dt dv = ⟨[tok], none⟩) (hb : tok.body ≠ .null) :
    tok.tag = none ∧ slotScalar it tok.body = some (wildScalar .pretty it dt dv) := by
  obtain ⟨b, htok, hc⟩ := ObjL.primTok_cases hp
  cases htok
  cases hc with
  | nilBytes => exact absurd rfl hb                -- a nil `[]byte` is written as null
  | _ => exact ⟨rfl, rfl⟩

theorem wire_cbor : Wire ts a trs it .pretty (fun _ => True) id (rtF ts a trs it) (rtFB ts a trs it)
    (fullVal ts a trs it) (fullValB ts a trs it) where
  toRtSpec := rtSpec_cbor
  null_iff := fun _ => Iff.rfl
  arrClose_iff := fun _ => Iff.rfl
  mapClose_iff := fun _ => Iff.rfl
  arrOpen := fun l _ => ⟨l, rfl⟩
  mapOpen := fun _ _ => Or.inl rfl
  str := fun _ _ => rfl
  body_tag := fun _ _ _ => rfl
  untagged := fun _ => rfl
  keepsTag := fun _ _ => rfl
  fieldNames := fun _ _ _ _ _ _ _ _ => trivial
  memberNames := fun _ _ _ _ _ _ _ _ => trivial
  prim := fun h id v toks g hv _ hm => by
    rw [rtFB_prim]
    exact prim_tok_rt ts h id v toks hv hm
  wildTok := fun _ _ _ _ _ _ _ _ _ hp hb => wildTok_cbor hp hb

theorem rt_cbor (he : UEnv ts a it) (hz : ZeroStable ts) (htr : TrsEqv trs) {f : Nat} (hf : f ≤ 1000) {p h id g : Nat} {v : Val}
    {toks : List Tok} (hp64 : p ≤ 64) (hp : fullTy ts a p id = true) (hv : hasTy ts h id v = true) (hg : f ≤ g)
    (hs : fullVal ts a trs it g id v = true) (hm : MRun.Writes ts a trs f (.v id v) toks) :
    Reads ts a trs it (f+1) (.v id (zeroVal ts 64 id)) toks (rtF ts a trs it g id v) := by
  simpa using rt_full wire_cbor he hz htr f hf p h id v g hp64 hp hv hg hs toks hm

theorem rt_cbor_bare (he : UEnv ts a it) (hz : ZeroStable ts) (htr : TrsEqv trs) {f : Nat} (hf : f ≤ 1000) {p h id g : Nat} {v : Val}
    {toks : List Tok} (hp64 : p + 1 ≤ 64) (hp : fullTy ts a (p + 1) id = true) (hnp : ∀ e, ts.get id ≠ .ptr e)
    (hv : hasTy ts h id v = true) (hg : f ≤ g) (hs : fullValB ts a trs it g id (pickBare ts a id) v = true)
    (hm : MRun.Writes ts a trs f (.bare id (pickBare ts a id) v) toks) :
    Reads ts a trs it (f+1) (.bare id (upickBare ts a id) (zeroVal ts 64 id)) toks (rtFB ts a trs it g id (pickBare ts a id) v) := by
  simpa using full_bare wire_cbor hf he hz htr (fun f' _ => rt_full wire_cbor he hz htr f' (by omega)) p h id v g hp64 hp hnp hv hg
    hs toks hm

end Refmt.Obj
