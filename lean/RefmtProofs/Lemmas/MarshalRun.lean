/-
  The successful runs of the functional marshaller as one inductive relation: `Writes f job toks` holds exactly when
  the function for `job` returns `⟨toks, none⟩` on fuel `f` (`writes_iff`), so that a property of successful runs is
  one rule induction: more fuel does no harm (`Writes.mono`); what is written is a lone null or starts with a token
  that is neither null nor a close token (`Writes.headSpec`), and with the tag of a tagged entry (`Writes.tag_first`).
-/
import RefmtProofs.Lemmas.MarshalMachFun
open Refmt Refmt.Obj Refmt.Obj.MM Refmt.ObjL

namespace Refmt.MRun

def retag (tag : Option Int) (toks : List Tok) : List Tok := (retagFirst tag ⟨toks, none⟩).toks

theorem retagFirst_ok (tag : Option Int) (toks : List Tok) (fl : Option Fail) :
    retagFirst tag ⟨toks, fl⟩ = ⟨retag tag toks, fl⟩ := by
  cases tag <;> cases toks <;> rfl

theorem retag_some_flatten (g : Int) (tv : TV) : retag (some g) tv.flatten = (setTag g tv).flatten := by
  cases tv <;> simp [retag, retagFirst, setTag, TV.flatten]

def nullTok : Tok := ⟨.null, none⟩

inductive Writes (ts : Types) (a : Atlas) (trs : Trs) : Nat → Job → List Tok → Prop
  | v_direct {f id base v toks} : peel ts 64 0 id = (0, base) → Writes ts a trs f (.bare base (pickBare ts a base) v) toks →
      Writes ts a trs (f+1) (.v id v) toks
  | v_nil {f id n base v} : peel ts 64 0 id = (n+1, base) → derefN (n+1) v = none → Writes ts a trs (f+1) (.v id v) [nullTok]
  | v_deref {f id n base v inner toks} : peel ts 64 0 id = (n+1, base) → derefN (n+1) v = some inner →
      Writes ts a trs f (.bare base (pickBare ts a base) inner) toks → Writes ts a trs (f+1) (.v id v) toks
  | prim {f id v toks} : primTok ts id v = ⟨toks, none⟩ → Writes ts a trs (f+1) (.bare id .prim v) toks
  | wildNil {f id} : Writes ts a trs (f+1) (.bare id .wildcard (.iface none)) [nullTok]
  | wild {f id dt dv toks} : Writes ts a trs f (.v dt dv) toks → Writes ts a trs (f+1) (.bare id .wildcard (.iface (some (dt, dv)))) toks
  | sliceNil {f id e} : Writes ts a trs (f+1) (.bare id (.slice e) (.slice none)) [nullTok]
  | slice {f id e es toks} : Writes ts a trs f (.list e es) toks →
      Writes ts a trs (f+1) (.bare id (.slice e) (.slice (some es))) (⟨.arrOpen es.length, none⟩ :: (toks ++ [⟨.arrClose, none⟩]))
  | array {f id e es toks} : Writes ts a trs f (.list e es) toks →
      Writes ts a trs (f+1) (.bare id (.array e) (.arr es)) (⟨.arrOpen es.length, none⟩ :: (toks ++ [⟨.arrClose, none⟩]))
  | mapNil {f id kt vt mode kf} : keyFnOf ts a kt = some kf → Writes ts a trs (f+1) (.bare id (.map kt vt mode) (.map none)) [nullTok]
  | map {f id kt vt mode kf es kvs toks} : keyFnOf ts a kt = some kf → stringify trs kf es = some kvs →
      Writes ts a trs f (.entries vt (sortKeys mode kvs)) toks →
      Writes ts a trs (f+1) (.bare id (.map kt vt mode) (.map (some es))) (⟨.mapOpen es.length, none⟩ :: (toks ++ [⟨.mapClose, none⟩]))
  | struct {f id e fields v toks} : Writes ts a trs f (.fields (fields.filter (emittable v)) v) toks →
      Writes ts a trs (f+1) (.bare id (.structMap e fields) v)
        (⟨.mapOpen (fields.filter (emittable v)).length, e.tag⟩ :: (toks ++ [⟨.mapClose, none⟩]))
  | transform {f id e fn mty v tv toks} : trs.m fn v = some tv → Writes ts a trs f (.v mty tv) toks →
      Writes ts a trs (f+1) (.bare id (.transform e fn mty) v) (retag e.tag toks)
  | union {f id e ms dt dv name idx me toks} :
      ms.find? (fun x => (a.pool[x.2]?.map (·.ty)) == some dt) = some (name, idx) → a.pool[idx]? = some me →
      Writes ts a trs f (.bare dt (machForEntry ts me) dv) toks →
      Writes ts a trs (f+1) (.bare id (.union e ms) (.iface (some (dt, dv))))
        (⟨.mapOpen 1, none⟩ :: ⟨.str name, none⟩ :: (toks ++ [⟨.mapClose, none⟩]))
  | listNil {f e} : Writes ts a trs (f+1) (.list e []) []
  | listCons {f e x xs t1 t2} : Writes ts a trs f (.v e x) t1 → Writes ts a trs f (.list e xs) t2 →
      Writes ts a trs (f+1) (.list e (x :: xs)) (t1 ++ t2)
  | entriesNil {f vt} : Writes ts a trs (f+1) (.entries vt []) []
  | entriesCons {f vt k x rest t1 t2} : Writes ts a trs f (.v vt x) t1 → Writes ts a trs f (.entries vt rest) t2 →
      Writes ts a trs (f+1) (.entries vt ((k, x) :: rest)) (⟨.str k, none⟩ :: (t1 ++ t2))
  | fieldsNil {f v} : Writes ts a trs (f+1) (.fields [] v) []
  | fieldsCons {f fe rest v fv t1 t2} : traverse fe.route v = some fv → Writes ts a trs f (.v fe.ty fv) t1 →
      Writes ts a trs f (.fields rest v) t2 → Writes ts a trs (f+1) (.fields (fe :: rest) v) (⟨.str fe.name, none⟩ :: (t1 ++ t2))

variable {ts : Types} {a : Atlas} {trs : Trs}

theorem Writes.fuel_pos {f : Nat} {job : Job} {toks : List Tok} (h : Writes ts a trs f job toks) : ∃ f', f = f' + 1 := by
  cases h <;> exact ⟨_, rfl⟩

theorem Writes.succ {f : Nat} {job : Job} {toks : List Tok} (h : Writes ts a trs f job toks) : Writes ts a trs (f+1) job toks := by
  induction h with
  | v_direct hp _ ih => exact .v_direct hp ih
  | v_nil hp hd => exact .v_nil hp hd
  | v_deref hp hd _ ih => exact .v_deref hp hd ih
  | prim h => exact .prim h
  | wildNil => exact .wildNil
  | wild _ ih => exact .wild ih
  | sliceNil => exact .sliceNil
  | slice _ ih => exact .slice ih
  | array _ ih => exact .array ih
  | mapNil hkf => exact .mapNil hkf
  | map hkf hkvs _ ih => exact .map hkf hkvs ih
  | struct _ ih => exact .struct ih
  | transform htv _ ih => exact .transform htv ih
  | union hfind hme _ ih => exact .union hfind hme ih
  | listNil => exact .listNil
  | listCons _ _ ih1 ih2 => exact .listCons ih1 ih2
  | entriesNil => exact .entriesNil
  | entriesCons _ _ ih1 ih2 => exact .entriesCons ih1 ih2
  | fieldsNil => exact .fieldsNil
  | fieldsCons hfv _ _ ih1 ih2 => exact .fieldsCons hfv ih1 ih2

theorem Writes.mono {f f' : Nat} {job : Job} {toks : List Tok} (h : Writes ts a trs f job toks) (hle : f ≤ f') :
    Writes ts a trs f' job toks := by
  induction hle with
  | refl => exact h
  | step _ ih => exact ih.succ

theorem of_out {f : Nat} : ∀ {job : Job} {toks : List Tok}, job.out ts a trs f = ⟨toks, none⟩ → Writes ts a trs f job toks := by
  induction f with
  | zero =>
    intro job toks h
    rw [Job.out_zero] at h
    exact absurd h bad_ne
  | succ f ih =>
    intro job toks h
    cases job with
    | v id v =>
      simp only [Job.out, MachL.marshalV_succ] at h
      cases hp : peel ts 64 0 id with
      | mk n base =>
        rw [hp] at h
        cases n with
        | zero => exact .v_direct hp (ih h)
        | succ n =>
          cases hd : derefN (n+1) v with
          | none => rw [hd] at h; cases ok_inv h; exact .v_nil hp hd
          | some inner => rw [hd] at h; exact .v_deref hp hd (ih h)
    | bare id m v =>
      simp only [Job.out] at h
      cases m with
      | prim => rw [MachL.marshalBare_prim] at h; exact .prim h
      | errThunk => rw [MachL.marshalBare_errThunk] at h; exact absurd h bad_ne
      | panic => rw [MachL.marshalBare_panic] at h; exact absurd h bad_ne
      | wildcard =>
        rw [MachL.marshalBare_wild] at h
        split at h
        · cases ok_inv h; exact .wildNil
        · exact .wild (ih h)
        · exact absurd h bad_ne
      | slice e =>
        rw [MachL.marshalBare_slice] at h
        split at h
        · cases ok_inv h; exact .sliceNil
        · obtain ⟨t1, h1, rfl⟩ := bracket_ok_iff.1 h
          exact .slice (ih h1)
        · exact absurd h bad_ne
      | array e =>
        rw [MachL.marshalBare_array] at h
        split at h
        · obtain ⟨t1, h1, rfl⟩ := bracket_ok_iff.1 h
          exact .array (ih h1)
        · exact absurd h bad_ne
      | map kt vt mode =>
        rw [MachL.marshalBare_map] at h
        split at h
        · exact absurd h bad_ne
        · next kf es hkf =>
          split at h
          · exact absurd h bad_ne
          · next kvs hkvs =>
            cases es with
            | none => cases ok_inv h; exact .mapNil hkf
            | some l =>
              obtain ⟨t1, h1, rfl⟩ := bracket_ok_iff.1 h
              exact .map hkf hkvs (ih h1)
        · exact absurd h bad_ne
      | structMap e fields =>
        rw [MachL.marshalBare_struct] at h
        obtain ⟨t1, h1, rfl⟩ := bracket_ok_iff.1 h
        exact .struct (ih h1)
      | transform e fn mty =>
        rw [MachL.marshalBare_transform] at h
        split at h
        · exact absurd h bad_ne
        · next tv htv =>
          cases hr : marshalV ts a trs f mty tv with
          | mk rt rf =>
            rw [hr, retagFirst_ok] at h
            cases h
            exact .transform htv (ih (job := .v mty tv) hr)
      | union e ms =>
        rw [MachL.marshalBare_union_out] at h
        split at h
        · exact absurd h bad_ne
        · split at h
          · exact absurd h bad_ne
          · next hfind =>
            split at h
            · exact absurd h bad_ne
            · next hme =>
              obtain ⟨t1, h1, rfl⟩ := MachL.unionOut_ok_iff.1 h
              exact .union hfind hme (ih h1)
        · exact absurd h bad_ne
    | list e vs =>
      simp only [Job.out] at h
      cases vs with
      | nil => rw [MachL.marshalList_nil] at h; cases ok_inv h; exact .listNil
      | cons x xs =>
        rw [MachL.marshalList_cons] at h
        obtain ⟨t1, t2, h1, h2, rfl⟩ := seq_ok_iff.1 h
        exact .listCons (ih h1) (ih h2)
    | entries vt kvs =>
      simp only [Job.out] at h
      cases kvs with
      | nil => rw [MachL.marshalEntries_nil] at h; cases ok_inv h; exact .entriesNil
      | cons kx rest =>
        rw [MachL.marshalEntries_cons] at h
        obtain ⟨t1, t2, h1, h2, rfl⟩ := ok_seq_seq_iff.1 h
        exact .entriesCons (t1 := t1) (ih h1) (ih h2)
    | fields fs v =>
      simp only [Job.out] at h
      cases fs with
      | nil => rw [MachL.marshalFields_nil] at h; cases ok_inv h; exact .fieldsNil
      | cons fe rest =>
        rw [MachL.marshalFields_cons] at h
        split at h
        · exact absurd h bad_ne
        · next fv hfv =>
          obtain ⟨t1, t2, h1, h2, rfl⟩ := ok_seq_seq_iff.1 h
          exact .fieldsCons (t1 := t1) hfv (ih h1) (ih h2)

theorem Writes.out {f : Nat} {job : Job} {toks : List Tok} (h : Writes ts a trs f job toks) : job.out ts a trs f = ⟨toks, none⟩ := by
  induction h with
  | v_direct hp _ ih => simpa [Job.out, MachL.marshalV_succ, hp] using ih
  | v_nil hp hd => simp [Job.out, MachL.marshalV_succ, hp, hd, MOut.ok, nullTok]
  | v_deref hp hd _ ih => simpa [Job.out, MachL.marshalV_succ, hp, hd] using ih
  | prim h => simpa [Job.out, MachL.marshalBare_prim] using h
  | wildNil => simp [Job.out, MachL.marshalBare_wild, MOut.ok, nullTok]
  | wild _ ih => simpa [Job.out, MachL.marshalBare_wild] using ih
  | sliceNil => simp [Job.out, MachL.marshalBare_slice, MOut.ok, nullTok]
  | slice _ ih => rw [Job.out, MachL.marshalBare_slice]; exact bracket_ok_iff.2 ⟨_, ih, rfl⟩
  | array _ ih => rw [Job.out, MachL.marshalBare_array]; exact bracket_ok_iff.2 ⟨_, ih, rfl⟩
  | mapNil hkf => simp [Job.out, MachL.marshalBare_map, hkf, stringify_nil, MOut.ok, nullTok]
  | map hkf hkvs _ ih =>
    simp only [Job.out, MachL.marshalBare_map, hkf, Option.getD_some, hkvs, Option.isNone_some, Bool.false_eq_true, if_false]
    exact bracket_ok_iff.2 ⟨_, ih, rfl⟩
  | struct _ ih => rw [Job.out, MachL.marshalBare_struct]; exact bracket_ok_iff.2 ⟨_, ih, rfl⟩
  | transform htv _ ih => simp only [Job.out] at ih; simp [Job.out, MachL.marshalBare_transform, htv, ih, retagFirst_ok]
  | union hfind hme _ ih =>
    simp only [Job.out, MachL.marshalBare_union_out, hfind, hme]
    exact MachL.unionOut_ok_iff.2 ⟨_, ih, rfl⟩
  | listNil => simp [Job.out, MachL.marshalList_nil, MOut.ok]
  | listCons _ _ ih1 ih2 => rw [Job.out, MachL.marshalList_cons]; exact seq_ok_iff.2 ⟨_, _, ih1, ih2, rfl⟩
  | entriesNil => simp [Job.out, MachL.marshalEntries_nil, MOut.ok]
  | entriesCons _ _ ih1 ih2 => rw [Job.out, MachL.marshalEntries_cons]; exact ok_seq_seq_iff.2 ⟨_, _, ih1, ih2, rfl⟩
  | fieldsNil => simp [Job.out, MachL.marshalFields_nil, MOut.ok]
  | fieldsCons hfv _ _ ih1 ih2 =>
    simp only [Job.out, MachL.marshalFields_cons, hfv]
    exact ok_seq_seq_iff.2 ⟨_, _, ih1, ih2, rfl⟩

theorem writes_iff {f : Nat} {job : Job} {toks : List Tok} : job.out ts a trs f = ⟨toks, none⟩ ↔ Writes ts a trs f job toks :=
  ⟨of_out, Writes.out⟩

theorem writes_v_nonptr {id : Nat} (hnp : ∀ e, ts.get id ≠ .ptr e) {f v toks} :
    Writes ts a trs (f+1) (.v id v) toks ↔ Writes ts a trs f (.bare id (pickBare ts a id) v) toks := by
  have hpeel := ObjL.peel_nonptr ts 64 0 id hnp
  constructor
  · intro h
    cases h with
    | v_direct hp hb => rw [hpeel] at hp; cases hp; exact hb
    | v_nil hp | v_deref hp => rw [hpeel] at hp; cases hp
  · exact .v_direct hpeel

theorem Writes.v_of_bare {id : Nat} {m : Mach} (hnp : ∀ e, ts.get id ≠ .ptr e) (hpk : pickBare ts a id = m)
    {f v toks} (h : Writes ts a trs f (.bare id m v) toks) : Writes ts a trs (f+1) (.v id v) toks :=
  (writes_v_nonptr hnp).2 (hpk ▸ h)

theorem Writes.v_nonptr {f id : Nat} {v : Val} {toks : List Tok} (hnp : ∀ e, ts.get id ≠ .ptr e)
    (h : Writes ts a trs f (.v id v) toks) :
    ∃ f', f = f' + 1 ∧ Writes ts a trs f' (.bare id (pickBare ts a id) v) toks := by
  obtain ⟨f', rfl⟩ := h.fuel_pos
  exact ⟨f', rfl, (writes_v_nonptr hnp).1 h⟩

theorem Writes.list_items {e : Nat} {vs : List Val} : ∀ {f : Nat} {toks : List Tok},
    Writes ts a trs f (.list e vs) toks →
    ∃ items : List (Val × List Tok), items.map (·.1) = vs ∧ toks = items.flatMap (·.2) ∧ items.length + 1 ≤ f ∧
      ∀ i (h : i < items.length), ∃ g, g + i + 1 = f ∧ Writes ts a trs g (.v e items[i].1) items[i].2 := by
  induction vs with
  | nil => intro f toks hm; cases hm; exact ⟨[], rfl, rfl, Nat.le_add_left _ _, nofun⟩
  | cons x xs ih =>
    intro f toks hm
    cases hm with
    | @listCons f _ _ _ tx txs h1 h2 =>
      obtain ⟨items, rfl, rfl, hf, hit⟩ := ih h2
      refine ⟨(x, tx) :: items, rfl, rfl, Nat.succ_le_succ hf, fun i h => ?_⟩
      cases i with
      | zero => exact ⟨f, rfl, h1⟩
      | succ i =>
        obtain ⟨g, hg, hw⟩ := hit i (Nat.lt_of_succ_lt_succ h)
        exact ⟨g, congrArg Nat.succ hg, hw⟩

theorem Writes.entries_items {vt : Nat} {kvs : List (Bytes × Val)} : ∀ {f : Nat} {toks : List Tok},
    Writes ts a trs f (.entries vt kvs) toks →
    ∃ items : List ((Bytes × Val) × List Tok), items.map (·.1) = kvs ∧
      toks = items.flatMap (fun p => ⟨.str p.1.1, none⟩ :: p.2) ∧ items.length + 1 ≤ f ∧
      ∀ i (h : i < items.length), ∃ g, g + i + 1 = f ∧ Writes ts a trs g (.v vt items[i].1.2) items[i].2 := by
  induction kvs with
  | nil => intro f toks hm; cases hm; exact ⟨[], rfl, rfl, Nat.le_add_left _ _, nofun⟩
  | cons q qs ih =>
    intro f toks hm
    cases hm with
    | @entriesCons f _ s x _ tx txs h1 h2 =>
      obtain ⟨items, rfl, rfl, hf, hit⟩ := ih h2
      refine ⟨((s, x), tx) :: items, rfl, rfl, Nat.succ_le_succ hf, fun i h => ?_⟩
      cases i with
      | zero => exact ⟨f, rfl, h1⟩
      | succ i =>
        obtain ⟨g, hg, hw⟩ := hit i (Nat.lt_of_succ_lt_succ h)
        exact ⟨g, congrArg Nat.succ hg, hw⟩

end Refmt.MRun

namespace Refmt.Obj
open Refmt
variable {ts : Types} {a : Atlas} {trs : Trs}

/-- the shape of what a value is written as: this is what lets a reader of the stream tell a nil from a value and a
    value from the end of its container by one token -/
def HeadSpec (toks : List Tok) : Prop :=
  (∃ tg, toks = [⟨.null, tg⟩]) ∨ (∃ t r, toks = t :: r ∧ t.body ≠ .null ∧ t.body ≠ .arrClose ∧ t.body ≠ .mapClose)

theorem HeadSpec.head {toks : List Tok} (h : HeadSpec toks) : ∃ t r, toks = t :: r := by
  rcases h with ⟨tg, rfl⟩ | ⟨t, r, rfl, -⟩ <;> exact ⟨_, _, rfl⟩

theorem HeadSpec.retag {toks : List Tok} (h : HeadSpec toks) (tag : Option Int) : HeadSpec (MRun.retag tag toks) := by
  cases tag with
  | none => exact h
  | some g =>
    rcases h with ⟨tg, rfl⟩ | ⟨t, r, rfl, h1, h2, h3⟩
    · exact Or.inl ⟨some g, rfl⟩
    · exact Or.inr ⟨_, r, rfl, h1, h2, h3⟩

theorem _root_.Refmt.MRun.Writes.headSpec {f : Nat} {job : MRun.Job} {toks : List Tok} (h : MRun.Writes ts a trs f job toks) :
    match job with
    | .v .. | .bare .. => HeadSpec toks
    | _ => True := by
  induction h with
  | v_direct _ _ ih | v_deref _ _ _ ih | wild _ ih => exact ih
  | v_nil | wildNil | sliceNil | mapNil => exact Or.inl ⟨none, rfl⟩
  | prim hp =>
    obtain ⟨b, rfl, hs, -⟩ := ObjL.primTok_inv hp
    by_cases hb : b = .null
    · exact Or.inl ⟨none, by rw [hb]⟩
    · refine Or.inr ⟨_, [], rfl, hb, ?_, ?_⟩ <;> rintro (rfl : b = _) <;> cases hs
  | slice | array | map | struct | union => exact Or.inr ⟨_, _, rfl, by simp, by simp, by simp⟩
  | transform _ _ ih => exact ih.retag _
  | listNil | listCons | entriesNil | entriesCons | fieldsNil | fieldsCons => trivial

theorem _root_.Refmt.MRun.Writes.tag_first {f id : Nat} {e : Entry} {tg : Int} {m : Mach} {v : Val} {t : Tok} {r : List Tok}
    (hm : MRun.Writes ts a trs f (.bare id m v) (t :: r))
    (hpk : (∃ fs, m = .structMap e fs) ∨ ∃ fn mty, m = .transform e fn mty) (htag : e.tag = some tg) : t.tag = some tg := by
  generalize hto : t :: r = toks at hm
  rcases hpk with ⟨fs, rfl⟩ | ⟨fn, mty, rfl⟩
  · cases hm with
    | struct => cases hto; exact htag
  · cases hm with
    | transform =>
      rw [htag] at hto
      exact ObjL.retagFirst_head hto.symm

end Refmt.Obj
