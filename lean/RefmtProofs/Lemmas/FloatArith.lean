/-
  Arithmetic of `FloatText.roundRat` / `FloatText.parseDecimal`: the binary exponent `roundRat` chooses is
  `⌊log₂ (num/den)⌋`, and between its two size guards `parseDecimal` is `roundRat`.

  Rationals `X * β^e` with an integer exponent are handled sign-free throughout: `X * β^e ≤ Y` is stated as
  `X * β^a ≤ Y * β^b` for naturals with `a - b = e`; all such statements are equivalent (`scale_le`).
-/
import RefmtModel.Base.FloatText
-- Trap: with this import the `2 ^ A` in the statement of `roundRat_spec` (FloatRound) elaborates through `Monoid.toNPow` of
-- `Nat.instMonoid`, without it through `instPowNat`: the proofs need nothing of it, the statement is another term.
import Mathlib.Algebra.Group.Nat.Defs
namespace Refmt.FloatL
open Refmt Refmt.FloatText

theorem mul_pow_add (X β a c : Nat) : X * β ^ (a + c) = X * β ^ a * β ^ c := by
  rw [Nat.pow_add, Nat.mul_assoc]

theorem scale_le (β X Y a0 b0 a b : Nat) (hβ : 0 < β) (h : a0 + b = a + b0) (h0 : X * β ^ a0 ≤ Y * β ^ b0) :
    X * β ^ a ≤ Y * β ^ b := by
  have hp : 0 < β ^ b0 := Nat.pow_pos hβ
  apply Nat.le_of_mul_le_mul_right _ hp
  calc X * β ^ a * β ^ b0 = X * β ^ (a + b0) := (mul_pow_add X β a b0).symm
    _ = X * β ^ (a0 + b) := by rw [h]
    _ = X * β ^ a0 * β ^ b := mul_pow_add X β a0 b
    _ ≤ Y * β ^ b0 * β ^ b := Nat.mul_le_mul_right _ h0
    _ = Y * β ^ b * β ^ b0 := Nat.mul_right_comm Y _ _

theorem scale_lt (β X Y a0 b0 a b : Nat) (hβ : 0 < β) (h : a0 + b = a + b0) (h0 : X * β ^ a0 < Y * β ^ b0) :
    X * β ^ a < Y * β ^ b :=
  Nat.lt_of_not_le fun hc => Nat.not_le_of_lt h0 (scale_le β Y X b a b0 a0 hβ (by omega) hc)

theorem scale_both (β X Y a0 b0 a b : Nat) (hβ : 0 < β) (h : a0 + b = a + b0) (p : Prop)
    (h0 : X * β ^ a0 ≤ Y * β ^ b0 ∧ (p → X * β ^ a0 < Y * β ^ b0)) :
    X * β ^ a ≤ Y * β ^ b ∧ (p → X * β ^ a < Y * β ^ b) :=
  ⟨scale_le β X Y a0 b0 a b hβ h h0.1, fun hp => scale_lt β X Y a0 b0 a b hβ h (h0.2 hp)⟩

/-! The model writes `X * β^s`, `s` an integer, as a numerator and a denominator chosen by the sign of `s`.
Both have a closed form, since `s.toNat = 0` for negative `s`; with it no proof needs to split on the sign. -/

theorem ite_mul_pow (X β : Nat) (s : Int) : (if s ≥ 0 then X * β ^ s.toNat else X) = X * β ^ s.toNat := by
  split
  · rfl
  · rw [show s.toNat = 0 by omega, Nat.pow_zero, Nat.mul_one]

theorem ite_mul_pow_neg (X β : Nat) (s : Int) : (if s ≥ 0 then X else X * β ^ (-s).toNat) = X * β ^ (-s).toNat := by
  split
  · rw [show (-s).toNat = 0 by omega, Nat.pow_zero, Nat.mul_one]
  · rfl

theorem ite_pow (β : Nat) (s : Int) : (if s ≥ 0 then β ^ s.toNat else 1) = β ^ s.toNat := by
  split
  · rfl
  · rw [show s.toNat = 0 by omega, Nat.pow_zero]

theorem ite_pow_neg (β : Nat) (s : Int) : (if s ≥ 0 then 1 else β ^ (-s).toNat) = β ^ (-s).toNat := by
  split
  · rw [show (-s).toNat = 0 by omega, Nat.pow_zero]
  · rfl

theorem bitLen_pos {n : Nat} (h : n ≠ 0) : 1 ≤ bitLen n := by
  simp [bitLen, h]

theorem bitLen_lower {n : Nat} (h : n ≠ 0) : 2 ^ (bitLen n - 1) ≤ n := by
  simp only [bitLen, h, if_false, Nat.add_sub_cancel]
  exact Nat.log2_self_le h

theorem bitLen_upper (n : Nat) : n < 2 ^ bitLen n := by
  by_cases h : n = 0
  · simp [bitLen, h]
  · simp only [bitLen, h, if_false]
    exact Nat.lt_log2_self

theorem bitLen_le_of_lt (n t : Nat) (h : n < 2 ^ t) : bitLen n ≤ t := by
  by_cases h0 : n = 0
  · simp [bitLen, h0]
  · refine Decidable.byContradiction fun hc => ?_
    have h1 := bitLen_lower h0
    have : (2:Nat) ^ t ≤ 2 ^ (bitLen n - 1) := Nat.pow_le_pow_right (by decide) (by omega)
    omega

theorem bitLen_two_pow (B : Nat) : bitLen (2 ^ B) = B + 1 := by
  have : (2:Nat) ^ B ≠ 0 := Nat.pos_iff_ne_zero.1 (Nat.pow_pos (by decide))
  simp only [bitLen, this, if_false, Nat.log2_two_pow]

theorem geTest_iff (num den : Nat) (g : Int) :
    (if g ≥ 0 then decide (num ≥ den * 2 ^ g.toNat) else decide (num * 2 ^ (-g).toNat ≥ den)) = true ↔
      den * 2 ^ g.toNat ≤ num * 2 ^ (-g).toNat := by
  split
  · rw [show (-g).toNat = 0 by omega, Nat.pow_zero, Nat.mul_one, decide_eq_true_eq]
  · rw [show g.toNat = 0 by omega, Nat.pow_zero, Nat.mul_one, decide_eq_true_eq]

def expOf (num den : Nat) : Int :=
  let g : Int := (bitLen num : Int) - (bitLen den : Int)
  if den * 2 ^ g.toNat ≤ num * 2 ^ (-g).toNat then g else g - 1

/-- `2^e ≤ num/den`: by the test when it succeeds at `g`, and otherwise because
    `den < 2^|den|` and `2^(|num|-1) ≤ num` give `2^(g-1) ≤ num/den` -/
theorem expOf_lower (num den : Nat) (hn : num ≠ 0) (a b : Nat)
    (h : (a : Int) - b = expOf num den) : den * 2 ^ a ≤ num * 2 ^ b := by
  have n1 := bitLen_pos hn
  unfold expOf at h
  simp only at h
  split at h
  · rename_i hge
    exact scale_le 2 den num _ _ a b (by decide) (by omega) hge
  · refine scale_le 2 den num (bitLen num - 1) (bitLen den) a b (by decide) (by omega) ?_
    rw [Nat.mul_comm num]
    exact Nat.mul_le_mul (Nat.le_of_lt (bitLen_upper den)) (bitLen_lower hn)

/-- `num/den < 2^(e+1)`: by the test when it fails at `g`, and otherwise because `num < 2^|num|` and
    `2^(|den|-1) ≤ den` give `num/den < 2^(g+1)` -/
theorem expOf_upper (num den : Nat) (hd : den ≠ 0) (a b : Nat)
    (h : (a : Int) - b = expOf num den + 1) : num * 2 ^ b < den * 2 ^ a := by
  have d1 := bitLen_pos hd
  unfold expOf at h
  simp only at h
  split at h
  · refine scale_lt 2 num den (bitLen den - 1) (bitLen num) b a (by decide) (by omega) ?_
    rw [Nat.mul_comm den]
    exact Nat.mul_lt_mul_of_lt_of_le (bitLen_upper num) (bitLen_lower hd) (Nat.pos_of_ne_zero hd)
  · rename_i hge
    exact scale_lt 2 num den _ _ b a (by decide) (by omega) (Nat.lt_of_not_le hge)

/-- `expOf num den = ⌊log₂ (num/den)⌋` -/
theorem le_expOf_iff (num den : Nat) (hn : num ≠ 0) (hd : den ≠ 0) (a b : Nat) :
    (a : Int) - b ≤ expOf num den ↔ den * 2 ^ a ≤ num * 2 ^ b := by
  constructor
  · intro h
    have := expOf_lower num den hn (a + (expOf num den - ((a : Int) - b)).toNat) b (by omega)
    exact Nat.le_trans (Nat.mul_le_mul_left _ (Nat.pow_le_pow_right (by decide) (by omega))) this
  · intro h
    refine Decidable.byContradiction fun hc => ?_
    have := expOf_upper num den hd a (b + ((a : Int) - b - (expOf num den + 1)).toNat) (by omega)
    have : num * 2 ^ b ≤ num * 2 ^ (b + ((a : Int) - b - (expOf num den + 1)).toNat) :=
      Nat.mul_le_mul_left _ (Nat.pow_le_pow_right (by decide) (by omega))
    omega

theorem expOf_lt_iff (num den : Nat) (hn : num ≠ 0) (hd : den ≠ 0) (a b : Nat) :
    expOf num den < (a : Int) - b ↔ num * 2 ^ b < den * 2 ^ a := by
  rw [← Int.not_le, le_expOf_iff num den hn hd, Nat.not_le]

def roundCore (n2 d2 : Nat) : Nat :=
  if 2 * (n2 % d2) > d2 || (2 * (n2 % d2) == d2 && (n2 / d2) % 2 == 1) then n2 / d2 + 1 else n2 / d2

theorem roundRat_eq (num den : Nat) (hn : num ≠ 0) : roundRat num den =
    (let e := expOf num den
     let sh : Int := if e < -1022 then 1074 else 52 - e
     let q := roundCore (num * 2 ^ sh.toNat) (den * 2 ^ (-sh).toNat)
     let bits := if e < -1022 then q else ((e + 1022).toNat) * p52 + q
     if bits ≥ 0x7ff0000000000000 then (0x7ff0000000000000, true) else (bits, false)) := by
  unfold roundRat
  rw [if_neg hn]
  simp only [geTest_iff, ite_mul_pow, ite_mul_pow_neg]
  rfl

/-- biased exponent at most 2046 after a carry out of the significand: a finite bit pattern -/
theorem bits_finite (k q : Nat) (hk : k ≤ 2045) (hq : q ≤ 9007199254740992) (h : k = 2045 → q < 9007199254740992) :
    ¬ (k * p52 + q ≥ 0x7ff0000000000000) := by
  unfold p52
  omega

theorem two1024_lt : (2:Nat) ^ 1024 < 10 ^ 401 := by decide +kernel
theorem pow1076_lt : (2:Nat) ^ 1076 < 10 ^ 801 := by decide +kernel

theorem parseDecimal_eq (d : Nat) (e10 : Int) (hd : d ≠ 0) (h1 : e10 ≤ 400)
    (h2 : -e10 ≤ 800 + ((natDigits d).length : Int)) :
    parseDecimal d e10 = roundRat (d * 10 ^ e10.toNat) (10 ^ (-e10).toNat) := by
  unfold parseDecimal
  rw [if_neg hd]
  by_cases he : e10 ≥ 0
  · rw [if_pos he, if_neg (by omega), show (-e10).toNat = 0 by omega, Nat.pow_zero]
  · rw [if_neg he, if_neg (by omega), show e10.toNat = 0 by omega, Nat.pow_zero, Nat.mul_one]

theorem exp10_le_400 (d : Nat) (e10 : Int) (hd : d ≠ 0) (X : Nat) (hX : X < 10 ^ 401)
    (h : d * 10 ^ e10.toNat ≤ X * 10 ^ (-e10).toNat) : e10 ≤ 400 := by
  refine Decidable.byContradiction fun hc => ?_
  rw [show (-e10).toNat = 0 by omega, Nat.pow_zero, Nat.mul_one] at h
  have k1 : (10:Nat) ^ 401 ≤ 10 ^ e10.toNat := Nat.pow_le_pow_right (by decide) (by omega)
  have k2 : 10 ^ e10.toNat ≤ d * 10 ^ e10.toNat := Nat.le_mul_of_pos_left _ (Nat.pos_of_ne_zero hd)
  exact Nat.lt_irrefl _ (Nat.lt_of_le_of_lt (Nat.le_trans k1 k2) (Nat.lt_of_le_of_lt h hX))

theorem exp10_ge (d : Nat) (e10 : Int) (X : Nat) (hX : X < 10 ^ 801) (L : Nat) (hL : d < 10 ^ L)
    (h : 10 ^ (-e10).toNat ≤ d * 10 ^ e10.toNat * X) : -e10 ≤ 800 + (L : Int) := by
  refine Decidable.byContradiction fun hc => ?_
  rw [show e10.toNat = 0 by omega, Nat.pow_zero, Nat.mul_one] at h
  have k1 : (10:Nat) ^ (L + 801) ≤ 10 ^ (-e10).toNat := Nat.pow_le_pow_right (by decide) (by omega)
  have k2 : d * X < 10 ^ L * 10 ^ 801 := Nat.mul_lt_mul'' hL hX
  rw [← Nat.pow_add] at k2
  exact Nat.lt_irrefl _ (Nat.lt_of_le_of_lt (Nat.le_trans k1 h) k2)

end Refmt.FloatL
