-- The typing of values, `hasTy`, with what it says of a value at each kind of type (`hasTy_slice` .. `hasTy_float`), along
-- a chain of pointers (`chain_hasTy`), and of the token the scalar machine writes for a typed value (`prim_tok_rt`).
import RefmtProofs.Lemmas.ObjMarshal
import RefmtProofs.Lemmas.StorePrim
namespace Refmt.C13
open Refmt Refmt.Obj

/-- value `v` inhabits type `id` (fuel-bounded structural check) -/
def hasTy (ts : Types) : Nat → Nat → Val → Bool
  | 0, _, _ => false
  | fuel+1, id, v =>
    match ts.get id, v with
    | .prim .bool _, .bool _ => true
    | .prim .string _, .str _ => true
    | .prim .f64 _, .float b => b < two64
    | .prim .f32 _, .float b => b < two64 && FloatText.narrowF32 b == b
    | .prim k _, .int i => (match intRange k with | some (lo, hi) => lo ≤ i && i ≤ hi | none => false)
    | .prim k _, .uint n => (match intRange k, uintMax k with | none, some mx => n ≤ mx | _, _ => false)
    | .bytes _, .bytes _ => true
    | .byteArr n, .byteArr b => b.length == n
    | .slice _, .slice none => true
    | .slice e, .slice (some vs) => vs.all (hasTy ts fuel e)
    | .arr n e, .arr vs => vs.length == n && vs.all (hasTy ts fuel e)
    | .map _ _, .map none => true
    | .map k e, .map (some es) => es.all fun (x, y) => hasTy ts fuel k x && hasTy ts fuel e y
    | .ptr _, .ptr none => true
    | .ptr e, .ptr (some x) => hasTy ts fuel e x
    | .iface _, .iface none => true
    | .iface _, .iface (some (dt, x)) => hasTy ts fuel dt x
    | .struct fds, .struct vs => vs.length == fds.length && (fds.zip vs).all fun (f, x) => hasTy ts fuel f.ty x
    | _, _ => false

variable (ts : Types)

theorem chain_hasTy : ∀ (n id base h : Nat) (v : Val), chain ts n id base → hasTy ts h id v = true →
    derefN n v = none ∨ ∃ inner h', derefN n v = some inner ∧ hasTy ts h' base inner = true := by
  intro n
  induction n with
  | zero => intro id base h v hc hv; cases hc; exact Or.inr ⟨v, h, rfl, hv⟩
  | succ n ih =>
    intro id base h v hc hv
    obtain ⟨e, he, hc⟩ := hc
    cases h with
    | zero => cases hv
    | succ h =>
      unfold hasTy at hv
      rw [he] at hv
      cases v with
      | ptr o =>
        cases o with
        | none => exact Or.inl rfl
        | some x => exact ih e base h x hc hv
      | _ => cases hv

theorem chain_hasTy_some {n id base h : Nat} {v inner : Val} (hc : chain ts n id base) (hv : hasTy ts h id v = true)
    (hd : derefN n v = some inner) : ∃ h', hasTy ts h' base inner = true := by
  rcases chain_hasTy ts n id base h v hc hv with hn | ⟨_, h', hd', hvi⟩
  · rw [hn] at hd; cases hd
  · rw [hd'] at hd; cases hd; exact ⟨h', hvi⟩

theorem prim_tok_rt (h id : Nat) (v : Val) (toks : List Tok) (hv : hasTy ts h id v = true)
    (hm : primTok ts id v = ⟨toks, none⟩) :
    ∃ tok, toks = [tok] ∧ storePrim (ts.get id) tok = some v := by
  cases h with
  | zero => cases hv
  | succ h =>
    -- the 19 clauses of `hasTy`, in the order of the definition, are the table of (type, value) pairs
    unfold hasTy at hv
    split at hv
    case h_1 hty | h_2 hty | h_3 hty =>          -- (bool, bool), (string, str), (f64, float)
      cases hm; exact ⟨_, rfl, by rw [hty]; rfl⟩
    case h_4 hty =>                              -- (f32, float): the value is its own narrowing
      cases hm
      have hn := (Bool.and_eq_true _ _ ▸ hv).2
      exact ⟨_, rfl, by rw [hty]; show some (Val.float (FloatText.narrowF32 _)) = _; rw [beq_iff_eq.mp hn]⟩
    case h_5 k _ i hty =>                        -- (prim k, int): `k` has an `intRange` containing the value
      cases hm
      cases hr : intRange k with
      | none => simp [hr] at hv
      | some r => exact ⟨_, rfl, by rw [hty, storePrim_int_int hr]; simpa [hr] using hv⟩
    case h_6 k _ n hty =>                        -- (prim k, uint): no `intRange`, a `uintMax` above the value
      cases hm
      cases hr : intRange k with
      | some r => simp [hr] at hv
      | none =>
        cases hu : uintMax k with
        | none => simp [hr, hu] at hv
        | some mx =>
          exact ⟨_, rfl, by rw [hty, storePrim_uint_uint hr hu]; simpa [hr, hu] using hv⟩
    case h_7 o hty =>                            -- (bytes, bytes): nil is written as `null`
      cases o <;> cases hm <;> exact ⟨_, rfl, by rw [hty]; rfl⟩
    case h_8 hty =>                              -- (byteArr n, byteArr): the length is `n`
      cases hm; exact ⟨_, rfl, by rw [hty]; exact if_pos hv⟩
    case h_19 => cases hv                        -- the catch-all clause: not `hasTy`
    all_goals cases hm                           -- clauses 9-18, composite values: `primTok` fails

theorem hasTy_slice {h id e : Nat} {v : Val} (hd : ts.get id = .slice e) (hv : hasTy ts h id v = true) :
    ∃ o, v = .slice o ∧ ∀ es, o = some es → ∀ x ∈ es, hasTy ts (h - 1) e x = true := by
  cases h with
  | zero => cases hv
  | succ h =>
    unfold hasTy at hv
    rw [hd] at hv
    cases v with
    | slice o => exact ⟨o, rfl, fun es ho x hx => by subst ho; exact List.all_eq_true.mp hv x hx⟩
    | _ => cases hv

theorem hasTy_arr {h id n e : Nat} {v : Val} (hd : ts.get id = .arr n e) (hv : hasTy ts h id v = true) :
    ∃ es, v = .arr es ∧ es.length = n ∧ ∀ x ∈ es, hasTy ts (h - 1) e x = true := by
  cases h with
  | zero => cases hv
  | succ h =>
    unfold hasTy at hv
    rw [hd] at hv
    cases v with
    | arr es =>
      obtain ⟨h1, h2⟩ := Bool.and_eq_true_iff.mp hv
      exact ⟨es, rfl, beq_iff_eq.mp h1, fun x hx => List.all_eq_true.mp h2 x hx⟩
    | _ => cases hv

theorem hasTy_map {h id kt vt : Nat} {v : Val} (hd : ts.get id = .map kt vt) (hv : hasTy ts h id v = true) :
    ∃ o, v = .map o ∧ ∀ es, o = some es → ∀ q ∈ es, hasTy ts (h - 1) kt q.1 = true ∧ hasTy ts (h - 1) vt q.2 = true := by
  cases h with
  | zero => cases hv
  | succ h =>
    unfold hasTy at hv
    rw [hd] at hv
    cases v with
    | map o =>
      refine ⟨o, rfl, fun es ho q hq => ?_⟩
      subst ho
      exact Bool.and_eq_true_iff.mp (List.all_eq_true.mp hv q hq)
    | _ => cases hv

theorem hasTy_struct {h id : Nat} {fds : List FieldDesc} {v : Val} (hd : ts.get id = .struct fds)
    (hv : hasTy ts h id v = true) : ∃ vs, v = .struct vs ∧ vs.length = fds.length ∧
      ∀ (i : Nat) fd x, fds[i]? = some fd → vs[i]? = some x → hasTy ts (h - 1) fd.ty x = true := by
  cases h with
  | zero => cases hv
  | succ h =>
    unfold hasTy at hv
    rw [hd] at hv
    cases v with
    | struct vs =>
      obtain ⟨h1, h2⟩ := Bool.and_eq_true_iff.mp hv
      refine ⟨vs, rfl, beq_iff_eq.mp h1, fun i fd x hf hx => List.all_eq_true.mp h2 (fd, x) ?_⟩
      apply List.mem_of_getElem? (i := i)
      simp [List.getElem?_zip_eq_some, hf, hx]
    | _ => cases hv

theorem hasTy_iface {h id dt : Nat} {m : Bool} {dv : Val} (hd : ts.get id = .iface m)
    (hv : hasTy ts h id (.iface (some (dt, dv))) = true) : hasTy ts (h - 1) dt dv = true := by
  cases h with
  | zero => cases hv
  | succ h => simpa [hasTy, hd] using hv

theorem hasTy_float {h id b : Nat} (hv : hasTy ts h id (.float b) = true) :
    b < two64 ∧ ∃ bi, ts.get id = .prim .f64 bi ∨ (ts.get id = .prim .f32 bi ∧ FloatText.narrowF32 b = b) := by
  cases h with
  | zero => cases hv
  | succ h =>
    cases hd : ts.get id with
    | prim k bi =>
      cases k <;> simp [hasTy, hd] at hv
      · exact ⟨hv.1, bi, .inr ⟨rfl, hv.2⟩⟩
      · exact ⟨hv, bi, .inl rfl⟩
    | _ => simp [hasTy, hd] at hv

end Refmt.C13
