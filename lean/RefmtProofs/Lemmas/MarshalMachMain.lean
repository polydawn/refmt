/-
  The refinement proof of the stateful marshaller model put together, for the atlases of the fragment `Frag`.
-/
import RefmtProofs.Lemmas.MarshalMachCont
open Refmt Refmt.Obj Refmt.Obj.MM

namespace Refmt.MachL

variable {ts : Types} {a : Atlas} {trs : Trs}

/-- machines that configure no delegate, neither in their own row (transform) nor in the tip row (union) -/
def Plain : Mach → Prop
  | .transform .. => False
  | .union .. => False
  | .panic => False
  | _ => True

/-- what a transform machine may delegate to (`sim_wild_some` says why not the wildcard machine) -/
def PlainT : Mach → Prop
  | .wildcard => False
  | m => Plain m

def Okm1 (ts : Types) (a : Atlas) : Mach → Prop
  | .transform _ _ mty => (peel ts 64 0 mty).1 = 0 ∧ PlainT (pickBare ts a mty)
  | .union .. => False
  | .panic => False
  | _ => True

def Okm (ts : Types) (a : Atlas) : Mach → Prop
  | .union _ ms => ∀ p ∈ ms, ∀ me, a.pool[p.2]? = some me → Okm1 ts a (machForEntry ts me)
  | m => Okm1 ts a m

/-- the hypothesis of the refinement theorem, on the atlas: machine selection (`_yieldBareMarshalMachinePtr`,
    applied to a type with its pointer levels peeled off) never panics; a transform's target type is not a pointer
    type, and its machine is neither the wildcard machine nor a transform nor a keyed union; a union's members are
    struct maps, maps or such transforms -/
def Frag (ts : Types) (a : Atlas) : Prop := ∀ id, Okm ts a (pickBare ts a (peel ts 64 0 id).2)

theorem plain_of_plainT {m : Mach} (h : PlainT m) : Plain m := by
  cases m <;> first | exact h | exact h.elim

theorem okm1_of_okm {m : Mach} (h : Okm ts a m) (hnu : ∀ e ms, m ≠ .union e ms) : Okm1 ts a m := by
  cases m <;> first | exact h | exact absurd rfl (hnu _ _)

theorem cfgM_of_plain {m : Mach} {k : MK} {row : Row} (hm : Plain m) (h : CfgBare m k row) : CfgM ts a m k row := by
  cases m <;> first | exact h | exact hm.elim

theorem cfgBare_of_plain {m : Mach} {k : MK} {row : Row} (hm : Plain m) (h : CfgM ts a m k row) : CfgBare m k row := by
  cases m <;> first | exact h | exact hm.elim

theorem machForEntry_machTy (e : Entry) : MachTy ts e.ty (machForEntry ts e) := by
  unfold machForEntry
  split <;> try trivial
  next mode _ =>
    cases hg : ts.get e.ty <;> simp [MachTy, hg]

theorem pickBare_machTy (id : Nat) : MachTy ts id (pickBare ts a id) := by
  unfold pickBare
  split
  · trivial
  · trivial
  · split
    · next e he =>
      have := machForEntry_machTy (ts := ts) e
      rwa [ObjL.atlas_get_ty he] at this
    · cases hd : ts.get id <;> simp [MachTy, elemOf, hd]

theorem find_member {ms : List (Bytes × Nat)} {dt : Nat} {name : Bytes} {idx : Nat} {me : Entry}
    (hfind : ms.find? (fun x => (a.pool[x.2]?.map (·.ty)) == some dt) = some (name, idx))
    (hme : a.pool[idx]? = some me) : me.ty = dt ∧ (name, idx) ∈ ms := by
  have h1 := List.find?_some hfind
  have h2 := List.mem_of_find?_eq_some hfind
  simp [hme] at h1
  exact ⟨h1, h2⟩

theorem machForEntry_not_wild (me : Entry) : machForEntry ts me ≠ .wildcard := by
  unfold machForEntry
  split <;> try (intro h; cases h)
  split <;> (intro h; cases h)

theorem cfgMach_plain {m : Mach} (hm : Plain m) (row : Row) (id : Nat) :
    ∃ row' k, cfgMach ts a 1 row id m = .ok (row', k) ∧ CfgBare m k row' ∧ getW row' = getW row ∧
      row'.map.value = row.map.value := by
  cases m with
  | prim => exact ⟨{ row with prim := { row.prim with ty := id } }, .prim, rfl, rfl, rfl, rfl⟩
  | slice e => exact ⟨row, .slice, rfl, rfl, rfl, rfl⟩
  | array e => exact ⟨row, .array, rfl, rfl, rfl, rfl⟩
  | map kt vt mode =>
    exact ⟨{ row with map := { row.map with morphism := mode } }, .map, rfl, ⟨rfl, rfl⟩, rfl, rfl⟩
  | wildcard => exact ⟨row, .wild, rfl, rfl, rfl, rfl⟩
  | structMap e fs =>
    exact ⟨{ row with struct := { row.struct with cfg := e, fields := fs } }, .struct, rfl, ⟨rfl, rfl, rfl⟩, rfl, rfl⟩
  | errThunk => exact ⟨{ row with err := { err := some .err } }, .errThunk, rfl, ⟨rfl, rfl⟩, rfl, rfl⟩
  | transform _ _ _ | union _ _ | panic => exact hm.elim

theorem cfgMach_ok_plain {m : Mach} (hm : Plain m) (row : Row) (id : Nat) :
    ∃ n row' k, cfgMach ts a n row id m = .ok (row', k) ∧ CfgM ts a m k row' ∧ row'.ptr = row.ptr ∧
      row'.map.value = row.map.value ∧ row'.union = row.union := by
  obtain ⟨row', k, hc, hcfg, hw, hval⟩ := cfgMach_plain (ts := ts) (a := a) hm row id
  exact ⟨1, row', k, hc, cfgM_of_plain hm hcfg, congrArg (·.1) hw, hval, congrArg (·.2.2) hw⟩

theorem cfgMach_ok1 {m : Mach} (hm : Okm1 ts a m) (row : Row) (id : Nat) :
    ∃ n row' k, cfgMach ts a n row id m = .ok (row', k) ∧ CfgM ts a m k row' ∧ row'.ptr = row.ptr ∧
      row'.map.value = row.map.value ∧ row'.union = row.union := by
  cases m with
  | transform e fn mty =>
    obtain ⟨hp0, hpl⟩ := hm
    have hpl' := plain_of_plainT hpl
    obtain ⟨row2, kd, hc, hcfg, hw, hval⟩ := cfgMach_plain (ts := ts) (a := a) hpl'
      { row with transform := { row.transform with trFunc := fn, mty := mty } } mty
    have hy : yieldM ts a 2 { row with transform := { row.transform with trFunc := fn, mty := mty } } mty =
        .ok (row2, kd) := by
      simp [yieldM, hp0, ObjL.peel_zero hp0, hc]
    refine ⟨3, { row2 with transform := { row2.transform with delegate := some kd, tag := e.tag } }, .transform,
      by simp [cfgMach, hy], ?_, ?_, hval, ?_⟩
    · have ht : row2.transform = { row.transform with trFunc := fn, mty := mty } := congrArg (·.2.1) hw
      exact ⟨rfl, by rw [ht], by rw [ht], rfl, kd, rfl, hcfg.congr rfl rfl rfl⟩
    · exact congrArg (·.1) hw
    · exact congrArg (·.2.2) hw
  | union _ _ => exact hm.elim
  | panic => exact hm.elim
  | _ => apply cfgMach_ok_plain; exact True.intro

theorem cfgMach_ok {m : Mach} (hm : Okm ts a m) (row : Row) (id : Nat) :
    ∃ n row' k, cfgMach ts a n row id m = .ok (row', k) ∧ CfgM ts a m k row' ∧
      row'.map.value = row.map.value := by
  cases m with
  | union e ms =>
    exact ⟨1, { row with union := { row.union with cfg := e, members := ms } }, .union, rfl, ⟨rfl, rfl, rfl⟩, rfl⟩
  | _ =>
    obtain ⟨n, row', k, h1, h2, _, h4, _⟩ := cfgMach_ok1 (okm1_of_okm hm (fun _ _ h => by cases h)) row id
    exact ⟨n, row', k, h1, h2, h4⟩

theorem yieldOK_of_frag (h : Frag ts a) : YieldOK ts a := by
  intro id row
  obtain ⟨n, row', k, hc, hcfg, hval⟩ := cfgMach_ok (ts := ts) (a := a) (h id) row (peel ts 64 0 id).2
  by_cases hn : (peel ts 64 0 id).1 = 0
  · refine ⟨n+1, row', k, ?_, ?_, hval⟩
    · simp [yieldM, hc, hn]
    · exact (cfgV_bare hn).mpr hcfg
  · refine ⟨n+1, { row' with ptr := { mach := some k, peelCount := (peel ts 64 0 id).1, isNil := false } }, .ptr, ?_, ?_, hval⟩
    · simp [yieldM, hc, hn]
    · exact (cfgV_ptr hn).mpr ⟨rfl, rfl, k, rfl, hcfg.congr rfl rfl rfl rfl fun _ => rfl⟩

theorem sim_plain {f : Nat} {mk vm : Mask} (hyo : YieldOK ts a) (hih : ∀ f', f' ≤ f → SimV ts a trs f') {id : Nat} {m : Mach}
    {v : Val} {L : Nat} {row : Row} {hi : List Row} {k : MK}
    (hw : m = .wildcard → vm = FFF)
    (hty : MachTy ts id m) (hcfg : CfgBare m k row) (hcl : Clean (row :: hi))
    (hnp : (marshalBare ts a trs (f+1) id m v).fail ≠ some .panic) :
    Sim ts a trs mk vm (CfgBare m k) L row hi k id v (marshalBare ts a trs (f+1) id m v) := by
  cases m with
  | prim =>
    cases hcfg
    rw [marshalBare_prim] at hnp ⊢
    obtain ⟨t, ht⟩ := primTok_cases id v hnp
    exact sim_prim hcl ht
  | errThunk =>
    obtain ⟨rfl, herr⟩ := hcfg
    rw [marshalBare_errThunk]
    exact sim_errThunk ⟨rfl, herr⟩
  | wildcard =>
    cases hcfg
    rw [marshalBare_wild] at hnp ⊢
    cases v with
    | iface o =>
      cases o with
      | none => exact sim_wild_nil hcl
      | some p =>
        obtain ⟨dt, dv⟩ := p
        obtain ⟨ny, drow, kd, hy, hcfgd, hdc⟩ := hyo.fresh dt
        rw [hw rfl]
        exact sim_wild_some hcl hy (hih f (Nat.le_refl _) dt dv _ drow [] kd hcfgd hdc hnp)
    | _ => simp [MOut.bad] at hnp
  | slice e =>
    cases hcfg
    rw [marshalBare_slice] at hnp ⊢
    obtain ⟨ny, drow, kd, hy, hcfgd, hdc⟩ := hyo.fresh e
    cases v with
    | slice o =>
      cases o with
      | none => exact (sim_slice_nil hty hy hdc hcl).mono fun _ _ => rfl
      | some es =>
        exact (sim_slice_elems (Or.inl rfl) hty rfl hy hcfgd hdc hcl hih
          (seq_fail_left (seq_fail_right hnp rfl))).mono fun _ _ => rfl
    | _ => simp [MOut.bad] at hnp
  | array e =>
    cases hcfg
    rw [marshalBare_array] at hnp ⊢
    obtain ⟨ny, drow, kd, hy, hcfgd, hdc⟩ := hyo.fresh e
    cases v with
    | arr es =>
      exact (sim_slice_elems (Or.inr rfl) hty rfl hy hcfgd hdc hcl hih
        (seq_fail_left (seq_fail_right hnp rfl))).mono fun _ _ => rfl
    | _ => simp [MOut.bad] at hnp
  | map kt vt mode =>
    obtain ⟨rfl, hmode⟩ := hcfg
    obtain ⟨ny, drow, kd, hy, hcfgd, hdc⟩ := hyo.fresh vt
    exact (sim_map hty hmode hy hcfgd hdc hcl hih hnp).mono fun _ h => ⟨rfl, h⟩
  | structMap e fs =>
    obtain ⟨rfl, hc, hfs⟩ := hcfg
    exact (sim_struct hyo hc hfs hcl hih hnp).mono fun _ h => ⟨rfl, h.1, h.2⟩
  | transform _ _ _ => exact hcfg.elim
  | union _ _ => exact hcfg.elim
  | panic => exact hcfg.elim

theorem sim_okm1 {f : Nat} {p1 p3 b3 : Bool} (hyo : YieldOK ts a) (hih : ∀ f', f' ≤ f → SimV ts a trs f') {id : Nat}
    {m : Mach} {v : Val} {L : Nat} {row : Row} {hi : List Row} {k : MK}
    (hok : Okm1 ts a m) (hw : m = .wildcard → b3 = false)
    (hty : MachTy ts id m) (hcfg : CfgM ts a m k row) (hcl : Clean (row :: hi))
    (hnp : (marshalBare ts a trs (f+1) id m v).fail ≠ some .panic) :
    Sim ts a trs (p1, false, p3) (false, false, b3) (CfgM ts a m k) L row hi k id v
      (marshalBare ts a trs (f+1) id m v) := by
  cases m with
  | transform e fn mty =>
    obtain ⟨hp0, hpl⟩ := hok
    obtain ⟨rfl, hfn, hmty, htag, kd, hdel, hcb⟩ := hcfg
    rw [marshalBare_transform] at hnp ⊢
    refine (sim_transform (Qd := CfgBare (pickBare ts a mty) kd) (rin := fun tv => marshalV ts a trs f mty tv)
      ⟨hfn, hmty, hdel, htag⟩ (fun tv htv => ?_) (fun r2 T hq2 => hq2.congr rfl rfl rfl)).mono
      fun r2 ⟨hq2, hc2⟩ => ⟨rfl, hc2.trFunc, hc2.mty, hc2.tag, kd, hc2.delegate, hq2⟩
    simp only [htv, ObjL.retagFirst_fail] at hnp
    obtain ⟨f1, rfl⟩ := marshalV_fuel_pos hnp
    rw [marshalV_succ] at hnp ⊢
    simp only [hp0, if_true, ObjL.peel_zero hp0] at hnp ⊢
    obtain ⟨f2, rfl⟩ := marshalBare_fuel_pos hnp
    exact sim_plain hyo (fun f' hf' => hih f' (by omega))
      (fun h => by rw [h] at hpl; exact hpl.elim) (pickBare_machTy _) (hcb.congr rfl rfl rfl)
      (hcl.of_map rfl) hnp
  | union _ _ => exact hok.elim
  | panic => exact hok.elim
  | prim | errThunk | wildcard | slice _ | array _ | map _ _ _ | structMap _ _ =>
    exact sim_plain hyo hih (fun h => by rw [hw h]) hty hcfg hcl hnp

theorem sim_okm {f : Nat} {p1 : Bool} (hyo : YieldOK ts a) (hih : ∀ f', f' ≤ f → SimV ts a trs f') {id : Nat}
    {m : Mach} {v : Val} {L : Nat} {row : Row} {hi : List Row} {k : MK}
    (hok : Okm ts a m) (hty : MachTy ts id m) (hcfg : CfgM ts a m k row) (hcl : Clean (row :: hi))
    (hnp : (marshalBare ts a trs (f+1) id m v).fail ≠ some .panic) :
    Sim ts a trs (p1, false, false) FFF (CfgM ts a m k) L row hi k id v
      (marshalBare ts a trs (f+1) id m v) := by
  cases m with
  | union e ms =>
    obtain ⟨rfl, hce, hcm⟩ := hcfg
    rw [marshalBare_union_out] at hnp ⊢
    cases v with
    | iface o =>
      cases o with
      | none =>
        refine Sim.bad rfl 1 fun lo hl => ?_
        subst hl
        simp [resetM_kind, resetUnion]
      | some p =>
        obtain ⟨dt, dv⟩ := p
        simp only at hnp ⊢
        cases hfd : ms.find? (fun x => (a.pool[x.2]?.map (·.ty)) == some dt) with
        | none =>
          refine Sim.bad rfl 1 fun lo hl => ?_
          subst hl
          simp [resetM_kind, resetUnion, hcm, hfd]
        | some pr =>
          obtain ⟨name, idx⟩ := pr
          simp only [hfd] at hnp ⊢
          cases hme : a.pool[idx]? with
          | none => simp [hme, MOut.bad] at hnp
          | some me =>
            simp only [hme] at hnp ⊢
            obtain ⟨hty', hmem⟩ := find_member hfd hme
            subst hty'
            have hok1 : Okm1 ts a (machForEntry ts me) := hok (name, idx) hmem me hme
            have hnu : ∀ e ms, machForEntry ts me ≠ .union e ms := fun e ms heq => by rw [heq] at hok1; exact hok1
            have hnpi := unionOut_np hnp
            obtain ⟨f1, rfl⟩ := marshalBare_fuel_pos hnpi
            have hq : ∀ r2 : Row, r2.union.cfg = row.union.cfg ∧ r2.union.members = row.union.members →
                CfgM ts a (.union e ms) .union r2 := fun r2 h => ⟨rfl, by rw [h.1, hce], by rw [h.2, hcm]⟩
            have hmty : MachTy ts me.ty (machForEntry ts me) := machForEntry_machTy me
            -- the tip row is the union machine's own, or the last of the rows above it
            rcases RowL.tip_split hi with rfl | ⟨hi0, trow, rfl⟩
            · -- the member shares the union machine's row: the union sub-struct is foreign to it
              obtain ⟨nc, trow', kd, hc, hcfgd, hptr, hval, hun⟩ :=
                cfgMach_ok1 (ts := ts) (a := a) hok1 (uTarget dv name row) me.ty
              have hsim := sim_okm1 (f := f1) (p1 := p1) (p3 := true) (b3 := true) (L := L) (hi := [])
                (row := uDeleg ⟨L, kd⟩ trow') (v := dv) hyo (fun f' hf' => hih f' (by omega)) hok1
                (fun h => absurd h (machForEntry_not_wild me)) hmty
                (hcfgd.congr rfl rfl rfl rfl fun ⟨e, ms, h⟩ => absurd h (hnu e ms))
                (Clean.single (hval.trans hcl.head)) hnpi
              exact (sim_union_same (by rw [hcm]; exact hfd) hme hc hun hptr hsim).mono hq
            · -- the member has the tip row to itself
              obtain ⟨nc, trow', kd, hc, hcfgd, _, hval, _⟩ :=
                cfgMach_ok1 (ts := ts) (a := a) hok1 trow me.ty
              have hclt : trow.map.value = false := hcl.tail.right.head
              have hsim := sim_okm1 (f := f1) (p1 := false) (p3 := false) (b3 := false)
                (L := L + 1 + hi0.length) (hi := []) (row := trow') (v := dv) hyo
                (fun f' hf' => hih f' (by omega)) hok1
                (fun h => absurd h (machForEntry_not_wild me)) hmty hcfgd
                (Clean.single (hval.trans hclt)) hnpi
              exact (sim_union_tip (Clean.cons hcl.head hcl.tail.left) (by rw [hcm]; exact hfd) hme hc hsim).mono hq
    | _ => simp [MOut.bad] at hnp
  | _ => exact sim_okm1 (b3 := false) hyo hih (okm1_of_okm hok (fun _ _ h => by cases h)) (fun _ => rfl) hty hcfg hcl hnp

theorem simV_all (hfrag : Frag ts a) : ∀ f, SimV ts a trs f := by
  intro f
  induction f using Nat.strongRecOn with
  | _ f ih =>
    intro id v L row hi k hcfg hcl hnp
    obtain ⟨f, rfl⟩ := marshalV_fuel_pos hnp
    rw [marshalV_succ] at hnp ⊢
    by_cases hn : (peel ts 64 0 id).1 = 0
    · rw [cfgV_bare hn] at hcfg
      simp only [hn, if_true] at hnp ⊢
      obtain ⟨f, rfl⟩ := marshalBare_fuel_pos hnp
      have hih : ∀ f', f' ≤ f → SimV ts a trs f' := fun f' hf' => ih f' (by omega)
      have := sim_okm (p1 := false) (L := L) (hi := hi) (yieldOK_of_frag hfrag) hih (hfrag _) (pickBare_machTy _) hcfg hcl hnp
      rw [ObjL.peel_zero hn] at this ⊢
      exact this.mono fun _ h => (cfgV_bare hn).mpr (by rw [ObjL.peel_zero hn]; exact h)
    · simp only [hn, if_false] at hnp ⊢
      obtain ⟨rfl, hpc, k', hm, hcb⟩ := (cfgV_ptr hn).mp hcfg
      cases hd : derefN (peel ts 64 0 id).1 v with
      | none =>
        refine sim_ptr_nil (p2 := false) (p3 := false) (b2 := false) (b3 := false) hcl (by rw [hpc, hd]) (fun w => ?_)
        exact (cfgV_ptr hn).mpr ⟨rfl, hpc, k', hm, hcb.congr rfl rfl rfl rfl fun _ => rfl⟩
      | some inner =>
        simp only [hd] at hnp ⊢
        obtain ⟨f, rfl⟩ := marshalBare_fuel_pos hnp
        have hih : ∀ f', f' ≤ f → SimV ts a trs f' := fun f' hf' => ih f' (by omega)
        have := sim_okm (p1 := true) (L := L) (hi := hi) (row := { row with ptr := { row.ptr with isNil := false } })
          (yieldOK_of_frag hfrag) hih (hfrag _) (pickBare_machTy _) (hcb.congr rfl rfl rfl rfl fun _ => rfl) (hcl.of_map rfl) hnp
        refine (sim_ptr_some (p2 := false) (p3 := false) (b2 := false) (b3 := false)
          (by rw [hpc, hd]) hm this).mono fun r2 ⟨hr2, hp2⟩ => ?_
        rw [cfgV_ptr hn, hp2]
        exact ⟨rfl, hpc, k', hm, hr2⟩

theorem DS.at {s res} (h : DS ts a trs s res) : ∃ N, ∀ sf, N ≤ sf → mstep ts a trs sf s = res := by
  obtain ⟨n, hm, hns⟩ := h
  exact ⟨n, fun sf hsf => mstep_le hm hns hsf⟩

theorem emits_pumps : ∀ (toks : List Tok) (s s' : MState), Emits ts a trs s toks s' →
    ∃ N, ∀ sf, N ≤ sf → ∀ k,
      runX ts a trs sf (toks.length + k) s = (toks ++ (runX ts a trs sf k s').1, (runX ts a trs sf k s').2) ∧
      finalState ts a trs sf (toks.length + k) s = finalState ts a trs sf k s'
  | [], s, s', h => by
    cases h
    exact ⟨0, fun sf _ k => by simp⟩
  | t :: toks, s, s', h => by
    obtain ⟨s1, hd, hr⟩ := h
    obtain ⟨N1, h1⟩ := hd.at
    obtain ⟨N2, h2⟩ := emits_pumps toks s1 s' hr
    refine ⟨max N1 N2, fun sf hsf k => ?_⟩
    have e1 := h1 sf (Nat.le_trans (Nat.le_max_left _ _) hsf)
    obtain ⟨e2, e3⟩ := h2 sf (Nat.le_trans (Nat.le_max_right _ _) hsf) k
    have hlen : (t :: toks).length + k = (toks.length + k) + 1 := by simp; omega
    rw [hlen, runX_succ, finalState_succ, e1]
    simp [e2, e3]

theorem pumps_of_emits {s smid : MState} {toks : List Tok} {res : X SRes} (hem : Emits ts a trs s toks smid)
    (hd : DS ts a trs smid res) :
    ∃ N, ∀ sf, N ≤ sf → ∃ k, mstep ts a trs sf smid = res ∧
      runX ts a trs sf sf s = (toks ++ (runX ts a trs sf (k + 1) smid).1, (runX ts a trs sf (k + 1) smid).2) ∧
      finalState ts a trs sf sf s = finalState ts a trs sf (k + 1) smid := by
  obtain ⟨N1, h1⟩ := emits_pumps _ _ _ hem
  obtain ⟨N2, h2⟩ := hd.at
  refine ⟨N1 + N2 + toks.length + 1, fun sf hsf => ?_⟩
  obtain ⟨k, hk⟩ : ∃ k, sf = toks.length + (k + 1) := ⟨sf - toks.length - 1, by omega⟩
  have := h1 sf (by omega) (k + 1)
  rw [← hk] at this
  exact ⟨k, h2 sf (by omega), this⟩

theorem bind_ok {fuel' dirty id v drow k R1}
    (hy : yieldM ts a fuel' Row.zero id = .ok (drow, k))
    (hr : resetM ts a trs fuel' ⟨0, k⟩ id v [drow] = .ok R1) :
    bind ts a trs fuel' dirty id v = { rows := R1, stack := [], step := some ⟨0, k⟩, bindErr := none } := by
  simp [MM.bind, requisition_at hy, hr]

theorem bind_err {fuel' dirty id v drow k e}
    (hy : yieldM ts a fuel' Row.zero id = .ok (drow, k))
    (hr : resetM ts a trs fuel' ⟨0, k⟩ id v [drow] = .error (.f e)) :
    bind ts a trs fuel' dirty id v =
      { rows := [drow], stack := [], step := some ⟨0, k⟩, bindErr := some (.f e) } := by
  simp [MM.bind, requisition_at hy, hr]

theorem refines_frag (hfrag : Frag ts a) (fuel id : Nat) (v : Val)
    (hnp : (marshalV ts a trs fuel id v).fail ≠ some .panic) :
    ∃ N, ∀ fuel', N ≤ fuel' → ∀ dirty : MState,
      run ts a trs fuel' (MM.bind ts a trs fuel' dirty id v) = marshalV ts a trs fuel id v ∧
      ((marshalV ts a trs fuel id v).fail = none →
        ∃ s', finalState ts a trs fuel' fuel' (MM.bind ts a trs fuel' dirty id v) = some s' ∧
          s'.stack = [] ∧ s'.rows ≠ []) := by
  obtain ⟨ny, drow, k, hy, hcfg, hcl⟩ := (yieldOK_of_frag hfrag).fresh id
  have hsim := simV_all (trs := trs) hfrag fuel id v 0 drow [] k hcfg hcl hnp
  have hyy : ∀ fuel', ny ≤ fuel' → yieldM ts a fuel' Row.zero id = .ok (drow, k) :=
    fun fuel' h => yieldM_le hy NS.ok h
  generalize marshalV ts a trs fuel id v = r at hsim
  rcases hsim with ⟨rfl, n, hn⟩ | ⟨_, n, row1, hi1, hreset, _, _, _, hrun⟩
  · have hn := hn [] rfl
    refine ⟨max ny n, fun fuel' hle dirty => ⟨?_, fun h => by cases h⟩⟩
    have h1 := hyy fuel' (Nat.le_trans (Nat.le_max_left _ _) hle)
    have h2 := resetM_le hn NS.f (Nat.le_trans (Nat.le_max_right _ _) hle)
    rw [bind_err h1 h2]
    rfl
  · have hbind : ∀ fuel', ny + n ≤ fuel' → ∀ dirty : MState, MM.bind ts a trs fuel' dirty id v =
        { rows := [] ++ row1 :: hi1, stack := [], step := some ⟨0, k⟩, bindErr := none } := fun fuel' h dirty =>
      bind_ok (hyy fuel' (by omega))
        (resetM_le (hreset [] rfl) NS.ok (by omega))
    obtain ⟨toks, fl⟩ := r
    have hra := (Steps.unchanged fun w => hrun [] rfl w ⟨0, k⟩ [] none).drun
    cases fl with
    | none =>
      obtain ⟨init, last, smid, row', hi', rfl, hem, hcs, _⟩ := hra.1 rfl
      obtain ⟨N1, hN1⟩ := pumps_of_emits hem hcs.toDS
      refine ⟨ny + n + N1, fun fuel' hle dirty => ?_⟩
      rw [hbind fuel' (by omega) dirty]
      obtain ⟨k1, hm, h1, h2⟩ := hN1 fuel' (by omega)
      rw [runX_succ, hm, List.nil_append] at h1
      rw [finalState_succ, hm] at h2
      exact ⟨by simp [run, h1, popDone], fun _ => ⟨_, h2, rfl, by simp⟩⟩
    | some e =>
      obtain ⟨smid, hem, hds⟩ := hra.2 e rfl
      obtain ⟨N1, hN1⟩ := pumps_of_emits hem hds
      refine ⟨ny + n + N1, fun fuel' hle dirty => ⟨?_, fun h => by cases h⟩⟩
      rw [hbind fuel' (by omega) dirty]
      obtain ⟨k1, hm, h1, _⟩ := hN1 fuel' (by omega)
      rw [runX_succ, hm, List.nil_append] at h1
      simp [run, h1, XFail.toFail]

instance : DecidablePred Plain
  | .transform .. | .union .. | .panic => isFalse id
  | .prim | .slice _ | .array _ | .map .. | .wildcard | .structMap .. | .errThunk => isTrue trivial

instance : DecidablePred PlainT
  | .wildcard | .transform .. | .union .. | .panic => isFalse id
  | .prim | .slice _ | .array _ | .map .. | .structMap .. | .errThunk => isTrue trivial

instance : DecidablePred (Okm1 ts a)
  | .transform _ _ mty => inferInstanceAs (Decidable ((peel ts 64 0 mty).1 = 0 ∧ PlainT (pickBare ts a mty)))
  | .union .. | .panic => isFalse id
  | .prim | .slice _ | .array _ | .map .. | .wildcard | .structMap .. | .errThunk => isTrue trivial

instance : DecidablePred (Okm ts a)
  | .union _ ms =>
    inferInstanceAs (Decidable (∀ p ∈ ms, ∀ me, me ∈ a.pool[p.2]? → Okm1 ts a (machForEntry ts me)))
  | .transform e fn mty => inferInstanceAs (Decidable (Okm1 ts a (.transform e fn mty)))
  | .panic => isFalse id
  | .prim | .slice _ | .array _ | .map .. | .wildcard | .structMap .. | .errThunk => isTrue trivial

/-- a finite check that implies `Frag`: every listed type, and every atlas entry, selects a covered machine -/
def fragCheck (ts : Types) (a : Atlas) : Bool :=
  decide (∀ p ∈ ts, Okm ts a (pickBare ts a (peel ts 64 0 p.1).2)) &&
    decide (∀ e ∈ a.pool, Okm ts a (machForEntry ts e))

theorem frag_of_check (h : fragCheck ts a = true) : Frag ts a := by
  simp only [fragCheck, Bool.and_eq_true, decide_eq_true_eq] at h
  obtain ⟨h1, h2⟩ := h
  intro id
  cases hl : ts.lookup id with
  | some d => exact h1 (id, d) (ObjL.lookup_mem hl)
  | none =>
    -- a type that is not listed is `other`: not a pointer, and its machine comes from the atlas or is the error thunk
    have hg : ts.get id = .other := by simp [Types.get, hl]
    have hp : peel ts 64 0 id = (0, id) := by simp [peel, hg]
    rw [hp]
    unfold pickBare
    simp only [hg]
    cases hget : a.get id with
    | none => trivial
    | some e => exact h2 e (List.mem_of_find?_eq_some hget)

end Refmt.MachL
