/-
  Lemmas for C01 (JSON transport): from "every token of the marshaller's output is carriable by JSON" plus the
  tree facts of C07 to the hypotheses of C03 (`JWF`, `FloatsOk`).  `jwf_of_all` and `transport_tree_json` are for any token
  predicate `P` whose scalars the encoder accepts (`hP`) and whose floats have a typable text (`hF`: `C03L.floatOk`);
  `jsonOk` is one such, `C01.carryJson'` (Props/C01JsonFull) another.
-/
import RefmtProofs.Props.C03
import RefmtProofs.Props.C07
namespace Refmt.C01L
open Refmt Refmt.Obj

/-- `C01.carryJson` is this predicate (`C01.carryJson_eq`) -/
def jsonOk (t : Tok) : Bool :=
  t.tag.isNone &&
  (match t.body with
   | .uint n => decide (n < two64)
   | .int i => decide (-(two63 : Int) ≤ i) && decide (i < (two63 : Int))
   | .float b => decide (b < two64) && !floatNonFinite b && C03L.floatOk b
   | .str s => s.all (· < 256)
   | .bytes _ => false
   | _ => true)

theorem jsonOk_scalar {t : Tok} (h : jsonOk t = true) (hs : t.body.isScalar = true) : C03.jsonScalarOk t = true := by
  obtain ⟨body, tag⟩ := t
  unfold jsonOk at h
  unfold C03.jsonScalarOk
  simp only [Bool.and_eq_true] at h
  cases body with
  | float b =>
    have := h.2
    simp only [Bool.and_eq_true] at this ⊢
    exact this.1
  -- numbers and strings: the same clause in both predicates; byte strings are not carriable; opens and closes are not scalars
  | _ => first | exact h.2 | rfl | cases hs

theorem jsonOk_float {t : Tok} {x : Nat} (h : jsonOk t = true) (hb : t.body = .float x) : C03L.floatOk x = true := by
  unfold jsonOk at h
  rw [hb] at h
  simp only [Bool.and_eq_true] at h
  exact h.2.2

section
variable {P : Tok → Bool} (hP : ∀ {t}, P t = true → t.body.isScalar = true → C03.jsonScalarOk t = true)
include hP

mutual
  theorem jwf_of_all : ∀ (tv : TV), tv.flatten.all P = true → C07.Leaves tv = true → C07.KeysStr tv = true →
      C03.JWF tv = true
    | .scalar t, h, hl, _ => by
      simp only [TV.flatten, List.all_cons, List.all_nil, Bool.and_true] at h
      exact hP h hl
    | .arr tag len items, h, hl, hk => by
      simp only [TV.flatten, List.all_cons, List.all_append, Bool.and_eq_true] at h
      exact jwfl_of_all items h.2.1 hl hk
    | .map tag len es, h, hl, hk => by
      simp only [TV.flatten, List.all_cons, List.all_append, Bool.and_eq_true] at h
      exact jwfe_of_all es h.2.1 hl hk
  theorem jwfl_of_all : ∀ (vs : List TV), (TV.flattenList vs).all P = true → C07.LeavesL vs = true →
      C07.KeysStrL vs = true → C03.JWFl vs = true
    | [], _, _, _ => rfl
    | v :: vs, h, hl, hk => by
      simp only [TV.flattenList, List.all_append, Bool.and_eq_true] at h
      simp only [C07.LeavesL, Bool.and_eq_true] at hl
      simp only [C07.KeysStrL, Bool.and_eq_true] at hk
      simp only [C03.JWFl, Bool.and_eq_true]
      exact ⟨jwf_of_all v h.1 hl.1 hk.1, jwfl_of_all vs h.2 hl.2 hk.2⟩
  theorem jwfe_of_all : ∀ (es : List (TV × TV)), (TV.flattenEntries es).all P = true → C07.LeavesE es = true →
      C07.KeysStrE es = true → C03.JWFe es = true
    | [], _, _, _ => rfl
    | (k, v) :: es, h, hl, hk => by
      obtain ⟨s, hs⟩ := C07.keysStrE_key hk
      simp only [TV.flattenEntries, List.all_append, Bool.and_eq_true] at h
      simp only [C07.LeavesE, Bool.and_eq_true] at hl
      simp only [C07.KeysStrE, Bool.and_eq_true] at hk
      simp only [C03.JWFe, Bool.and_eq_true]
      refine ⟨⟨?_, jwf_of_all v h.2.1 hl.1.2 hk.1.2⟩, jwfe_of_all es h.2.2 hl.2 hk.2⟩
      have hk1 := h.1
      rw [hs] at hk1 ⊢
      simp only [TV.flatten, List.all_cons, List.all_nil, Bool.and_true] at hk1
      exact hP hk1 rfl
end

theorem transport_tree_json (hF : ∀ {t x}, P t = true → t.body = .float x → C03L.floatOk x = true)
    (c : JsonEnc.Cfg) (hcfg : C03.cfgOk c = true) (tv : TV) (hc : tv.flatten.all P = true)
    (hk : C07.KeysStr tv = true) (hv : C07.Leaves tv = true) :
    (runOut (JsonEnc.step c FloatText.jsonFloat) JsonEnc.init tv.flatten).1.getLast? = some Flag.done ∧
    (let o := JsonDec.decode (Rd.ofBytes (runOut (JsonEnc.step c FloatText.jsonFloat) JsonEnc.init tv.flatten).2.flatten)
     o.toks = tv.flatten.map Spec.Json.retypeTok ∧ o.res = .ok ()) := by
  have hj := jwf_of_all hP tv hc hv hk
  refine ⟨by rw [C03.enc_accepts c tv hj]; simp, ?_⟩
  exact C03.roundtrip_partial c tv hj hcfg fun t ht x hb => hF (List.all_eq_true.mp hc t ht) hb

end

theorem jwfl_of_flat : ∀ (vs : List TV), (TV.flattenList vs).all jsonOk = true → C07.LeavesL vs = true →
      C07.KeysStrL vs = true → C03.JWFl vs = true :=
  jwfl_of_all jsonOk_scalar

theorem jwfe_of_flat : ∀ (es : List (TV × TV)), (TV.flattenEntries es).all jsonOk = true → C07.LeavesE es = true →
      C07.KeysStrE es = true → C03.JWFe es = true :=
  jwfe_of_all jsonOk_scalar

end Refmt.C01L
