-- the round trip over `fullTy`, for any wire format: what a wire format is (`Wire`), null serializations, and what the
-- cases of the dispatch (Lemmas/FullStep) share; see RefmtProofs/Props/C13Full.lean, C01JsonFull.lean
import RefmtProofs.Lemmas.FullEqv
namespace Refmt.Obj
open Refmt Refmt.C13 Refmt.C11 Refmt.C12

/-- A wire format as the round-trip induction sees it: `RtSpec`, and what the wire does to the marshaller's tokens on
    their way to the unmarshaller (`τ`: the identity for CBOR, `Spec.Json.retypeTok` for JSON).  `τ` may change
    lengths, tags and the representation of scalars, not the structure of the stream; the strings it leaves alone
    (`ok`) include the field and member names of the atlas. -/
structure Wire (ts : Types) (a : Atlas) (trs : Trs) (it : IfaceTys) (fmt : Fmt) (ok : Bytes → Prop) (τ : Tok → Tok)
    (R : Nat → Nat → Val → Val) (RB : Nat → Nat → Mach → Val → Val)
    (S : Nat → Nat → Val → Bool) (SB : Nat → Nat → Mach → Val → Bool) : Prop
    extends RtSpec ts a trs it fmt ok R RB S SB, TokMap τ ok where
  body_tag : ∀ b tg tg', (τ ⟨b, tg⟩).body = (τ ⟨b, tg'⟩).body
  untagged : ∀ b, (τ ⟨b, none⟩).tag = none
  keepsTag : fmt ≠ .json → ∀ t, τ t = t
  fieldNames : ∀ id reg ty tag fields, a.get id = some ⟨reg, ty, tag, .structMap fields⟩ → ∀ fld ∈ fields, ok fld.name
  memberNames : ∀ id reg ty tag members, a.get id = some ⟨reg, ty, tag, .union members⟩ → ∀ m ∈ members, ok m.1
  prim : ∀ h id v toks g, hasTy ts h id v = true → SB (g+1) id .prim v = true → primTok ts id v = ⟨toks, none⟩ →
    ∃ tok, toks = [tok] ∧ storePrim (ts.get id) (τ tok) = some (RB (g+1) id .prim v)
  wildTok : ∀ h id dt dv tok g, pickBare ts a dt = .prim → hasTy ts h dt dv = true →
    SB (g+1) id .wildcard (.iface (some (dt, dv))) = true → primTok ts dt dv = ⟨[tok], none⟩ → tok.body ≠ .null →
    (τ tok).tag = none ∧ slotScalar it (τ tok).body = some (wildScalar fmt it dt dv)

section
variable (ts : Types) (a : Atlas) (trs : Trs) (it : IfaceTys)

/-- at fuel up to 999 the run that `isNullSer` looks at is this run, on more fuel -/
theorem NullSpec.of_le {f base : Nat} {inner : Val} {toks : List Tok} (hnp : ∀ e, ts.get base ≠ .ptr e)
    (hm : MRun.Writes ts a trs f (.bare base (pickBare ts a base) inner) toks) (hf : f ≤ 999) :
    NullSpec ts a trs toks base inner := by
  have h999 := congrArg MOut.toks (hm.mono hf).out
  rcases hm.headSpec with ⟨tg, rfl⟩ | ⟨t, r, rfl, hnn, -⟩
  · exact Or.inl ⟨⟨tg, rfl⟩, nullSer_true ts a trs base inner hnp h999⟩
  · exact Or.inr ⟨t, r, rfl, hnn, nullSer_false ts a trs base inner hnp t r h999 hnn⟩

theorem isBareNullSer_false (fmt : Fmt) {f dt : Nat} {dv : Val} {t : Tok} {r : List Tok}
    (hm : MRun.Writes ts a trs f (.v dt dv) (t :: r)) (ht : t.body ≠ .null ∨ (t.tag ≠ none ∧ fmt ≠ .json)) (hf : f ≤ 1000) :
    isBareNullSer fmt ts a trs dt dv = false := by
  have : marshalV ts a trs 1000 dt dv = ⟨t :: r, none⟩ := (hm.mono hf).out
  unfold isBareNullSer
  rw [this]
  cases r with
  | cons x xs => rfl
  | nil =>
    simp only
    split
    · rename_i hb
      rcases ht with ht | ⟨ht, hj⟩
      · exact absurd hb ht
      · cases htag : t.tag with
        | none => exact absurd htag ht
        | some g => cases fmt <;> first | rfl | exact absurd rfl hj
    · rfl

theorem isBareNullSer_null (fmt : Fmt) {f dt : Nat} {dv : Val} {tg : Option Int}
    (hm : MRun.Writes ts a trs f (.v dt dv) [⟨.null, tg⟩]) (htg : tg = none ∨ fmt = .json) (hf : f ≤ 1000) :
    isBareNullSer fmt ts a trs dt dv = true := by
  have : marshalV ts a trs 1000 dt dv = ⟨[⟨.null, tg⟩], none⟩ := (hm.mono hf).out
  unfold isBareNullSer
  rw [this]
  rcases htg with rfl | rfl <;> simp

theorem rtF_nonptr {id : Nat} (hnp : ∀ e, ts.get id ≠ .ptr e) (g : Nat) (v : Val) :
    rtF ts a trs it (g+1) id v = rtFB ts a trs it g id (pickBare ts a id) v :=
  rtSpec_cbor.R_nonptr hnp g v

theorem fullVal_nonptr {id : Nat} (hnp : ∀ e, ts.get id ≠ .ptr e) (g : Nat) (v : Val) :
    fullVal ts a trs it (g+1) id v = fullValB ts a trs it g id (pickBare ts a id) v :=
  rtSpec_cbor.S_nonptr hnp g v

end

end Refmt.Obj
