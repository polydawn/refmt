/-
  C12, claim (ii) — reading the entries of a struct in any order, and with entries left out whose value is in place
  already: the struct machine stores each value in the slot its key names, and stores at distinct indices commute
  (`foldl_setAt_*`).  See RefmtProofs/Props/C12Typed.lean, C12Tagged.lean.
-/
import RefmtProofs.Lemmas.LegDefs
namespace Refmt.Obj
open Refmt Refmt.C13 Refmt.C11 Refmt.C12 Refmt.C12L

variable {ts : Types} {a : Atlas} {trs : Trs} {it : IfaceTys}

theorem mem_filter_of_map_eq {α β : Type} {f : α → β} {l : List α} {l' : List β} {p : β → Bool} (h : l.map f = l'.filter p) :
    ∀ q ∈ l, f q ∈ l' ∧ p (f q) = true :=
  fun _ hq => List.mem_filter.mp (h ▸ List.mem_map_of_mem hq)

def routeIdx (f : SMField) : Nat := f.route.headD 0

def setAt {α β : Type} (ix : α → Nat) (val : α → β) (acc : List β) (x : α) : List β := acc.set (ix x) (val x)

section
variable {α β : Type} {ix : α → Nat} {val : α → β}

theorem foldl_setAt_perm {l1 l2 : List α} (hp : l1.Perm l2) :
    (l1.map ix).Nodup → ∀ cs, l1.foldl (setAt ix val) cs = l2.foldl (setAt ix val) cs := by
  induction hp with
  | nil => intro _ cs; rfl
  | cons x _ ih =>
    intro hnd cs
    simp only [List.map_cons, List.nodup_cons] at hnd
    exact ih hnd.2 _
  | swap x y l =>
    intro hnd cs
    simp only [List.map_cons, List.nodup_cons, List.mem_cons, not_or] at hnd
    simp only [List.foldl_cons, setAt]
    rw [List.set_comm _ _ (Ne.symm hnd.1.1)]
  | trans h1 _ ih1 ih2 =>
    intro hnd cs
    rw [ih1 hnd cs]
    exact ih2 (((h1.map _).nodup_iff).mp hnd) cs

theorem foldl_setAt_get_other : ∀ (l : List α) (cs : List β) (j : Nat),
    (∀ q ∈ l, ix q ≠ j) → (l.foldl (setAt ix val) cs)[j]? = cs[j]? := by
  intro l
  induction l with
  | nil => intro cs j _; rfl
  | cons q qs ih =>
    intro cs j h
    simp only [List.foldl_cons]
    rw [ih _ j (fun y hy => h y (by simp [hy]))]
    exact List.getElem?_set_ne (h q (by simp))

theorem foldl_setAt_get : ∀ (l : List α) (cs : List β),
    (l.map ix).Nodup → (∀ q ∈ l, ix q < cs.length) → ∀ q ∈ l, (l.foldl (setAt ix val) cs)[ix q]? = some (val q) := by
  intro l
  induction l with
  | nil => intro cs _ _ q hq; cases hq
  | cons x xs ih =>
    intro cs hnd hlt q hq
    simp only [List.map_cons, List.nodup_cons] at hnd
    simp only [List.foldl_cons]
    rcases List.mem_cons.mp hq with rfl | hq'
    · rw [foldl_setAt_get_other xs _ _ (fun y hy he => hnd.1 (by rw [← he]; exact List.mem_map_of_mem hy))]
      simp only [setAt]
      rw [List.getElem?_set_self (hlt q (by simp))]
    · exact ih _ hnd.2 (fun y hy => by simp only [setAt, List.length_set]; exact hlt y (by simp [hy])) q hq'

theorem foldl_setAt_filter (P : α → Bool) : ∀ (l : List α) (cs : List β),
    (l.map ix).Nodup → (∀ q ∈ l, P q = false → cs[ix q]? = some (val q)) →
    l.foldl (setAt ix val) cs = (l.filter P).foldl (setAt ix val) cs := by
  intro l
  induction l with
  | nil => intro cs _ _; rfl
  | cons x xs ih =>
    intro cs hnd h
    simp only [List.map_cons, List.nodup_cons] at hnd
    have hrest : ∀ cs' : List β, (∀ j : Nat, j ≠ ix x → cs'[j]? = cs[j]?) →
        ∀ q ∈ xs, P q = false → cs'[ix q]? = some (val q) := by
      intro cs' hcs' q hq hP
      rw [hcs' _ (fun he => hnd.1 (by rw [← he]; exact List.mem_map_of_mem hq))]
      exact h q (by simp [hq]) hP
    cases hPx : P x with
    | true =>
      simp only [List.foldl_cons, List.filter_cons, hPx, if_true]
      exact ih _ hnd.2 (hrest _ (fun j hj => by simp only [setAt]; exact List.getElem?_set_ne (Ne.symm hj)))
    | false =>
      simp only [List.foldl_cons, List.filter_cons, hPx, Bool.false_eq_true, if_false]
      obtain ⟨hi, hx⟩ := List.getElem?_eq_some_iff.mp (h x (by simp) hPx)
      have : setAt ix val cs x = cs := by rw [setAt, ← hx]; exact List.set_getElem_self hi
      rw [this]
      exact ih _ hnd.2 (hrest _ (fun j _ => rfl))

end

abbrev setStep : List Val → SMField × Item → List Val := setAt (fun p => routeIdx p.1) (·.2.r)

/-- `isEmpty 1000`: the depth at which the marshaller (the struct arm of `marshalBare`, before `marshalFields`) and `emitP` test `omitempty` -/
theorem emitP_at {fld : SMField} {i : Nat} {xs : List Val} {x : Val} (hign : fld.ignore = false) (hroute : fld.route = [i])
    (hx : xs[i]? = some x) : emitP (.struct xs) fld = !(fld.omitEmpty && isEmpty 1000 x) := by
  unfold emitP
  rw [hroute, traverse_one, hx]
  simp [hign]

/-- `idx` (entries read so far) and `len` (the declared length) are the struct job's own counters -/
theorem reads_struct (id : Nat) (fds : List FieldDesc) (fields : List SMField) (hd : ts.get id = .struct fds)
    (hnames : (fields.map (·.name)).Nodup) : ∀ (l : List (SMField × Item)),
    (∀ p ∈ l, p.1 ∈ fields ∧ p.1.ignore = false ∧ (∃ i fd, p.1.route = [i] ∧ fds[i]? = some fd) ∧
      ∃ f, Reads ts a trs it f (.v p.1.ty (zeroVal ts 64 p.1.ty)) p.2.tk2 p.2.r) →
    (l.map fun p => routeIdx p.1).Nodup →
    ∀ (cs : List Val) (idx : Nat) (len : Int), cs.length = fds.length →
    (∀ p ∈ l, cs[routeIdx p.1]? = some (zeroVal ts 64 p.1.ty)) → len = ((idx + l.length : Nat) : Int) →
    ∃ f, Reads ts a trs it f (.struct id fields len idx (.struct cs))
      (l.flatMap (fun p => ⟨.str p.1.name, none⟩ :: p.2.tk2) ++ [⟨.mapClose, none⟩]) (.struct (l.foldl setStep cs)) := by
  intro l
  induction l with
  | nil =>
    intro _ _ cs idx len _ _ hlen
    exact ⟨1, .struct_close rfl (by simp [hlen])⟩
  | cons p ps ih =>
    intro h hnd cs idx len hcs hzero hlen
    obtain ⟨hmem, hign, ⟨i, fd, hroute, hfd⟩, f1, hx⟩ := h p (by simp)
    have hri : routeIdx p.1 = i := by simp [routeIdx, hroute]
    have hci : cs[i]? = some (zeroVal ts 64 p.1.ty) := by rw [← hri]; exact hzero p (by simp)
    simp only [List.map_cons, List.nodup_cons] at hnd
    obtain ⟨f2, hxs⟩ := ih (fun y hy => h y (by simp [hy])) hnd.2 (cs.set i p.2.r) (idx + 1) len (by simp [hcs])
      (fun y hy => by
        have hne : i ≠ routeIdx y.1 := by
          intro he
          apply hnd.1
          rw [hri, he]
          exact List.mem_map_of_mem (f := fun p => routeIdx p.1) hy
        rw [List.getElem?_set_ne hne]
        exact hzero y (by simp [hy]))
      (by rw [hlen]; simp only [List.length_cons]; congr 1; omega)
    have := Reads.struct_field (t := ⟨.str p.1.name, none⟩) (len := len) (idx := idx) rfl (ObjL.find?_key (·.name) fields hnames p.1 hmem) hign
      (by rw [hroute]; exact getRoute_one ts hd hfd hci) (hx.mono (Nat.le_max_left f1 f2))
      (by rw [hroute]; exact setRoute_one ts _ hd hfd hci) (hxs.mono (Nat.le_max_right f1 f2))
    exact ⟨_, by simpa [List.flatMap_cons, setStep, setAt, hri] using this⟩

theorem fold_fieldStep (id : Nat) (fds : List FieldDesc) (vs : List Val) (R : Nat → Val → Val) (hd : ts.get id = .struct fds) :
    ∀ (l : List (SMField × Item)) (cs : List Val), cs.length = fds.length →
    (∀ p ∈ l, ∃ i fd fv, p.1.route = [i] ∧ fds[i]? = some fd ∧ vs[i]? = some fv ∧ p.2.r = R p.1.ty fv) →
    (l.map (·.1)).foldl (fieldStep ts id (.struct vs) R) (.struct cs) = .struct (l.foldl setStep cs) := by
  intro l
  induction l with
  | nil => intro cs _ _; rfl
  | cons p ps ih =>
    intro cs hcs h
    obtain ⟨i, fd, fv, hroute, hfd, hvi, hr⟩ := h p (by simp)
    have hilt : i < cs.length := by
      rw [hcs]
      exact (List.getElem?_eq_some_iff.mp hfd).1
    have hci : cs[i]? = some cs[i] := List.getElem?_eq_getElem hilt
    have hstep : fieldStep ts id (.struct vs) R (.struct cs) p.1 = .struct (setStep cs p) := by
      unfold fieldStep
      rw [hroute, traverse_one, hvi]
      simp only
      rw [setRoute_one ts _ hd hfd hci]
      simp [setStep, setAt, routeIdx, hroute, hr]
    simp only [List.map_cons, List.foldl_cons, hstep]
    exact ih _ (by simp [setStep, setAt, hcs]) (fun y hy => h y (by simp [hy]))

end Refmt.Obj
