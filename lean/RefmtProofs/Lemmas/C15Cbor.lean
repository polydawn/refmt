/-
  C15 support: the CBOR decoder model (RefmtModel/Model/CborDec.lean) as a client program (`Prog`) of the
  reader interface.  One `Prog`-valued mirror per model function, in continuation-passing style, and one
  lemma per mirror: running the mirror over a cursor and continuing = continuing from the model function's
  result and the reader it leaves.  `N` is the iteration bound of the chunk loop (Lemmas/ProgExec.lean says
  why a program needs one).
-/
import RefmtModel
import RefmtProofs.Lemmas.CborReads
import RefmtProofs.Lemmas.ProgExec
namespace Refmt.C15Prog
open Refmt Refmt.C15 Refmt.CborDec

abbrev CborRes := List Tok × Except Err Unit × Nat × Nat

def cborProj (r : CborDec.RunOut) : CborRes := (r.toks, r.res, r.steps, r.alloc)

namespace Cbor
open Refmt.CborEnc (majUint majNeg majBytes majStr majArr majMap majTag sigFalse sigTrue sigNil sigUndef sigF16 sigF32 sigF64 sigIndefBytes sigIndefStr sigIndefArr sigIndefMap sigBreak)

variable {β : Type}

def readMap (n : Nat) (f : Bytes → Nat) (k : Except Err Nat → Prog β) : Prog β :=
  .readN n fun r => match r with
    | .ok bs => k (.ok (f bs))
    | .error e => k (.error e)

def decUintP (major : Nat) (k : Except Err Nat → Prog β) : Prog β :=
  let v := major % 32
  if v ≤ 0x17 then k (.ok v)
  else if v == 0x18 then rd1 k
  else if v == 0x19 then readMap 2 beVal k
  else if v == 0x1a then readMap 4 beVal k
  else if v == 0x1b then readMap 8 beVal k
  else k (.error .syntax)

def contR {α : Type} (k : Except Err α → Prog β) (X : R α) : β × Rd := exec (k X.res) X.rd

def contA {α : Type} (k : Except Err α → Nat → Prog β) (X : R α) : β × Rd := exec (k X.res X.alloc) X.rd

theorem readMap_spec (n : Nat) (f : Bytes → Nat) (k : Except Err Nat → Prog β) (rd : Rd) :
    exec (readMap n f k) rd = contR k (readVal rd n f) := by
  unfold readMap readVal
  rw [exec]
  rcases rd.readN n with ⟨e | bs, rd'⟩ <;> rfl

theorem rd1_spec (k : Except Err Nat → Prog β) (rd : Rd) :
    exec (rd1 k) rd = contR k (read1Val rd) := by
  rw [exec_rd1]
  unfold read1Val
  rcases rd.read1 with ⟨e | ⟨b, rd1⟩, rd'⟩ <;> rfl

theorem decUintP_spec (major : Nat) (k : Except Err Nat → Prog β) (rd : Rd) :
    exec (decUintP major k) rd = contR k (decUint rd major) :=
  exec_ite _ rfl <| exec_ite _ (rd1_spec k rd) <| exec_ite _ (readMap_spec 2 _ k rd) <|
    exec_ite _ (readMap_spec 4 _ k rd) <| exec_ite _ (readMap_spec 8 _ k rd) rfl

theorem decLen_alloc (rd : Rd) (m : Nat) : (decLen rd m).alloc = 0 := (decLen_len rd m).2

def decRangeP {α : Type} (g : Nat → α) (major : Nat) (k : Except Err α → Prog β) : Prog β :=
  decUintP major fun r => match r with
    | .error e => k (.error e)
    | .ok ui => if ui > maxInt then k (.error .range) else k (.ok (g ui))

theorem decRangeP_spec {α : Type} (g : Nat → α) (major : Nat) (k : Except Err α → Prog β) (rd : Rd) :
    exec (decRangeP g major k) rd = contR k (decRange g rd major) := by
  unfold decRangeP decRange
  rw [decUintP_spec]
  generalize decUint rd major = u
  rcases u with ⟨e | ui, rd', al⟩
  · rfl
  · exact exec_ite _ rfl rfl

def decNegIntP (major : Nat) (k : Except Err Int → Prog β) : Prog β :=
  decUintP major fun r => match r with
    | .error e => k (.error e)
    | .ok ui => if ui > maxInt then k (.error .range) else k (.ok (-1 - (ui : Int)))

theorem decNegIntP_spec (major : Nat) (k : Except Err Int → Prog β) (rd : Rd) :
    exec (decNegIntP major k) rd = contR k (decNegInt rd major) :=
  decRangeP_spec (fun ui => -1 - (ui : Int)) major k rd

def decLenP (major : Nat) (k : Except Err Nat → Prog β) : Prog β :=
  decUintP major fun r => match r with
    | .error e => k (.error e)
    | .ok ui => if ui > maxInt then k (.error .range) else k (.ok ui)

theorem decLenP_spec (major : Nat) (k : Except Err Nat → Prog β) (rd : Rd) :
    exec (decLenP major k) rd = contR k (decLen rd major) :=
  decRangeP_spec (fun ui => ui) major k rd

theorem lenReadP_spec (major : Nat) (k : Except Err Bytes → Nat → Prog β) (aOk aErr : Nat → Nat)
    (K : Nat → Except Err Bytes → Prog β)
    (hK : ∀ n r, K n r = k r (match r with | .ok _ => aOk n | .error _ => aErr n)) (rd : Rd) :
    exec (decLenP major fun r => match r with
      | .error e => k (.error e) 0
      | .ok n => if n > cap32M then k (.error .range) 0 else .readN n (K n)) rd =
      contA k (lenRead rd major aOk aErr) := by
  unfold lenRead
  rw [decLenP_spec]
  generalize decLen rd major = u
  rcases u with ⟨e | n, rd', al⟩
  · rfl
  · refine exec_ite _ rfl ?_
    rw [exec, hK]
    rcases rd'.readN n with ⟨e | bs, rd''⟩ <;> rfl

def decBytesP (major : Nat) (k : Except Err Bytes → Nat → Prog β) : Prog β :=
  decLenP major fun r => match r with
    | .error e => k (.error e) 0
    | .ok n =>
      if n > cap32M then k (.error .range) 0
      else .readN n fun r => k r n

theorem decBytesP_spec (major : Nat) (k : Except Err Bytes → Nat → Prog β) (rd : Rd) :
    exec (decBytesP major k) rd = contA k (decBytes rd major) :=
  lenReadP_spec major k (fun n => n) (fun n => n) _ (fun n r => by cases r <;> rfl) rd

def decStringP (major : Nat) (k : Except Err Bytes → Nat → Prog β) : Prog β :=
  decLenP major fun r => match r with
    | .error e => k (.error e) 0
    | .ok n =>
      if n > cap32M then k (.error .range) 0
      else .readN n fun r => match r with
        | .ok bs => k (.ok bs) ((if n < 32 then 0 else n) + n)
        | .error e => k (.error e) (if n < 32 then 0 else n)

theorem decStringP_spec (major : Nat) (k : Except Err Bytes → Nat → Prog β) (rd : Rd) :
    exec (decStringP major k) rd = contA k (decString rd major) :=
  lenReadP_spec major k _ _ _ (fun n r => by cases r <;> rfl) rd

def decFloatP (major : Nat) (k : Except Err Nat → Prog β) : Prog β :=
  if major == sigF16 then readMap 2 (fun bs => f32to64 (halfToFloatBits (beVal bs))) k
  else if major == sigF32 then readMap 4 (fun bs => f32to64 (beVal bs)) k
  else readMap 8 beVal k

theorem decFloatP_spec (major : Nat) (k : Except Err Nat → Prog β) (rd : Rd) :
    exec (decFloatP major k) rd = contR k (decFloat rd major) :=
  exec_ite _ (readMap_spec 2 _ k rd) <| exec_ite _ (readMap_spec 4 _ k rd) (readMap_spec 8 _ k rd)

def decChunksP : Nat → Nat → Bytes → Nat → Nat → (Except Err Bytes → Nat → Prog β) → Prog β
  | 0, _, _, _, alloc, k => k (.error .other) alloc
  | fuel+1, majorWanted, acc, cap, alloc, k =>
    rd1 fun r => match r with
      | .error e => k (.error e) alloc
      | .ok mb =>
        if mb == sigBreak then k (.ok acc) alloc
        else if mb / 32 * 32 != majorWanted then k (.error .syntax) alloc
        else
          decLenP mb fun r => match r with
            | .error e => k (.error e) alloc
            | .ok n =>
              if n > cap32M then k (.error .range) alloc
              else
                let newLen := acc.length + n
                let ca : Nat × Nat := if newLen > cap then (2 * cap + n, alloc + 2 * cap + n) else (cap, alloc)
                .readN n fun r => match r with
                  | .ok bs => decChunksP fuel majorWanted (acc ++ bs) ca.1 ca.2 k
                  | .error e => k (.error e) ca.2

theorem decChunksP_spec (majorWanted : Nat) (k : Except Err Bytes → Nat → Prog β) :
    ∀ (fuel : Nat) (acc : Bytes) (cap alloc : Nat) (rd : Rd),
    exec (decChunksP fuel majorWanted acc cap alloc k) rd = contA k (decChunks fuel rd majorWanted acc cap alloc) := by
  intro fuel
  induction fuel with
  | zero => intro acc cap alloc rd; rfl
  | succ fuel ih =>
    intro acc cap alloc rd
    rw [decChunksP, decChunks, exec_rd1]
    rcases rd.read1 with ⟨e | ⟨mb, rd1⟩, rd'⟩
    · rfl
    · refine exec_ite _ rfl <| exec_ite _ rfl ?_
      rw [decLenP_spec]
      generalize decLen rd1 mb = u
      rcases u with ⟨e | n, rd2, al⟩
      · rfl
      · refine exec_ite _ rfl ?_
        rw [exec]
        rcases rd2.readN n with ⟨e | bs, rd''⟩
        · rfl
        · exact ih _ _ _ _

theorem decChunks_fuel (mw : Nat) (f g : Nat) (rd : Rd) (acc : Bytes) (cap alloc : Nat)
    (hf : rd.data.length < f) (hg : rd.data.length < g) :
    decChunks f rd mw acc cap alloc = decChunks g rd mw acc cap alloc := by
  refine fuel_irrelevant (fun _ rd => rd.data.length)
    (fun f (s : Bytes × Nat × Nat) rd => decChunks f rd mw s.1 s.2.1 s.2.2) ?_ f g (acc, cap, alloc) rd hf hg
  intro f g s rd hrec
  rw [decChunks, decChunks]
  rcases h : rd.read1 with ⟨e | ⟨mb, rd1⟩, rd'⟩
  · rfl
  · have h1 := C06.read1_ok_len h
    refine ite_congr rfl (fun _ => rfl) fun _ => ite_congr rfl (fun _ => rfl) fun _ => ?_
    have hl := (decLen_len rd1 mb).1
    generalize decLen rd1 mb = u at hl
    rcases u with ⟨e | n, rd2, al⟩
    · rfl
    · refine ite_congr rfl (fun _ => rfl) fun _ => ?_
      dsimp only at hl ⊢
      rcases h2 : rd2.readN n with ⟨e | bs, rd''⟩
      · rfl
      · have h3 := (C06.readN_ok_len h2).1
        exact hrec (_, _, _) _ (by omega)

/-- `Out` without the reader: a continuation of a `Prog` cannot be handed a reader, so the mirrors of the functions
    that return an `Out` pass on an `O` (`scalarO`, `inContainerO`, `postO` are `scalarOut`, `inContainer` and the
    tail of `step` on it). -/
structure O where
  st : St
  ret : CborDec.Ret
  alloc : Nat := 0

def strip (o : Out) : O := ⟨o.st, o.ret, o.alloc⟩

def scalarO {α : Type} (s : St) (res : Except Err α) (alloc : Nat) (mk : α → Body) (tag : Option Int) : O :=
  match res with
  | .ok v => ⟨s, .tok ⟨mk v, tag⟩ true, alloc⟩
  | .error e => ⟨s, .err e, alloc⟩

theorem strip_scalarOut {α : Type} (s : St) (r : R α) (mk : α → Body) (tag : Option Int) :
    strip (scalarOut s r mk tag) = scalarO s r.res r.alloc mk tag := by
  rcases r with ⟨e | v, rd, al⟩ <;> rfl

def contO (k : O → Prog β) (o : Out) : β × Rd := exec (k (strip o)) o.rd

theorem scalar_spec {α : Type} {s : St} {r : R α} {mk : α → Body} {tag : Option Int} {k : O → Prog β} {a : Nat}
    (ha : r.alloc = a) :
    exec (k (scalarO s r.res a mk tag)) r.rd = contO k (scalarOut s r mk tag) := by
  unfold contO
  rw [strip_scalarOut, scalarOut_rd, ha]

/-- the body of `acceptValue`, with the recursive call (after a tag) abstracted as `rec mb t` -/
def acceptValueB (coerce : Bool) (N : Nat) (s : St) (major : Nat) (tag : Option Int)
    (k : O → Prog β) (rec : Nat → Int → Prog β) : Prog β :=
  if major == sigNil then k ⟨s, .tok ⟨.null, tag⟩ true, 0⟩
  else if major == sigUndef then
    if coerce then k ⟨s, .tok ⟨.null, tag⟩ true, 0⟩ else k ⟨s, .err .syntax, 0⟩
  else if major == sigFalse then k ⟨s, .tok ⟨.bool false, tag⟩ true, 0⟩
  else if major == sigTrue then k ⟨s, .tok ⟨.bool true, tag⟩ true, 0⟩
  else if major == sigF16 || major == sigF32 || major == sigF64 then
    decFloatP major fun r => k (scalarO s r 0 Body.float tag)
  else if major == sigIndefBytes then
    decChunksP N majBytes [] 16 16 fun r al => k (scalarO s r al Body.bytes tag)
  else if major == sigIndefStr then
    decChunksP N majStr [] 16 16 fun r al =>
      k (scalarO s r (al + (match r with | .ok bs => bs.length | _ => 0)) Body.str tag)
  else if major == sigIndefArr then k ⟨push s .arrIndef, .tok ⟨.arrOpen (-1), tag⟩ false, 0⟩
  else if major == sigIndefMap then k ⟨push s .mapIndefKey, .tok ⟨.mapOpen (-1), tag⟩ false, 0⟩
  else if major < majNeg then decUintP major fun r => k (scalarO s r 0 Body.uint tag)
  else if major < majBytes then decNegIntP major fun r => k (scalarO s r 0 Body.int tag)
  else if major < majStr then decBytesP major fun r al => k (scalarO s r al Body.bytes tag)
  else if major < majArr then decStringP major fun r al => k (scalarO s r al Body.str tag)
  else if major < majMap then
    decLenP major fun r => match r with
      | .ok n => k ⟨push { s with left := n :: s.left } .arrDef, .tok ⟨.arrOpen n, tag⟩ false, 0⟩
      | .error e => k ⟨s, .err e, 0⟩
  else if major < majTag then
    decLenP major fun r => match r with
      | .ok n => k ⟨push { s with left := n :: s.left } .mapDefKey, .tok ⟨.mapOpen n, tag⟩ false, 0⟩
      | .error e => k ⟨s, .err e, 0⟩
  else if major < 0xe0 then
    match tag with
    | some _ => k ⟨s, .err .syntax, 0⟩
    | none =>
      decLenP major fun r => match r with
        | .error e => k ⟨s, .err e, 0⟩
        | .ok t =>
          rd1 fun r => match r with
            | .error e => k ⟨s, .err e, 0⟩
            | .ok mb => rec mb (t : Int)
  else k ⟨s, .err .syntax, 0⟩

def acceptValueP (coerce : Bool) (N : Nat) : Nat → St → Nat → Option Int → (O → Prog β) → Prog β
  | 0, s, major, tag, k => acceptValueB coerce N s major tag k fun _ _ => k ⟨s, .err .other, 0⟩
  | fuel+1, s, major, tag, k =>
    acceptValueB coerce N s major tag k fun mb t => acceptValueP coerce N fuel s mb (some t) k

theorem acceptValueB_spec (coerce : Bool) (N : Nat) (k : O → Prog β) (rec : Nat → Int → Prog β) (fuel : Nat)
    (s : St)
    (hrec : ∀ (mb : Nat) (t : Nat) (rd1 : Rd), rd1.data.length < N →
      exec (rec mb (t : Int)) rd1 =
        match fuel with
        | 0 => exec (k ⟨s, .err .other, 0⟩) rd1
        | f+1 => contO k (acceptValue coerce s rd1 mb (some (t : Int)) f))
    (rd : Rd) (major : Nat) (tag : Option Int) (hN : rd.data.length < N) :
    exec (acceptValueB coerce N s major tag k rec) rd = contO k (acceptValue coerce s rd major tag fuel) := by
  have hch := fun mw => decChunks_fuel mw N (rd.data.length + 1) rd [] 16 16 hN (by omega)
  unfold acceptValueB acceptValue
  refine exec_ite _ rfl <| exec_ite _ (by cases coerce <;> rfl) <| exec_ite _ rfl <| exec_ite _ rfl <|
    exec_ite _ ?float <| exec_ite _ ?chunkBytes <| exec_ite _ ?chunkStr <| exec_ite _ rfl <| exec_ite _ rfl <|
    exec_ite _ ?uint <| exec_ite _ ?negInt <| exec_ite _ ?bytes <| exec_ite _ ?str <|
    exec_ite _ ?arr <| exec_ite _ ?map <| exec_ite _ ?tagged rfl
  case arr | map =>
    rw [decLenP_spec]
    generalize decLen rd major = u
    rcases u with ⟨e | n, rd', al⟩ <;> rfl
  case float => rw [decFloatP_spec]; exact scalar_spec (decFloat_len rd major).2
  case uint => rw [decUintP_spec]; exact scalar_spec (decUint_len rd major).2
  case negInt => rw [decNegIntP_spec]; exact scalar_spec (decNegInt_len rd major).2
  case bytes => rw [decBytesP_spec]; exact scalar_spec rfl
  case str => rw [decStringP_spec]; exact scalar_spec rfl
  case chunkBytes => rw [decChunksP_spec, hch]; exact scalar_spec rfl
  case chunkStr =>
    unfold contO
    rw [decChunksP_spec, strip_scalarOut, scalarOut_rd, hch]
    generalize decChunks (rd.data.length + 1) rd majStr [] 16 16 = u
    rcases u with ⟨e | bs, rd', al⟩ <;> rfl
  case tagged =>
    cases tag with
    | some _ => rfl
    | none =>
      rw [decLenP_spec]
      have hl := (decLen_len rd major).1
      generalize decLen rd major = u at hl
      rcases u with ⟨e | t, rd', al⟩
      · rfl
      · unfold contR
        dsimp only at hl ⊢
        rw [exec_rd1]
        rcases h : rd'.read1 with ⟨e | ⟨mb, rd1⟩, rd''⟩
        · rfl
        · have h1 := C06.read1_ok_len h
          dsimp only
          rw [hrec mb t rd1 (by omega)]
          cases fuel <;> rfl

theorem acceptValueP_spec (coerce : Bool) (N : Nat) (k : O → Prog β) :
    ∀ (fuel : Nat) (s : St) (rd : Rd) (major : Nat) (tag : Option Int), rd.data.length < N →
    exec (acceptValueP coerce N fuel s major tag k) rd = contO k (acceptValue coerce s rd major tag fuel) := by
  intro fuel
  induction fuel with
  | zero =>
    intro s rd major tag hN
    rw [acceptValueP]
    exact acceptValueB_spec coerce N k _ 0 s (fun _ _ _ _ => rfl) rd major tag hN
  | succ fuel ih =>
    intro s rd major tag hN
    rw [acceptValueP]
    exact acceptValueB_spec coerce N k _ (fuel + 1) s (fun mb t rd1 h1 => ih s rd1 mb (some (t : Int)) h1) rd major tag hN

def inContainerO (o : O) : O :=
  match o.ret with
  | .tok t _ => { o with ret := .tok t false }
  | .err _ => o

theorem contO_inContainer (k : O → Prog β) (o : Out) :
    contO (fun o => k (inContainerO o)) o = contO k (inContainer o) := by
  rcases o with ⟨st, rd, ret | e, al⟩ <;> rfl

theorem acceptValueP_in (coerce : Bool) (N : Nat) (k : O → Prog β) (s : St) (rd : Rd) (mb : Nat)
    (hN : rd.data.length < N) :
    exec (acceptValueP coerce N 1 s mb none fun o => k (inContainerO o)) rd =
      contO k (inContainer (acceptValue coerce s rd mb none 1)) := by
  rw [acceptValueP_spec coerce N _ 1 s rd mb none hN]
  exact contO_inContainer k _

def withMajorP (s : St) (k : O → Prog β) (f : Nat → Prog β) : Prog β :=
  rd1 fun r => match r with
    | .error e => k ⟨s, .err e, 0⟩
    | .ok mb => f mb

theorem withMajorP_spec (s : St) (k : O → Prog β) (f : Nat → Prog β) (g : Nat → Rd → Out) (rd : Rd)
    (h : ∀ mb rd1, rd1.data.length + 1 = rd.data.length → exec (f mb) rd1 = contO k (g mb rd1)) :
    exec (withMajorP s k f) rd = contO k (withMajor s rd g) := by
  unfold withMajorP withMajor
  rw [exec_rd1]
  rcases h1 : rd.read1 with ⟨e | ⟨mb, rd1⟩, rd'⟩
  · rfl
  · exact h mb rd1 (C06.read1_ok_len h1)

def subStepP (coerce : Bool) (N : Nat) (s : St) (k : O → Prog β) : Prog β :=
  match s.phase with
  | .acceptValue => withMajorP s k fun mb => acceptValueP coerce N 1 s mb none k
  | .arrIndef => withMajorP s k fun mb =>
      if mb == sigBreak then k ⟨s, .tok ⟨.arrClose, none⟩ true, 0⟩
      else acceptValueP coerce N 1 s mb none fun o => k (inContainerO o)
  | .mapIndefKey => withMajorP s k fun mb =>
      if mb == sigBreak then k ⟨s, .tok ⟨.mapClose, none⟩ true, 0⟩
      else acceptValueP coerce N 1 { s with phase := .mapIndefVal } mb none fun o => k (inContainerO o)
  | .mapIndefVal => withMajorP s k fun mb =>
      if mb == sigBreak then k ⟨s, .err .syntax, 0⟩
      else acceptValueP coerce N 1 { s with phase := .mapIndefKey } mb none fun o => k (inContainerO o)
  | .arrDef =>
    match s.left with
    | [] => k ⟨s, .err .other, 0⟩
    | 0 :: l => k ⟨{ s with left := l }, .tok ⟨.arrClose, none⟩ true, 0⟩
    | (n+1) :: l =>
      withMajorP { s with left := n :: l } k fun mb =>
        acceptValueP coerce N 1 { s with left := n :: l } mb none fun o => k (inContainerO o)
  | .mapDefKey =>
    match s.left with
    | [] => k ⟨s, .err .other, 0⟩
    | 0 :: l => k ⟨{ s with left := l }, .tok ⟨.mapClose, none⟩ true, 0⟩
    | (n+1) :: l =>
      withMajorP { s with left := n :: l } k fun mb =>
        acceptValueP coerce N 1 { s with left := n :: l, phase := .mapDefVal } mb none fun o => k (inContainerO o)
  | .mapDefVal => withMajorP s k fun mb =>
      acceptValueP coerce N 1 { s with phase := .mapDefKey } mb none fun o => k (inContainerO o)

theorem subStepP_spec (coerce : Bool) (N : Nat) (k : O → Prog β) (s : St) (rd : Rd) (hN : rd.data.length < N) :
    exec (subStepP coerce N s k) rd = contO k (subStep coerce s rd) := by
  rcases s with ⟨stack, ph, left⟩
  have inC := fun (s' : St) (mb : Nat) (rd1 : Rd) (h1 : rd1.data.length + 1 = rd.data.length) =>
    acceptValueP_in coerce N k s' rd1 mb (by omega)
  unfold subStepP subStep
  cases ph <;> dsimp only
  case acceptValue =>
    exact withMajorP_spec _ _ _ _ _ fun mb rd1 h1 => acceptValueP_spec coerce N k 1 _ rd1 mb none (by omega)
  case mapDefVal => exact withMajorP_spec _ _ _ _ _ fun mb rd1 h1 => inC _ mb rd1 h1
  case arrIndef | mapIndefKey | mapIndefVal =>
    exact withMajorP_spec _ _ _ _ _ fun mb rd1 h1 => exec_ite _ rfl (inC _ mb rd1 h1)
  case arrDef | mapDefKey =>
    rcases left with _ | ⟨_ | n, l⟩ <;> dsimp only
    · rfl
    · rfl
    · exact withMajorP_spec _ _ _ _ _ fun mb rd1 h1 => inC _ mb rd1 h1

def postO (o : O) : O :=
  match o.ret with
  | .err _ => o
  | .tok _ false => o
  | .tok t true =>
    match o.st.stack with
    | [] => o
    | [_] => o
    | p :: rest => { o with st := { o.st with phase := p, stack := rest }, ret := .tok t false }

theorem strip_step (coerce : Bool) (s : St) (rd : Rd) :
    strip (step coerce s rd) = postO (strip (subStep coerce s rd)) ∧
      (step coerce s rd).rd = (subStep coerce s rd).rd := by
  unfold step
  generalize subStep coerce s rd = o
  rcases o with ⟨⟨stack, ph, left⟩, rd', (⟨t, _ | _⟩ | e), al⟩
  · exact ⟨rfl, rfl⟩
  · rcases stack with _ | ⟨p, _ | ⟨q, rest⟩⟩ <;> exact ⟨rfl, rfl⟩
  · exact ⟨rfl, rfl⟩

def stepP (coerce : Bool) (N : Nat) (s : St) (k : O → Prog β) : Prog β :=
  subStepP coerce N s fun o => k (postO o)

theorem stepP_spec (coerce : Bool) (N : Nat) (k : O → Prog β) (s : St) (rd : Rd) (hN : rd.data.length < N) :
    exec (stepP coerce N s k) rd = contO k (step coerce s rd) := by
  unfold stepP
  rw [subStepP_spec coerce N _ s rd hN]
  unfold contO
  rw [(strip_step coerce s rd).1, (strip_step coerce s rd).2]

/-- The result type of `runP`: the tuple that `CborRes` abbreviates, under the name the type of `runP` is
    written with (both are `abbrev`s, so a result of `runP` compares with a `cborProj` without a cast). -/
abbrev Res := List Tok × Except Err Unit × Nat × Nat

def runP (coerce : Bool) (N : Nat) : Nat → St → List Tok → Nat → Nat → Prog Res
  | 0, _, acc, steps, alloc => .ret (acc.reverse, .error .other, steps, alloc)
  | fuel+1, s, acc, steps, alloc =>
    stepP coerce N s fun o => match o.ret with
      | .err e => .ret (acc.reverse, .error e, steps + 1, alloc + o.alloc)
      | .tok t true => .ret ((t :: acc).reverse, .ok (), steps + 1, alloc + o.alloc)
      | .tok t false => runP coerce N fuel o.st (t :: acc) (steps + 1) (alloc + o.alloc)

theorem runP_spec (coerce : Bool) (N : Nat) : ∀ (fuel : Nat) (s : St) (rd : Rd) (acc : List Tok) (steps alloc : Nat),
    rd.data.length < N →
    exec (runP coerce N fuel s acc steps alloc) rd = (cborProj (run coerce fuel s rd acc steps alloc), (run coerce fuel s rd acc steps alloc).rd) := by
  intro fuel
  induction fuel with
  | zero => intro s rd acc steps alloc hN; rfl
  | succ fuel ih =>
    intro s rd acc steps alloc hN
    rw [runP, run, stepP_spec coerce N _ s rd hN]
    have hl : (step coerce s rd).rd.data.length ≤ rd.data.length :=
      len_of_exec (stepP_spec coerce N (fun o => .ret o) s rd hN)
    unfold contO
    generalize step coerce s rd = o at hl
    rcases o with ⟨st, rd', (⟨t, _ | _⟩ | e), al⟩
    · dsimp only at hl
      exact ih _ _ _ _ _ (by show rd'.data.length < N; omega)
    · rfl
    · rfl

end Cbor
end Refmt.C15Prog
