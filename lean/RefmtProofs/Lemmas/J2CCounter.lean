/-
  The counterexample to `C10.j2c_statement`: a JSON string literal of `n` letters `a`, `n` above the
  decoders' 32 MiB cap.  The reference JSON reader accepts it; the RFC 7049 encoding of the string it
  denotes is rejected by the CBOR reference decoder because of the cap.
  Everything is proved for a symbolic `n`; nothing of that size is ever evaluated.
-/
import RefmtProofs.Lemmas.HeadReads
import RefmtProofs.Lemmas.JsonStr
namespace Refmt.PumpL
open Refmt Refmt.JsonDec Refmt.Spec.Json

def bigStr (n : Nat) : Bytes := List.replicate n 97
def bigJson (n : Nat) : Bytes := 34 :: (bigStr n ++ [34])

theorem bigJson_bytes (n : Nat) : B256 (bigJson n) := by
  intro x hx
  simp only [bigJson, bigStr, List.mem_cons, List.mem_append, List.mem_replicate, List.mem_nil_iff, or_false] at hx
  rcases hx with rfl | ⟨_, rfl⟩ | rfl <;> decide

theorem bigStr_SBody : ∀ n : Nat, C03L.SBody (bigStr n)
  | 0 => .nil
  | n+1 => .plain 97 _ (by decide) (by decide) (by decide) (bigStr_SBody n)

theorem lexString_big : ∀ (n f : Nat) (rest acc : Bytes), n < f →
    lexString f .normal (List.replicate n 97 ++ 34 :: rest) acc = some (acc.reverse ++ List.replicate n 97, rest) :=
  fun n f rest acc hf =>
    C03L.lexString_run _ .normal acc f rest (bigStr_SBody n).run (by rw [List.length_replicate]; exact hf)

theorem parseString_big : ∀ (n f : Nat), n < f → parseString f (List.replicate n 97) = some (List.replicate n 97)
  | _, 0, hf => absurd hf (Nat.not_lt_zero _)
  | 0, f+1, _ => C03L.ps_nil f
  | n+1, f+1, hf => by
    rw [List.replicate_succ, C03L.ps_plain f 97 _ (by decide) (by decide) (by decide) (by decide),
      parseString_big n f (Nat.lt_of_succ_lt_succ hf)]
    rfl

theorem parse_bigJson (n : Nat) :
    Spec.Json.parse (bigJson n) = some (.scalar ⟨.str (bigStr n), none⟩, []) := by
  unfold Spec.Json.parse
  rw [show 2 * (bigJson n).length + 2 = (2 * (bigJson n).length + 1) + 1 by omega]
  unfold bigJson bigStr
  rw [parseValue]
  have hskip : skip (34 :: (List.replicate n 97 ++ [34])) = 34 :: (List.replicate n 97 ++ [34]) := by
    simp [skip, isWs]
  rw [hskip]
  simp only [show ((34 : Nat) == 123) = false by decide, show ((34 : Nat) == 91) = false by decide,
    Bool.false_eq_true, if_false, beq_self_eq_true, if_true]
  rw [lexString_big n _ [] [] (by simp; omega)]
  simp only [List.reverse_nil, List.nil_append, Option.map_some]
  rw [parseString_big n _ (by simp)]
  rfl

theorem cbor_rejects_big (s : Bytes) (h1 : 33554432 < s.length) (h2 : s.length < 4294967296) :
    Spec.Cbor.parse false (Spec.Cbor.enc (.scalar ⟨.str s, none⟩)) = none := by
  obtain ⟨b, tl, e, _, _, hh⟩ := C04.headOf_head 0x60 s.length (by decide) (by decide) (by unfold two64; omega)
  simp only [Spec.Cbor.enc, Spec.Cbor.tagBytes, Spec.Cbor.encBody, List.nil_append, e, List.cons_append]
  unfold Spec.Cbor.parse
  rw [show 2 * (b :: (tl ++ s)).length + 2 = (2 * (b :: (tl ++ s)).length + 1) + 1 by omega, C04.parseItem_eq, hh false s]
  -- the length is above the cap, so there is no head
  show C04.itemOf _ _ _ (if (decide (s.length > Spec.Cbor.maxInt) || decide (s.length > Spec.Cbor.cap32M) ||
    decide (s.length < s.length)) = true then none else _) = none
  rw [if_pos (Decidable.byContradiction fun hc => by
    have := (C04.capped_false.1 hc).2.1; unfold Spec.Cbor.cap32M at this; omega)]
  rfl

end Refmt.PumpL
