/-
  The reference reader `Spec.Json.parse` by itself: `skip`, the scalar branches as one function (`refScalar`), how a
  round of a container begins (`round`), the three mutually recursive readers in a normal form over these, and
  induction over their successful runs (`parse_induct`).  Each piece returns a suffix of its input; hence the tokens
  of a value and what is left behind it are no more than the input is long (`parse_len`).
-/
import RefmtProofs.Lemmas.JsonNum
import RefmtProofs.Lemmas.JsonStr
namespace Refmt.C05L
open Refmt Refmt.JsonDec Refmt.Spec.Json

theorem skip_cons_notws {b : Nat} (r : Bytes) (h : isWs b = false) : skip (b :: r) = b :: r := by
  simp [skip, h]

theorem skip_head {bs : Bytes} {b : Nat} {r : Bytes} (h : skip bs = b :: r) : isWs b = false := by
  induction bs with
  | nil => simp [skip] at h
  | cons x xs ih =>
    simp only [skip] at h
    split at h
    · exact ih h
    · rename_i hx
      simp only [List.cons.injEq] at h
      rw [← h.1]; simpa using hx

theorem skip_suffix (bs : Bytes) : skip bs <:+ bs := by
  induction bs with
  | nil => exact List.suffix_refl _
  | cons x xs ih =>
    simp only [skip]
    split
    · exact ih.trans (List.suffix_cons x xs)
    · exact List.suffix_refl _

theorem skip_len (bs : Bytes) : (skip bs).length ≤ bs.length := (skip_suffix bs).length_le

theorem skip_idem (bs : Bytes) : skip (skip bs) = skip bs := by
  cases h : skip bs with
  | nil => simp [skip]
  | cons b r => exact skip_cons_notws r (skip_head h)

/-- The `[]` is for a failure of `parseString`; there is none on the body of a lexed string (`SBody.unquote`). -/
def unq (raw : Bytes) : Bytes := (parseString (raw.length + 1) raw).getD []

def refScalar (b : Nat) (r : Bytes) : Option (Body × Bytes) :=
  if b == 34 then
    (lexString (r.length + 1) .normal r []).map fun (raw, r') =>
      (.str (unq raw), r')
  else if b == 110 then (if startsWith [117, 108, 108] r then some (.null, r.drop 3) else none)
  else if b == 116 then (if startsWith [114, 117, 101] r then some (.bool true, r.drop 3) else none)
  else if b == 102 then (if startsWith [97, 108, 115, 101] r then some (.bool false, r.drop 4) else none)
  else if b == 45 || isDigit b then
    match lexNumber (r.length + 2) (C03L.numStart b) r [b] with
    | none => none
    | some (text, r') => (match numTok text with | .ok body => some (body, r') | .error _ => none)
  else none

theorem refScalar_some {b : Nat} {r : Bytes} {body : Body} {r' : Bytes} (h : refScalar b r = some (body, r')) :
    (b = 34 ∧ ∃ raw, lexString (r.length + 1) .normal r [] = some (raw, r') ∧ body = .str (unq raw)) ∨
    ((b = 110 ∨ b = 116 ∨ b = 102) ∧ (body = .null ∨ body = .bool true ∨ body = .bool false) ∧ ∃ n, r' = r.drop n) ∨
    ((b = 45 ∨ isDigit b = true) ∧
      ∃ text, lexNumber (r.length + 2) (C03L.numStart b) r [b] = some (text, r') ∧ numTok text = .ok body) := by
  unfold refScalar at h
  by_cases h1 : (b == 34) = true
  · rw [if_pos h1] at h
    obtain ⟨⟨raw, r1⟩, hl, he⟩ := Option.map_eq_some_iff.mp h
    cases he
    exact .inl ⟨by simpa using h1, raw, hl, rfl⟩
  rw [if_neg h1] at h
  by_cases h2 : (b == 110) = true
  · rw [if_pos h2] at h
    split at h
    · cases h; exact .inr (.inl ⟨.inl (by simpa using h2), .inl rfl, 3, rfl⟩)
    · cases h
  rw [if_neg h2] at h
  by_cases h3 : (b == 116) = true
  · rw [if_pos h3] at h
    split at h
    · cases h; exact .inr (.inl ⟨.inr (.inl (by simpa using h3)), .inr (.inl rfl), 3, rfl⟩)
    · cases h
  rw [if_neg h3] at h
  by_cases h4 : (b == 102) = true
  · rw [if_pos h4] at h
    split at h
    · cases h; exact .inr (.inl ⟨.inr (.inr (by simpa using h4)), .inr (.inr rfl), 4, rfl⟩)
    · cases h
  rw [if_neg h4] at h
  by_cases h5 : (b == 45 || isDigit b) = true
  · rw [if_pos h5] at h
    cases hl : lexNumber (r.length + 2) (C03L.numStart b) r [b] with
    | none => simp only [hl] at h; cases h
    | some p =>
      obtain ⟨text, r1⟩ := p
      simp only [hl] at h
      cases hnt : numTok text with
      | error e => simp only [hnt] at h; cases h
      | ok body' =>
        simp only [hnt] at h
        cases h
        exact .inr (.inr ⟨by simpa using h5, text, rfl, hnt⟩)
  · rw [if_neg h5] at h; cases h

theorem refScalar_null (r : Bytes) :
    refScalar 110 r = if startsWith [117, 108, 108] r then some (.null, r.drop 3) else none := rfl

theorem refScalar_str (r raw r' : Bytes) (h : lexString (r.length + 1) .normal r [] = some (raw, r')) :
    refScalar 34 r = some (.str (unq raw), r') := by
  simp [refScalar, h, unq]

theorem refScalar_num (b : Nat) (r text r' : Bytes) (body : Body) (hb : b = 45 ∨ isDigit b = true)
    (h : lexNumber (r.length + 2) (C03L.numStart b) r [b] = some (text, r')) (ht : numTok text = .ok body) :
    refScalar b r = some (body, r') := by
  have hd : (b == 45 || isDigit b) = true := by rcases hb with rfl | h <;> simp [*]
  have h1 : b ≠ 34 ∧ b ≠ 110 ∧ b ≠ 116 ∧ b ≠ 102 := by
    simp only [isDigit, Bool.and_eq_true, decide_eq_true_eq] at hb; omega
  simp only [refScalar, beq_iff_eq, h1, if_false, hd, if_true, h, ht]

theorem parseValue_succ (f : Nat) (bs : Bytes) :
    parseValue (f + 1) bs =
      match skip bs with
      | [] => none
      | b :: r =>
        if b == 123 then (parseMembers f r false).map fun (es, r') => (.map none (-1) es, r')
        else if b == 91 then (parseElements f r false).map fun (vs, r') => (.arr none (-1) vs, r')
        else (refScalar b r).map fun (body, r') => (.scalar ⟨body, none⟩, r') := by
  rw [parseValue]
  cases hs : skip bs with
  | nil => rfl
  | cons b r =>
    simp only [refScalar]
    by_cases h1 : (b == 123) = true
    · simp only [h1, if_true]
    rw [if_neg h1, if_neg h1]
    by_cases h2 : (b == 91) = true
    · simp only [h2, if_true]
    rw [if_neg h2, if_neg h2]
    by_cases h3 : (b == 34) = true
    · simp only [h3, if_true, Option.map_map]; rfl
    rw [if_neg h3, if_neg h3]
    by_cases h4 : (b == 110) = true
    · simp only [h4, if_true]; split <;> rfl
    rw [if_neg h4, if_neg h4]
    by_cases h5 : (b == 116) = true
    · simp only [h5, if_true]; split <;> rfl
    rw [if_neg h5, if_neg h5]
    by_cases h6 : (b == 102) = true
    · simp only [h6, if_true]; split <;> rfl
    rw [if_neg h6, if_neg h6]
    by_cases h7 : (b == 45 || isDigit b) = true
    · simp only [h7, if_true, C03L.numStart]
      cases lexNumber (r.length + 2) (if (b == 45) = true then NS.neg else if (b == 48) = true then NS.s0 else NS.s1) r [b] with
      | none => rfl
      | some p =>
        obtain ⟨text, r'⟩ := p
        simp only
        cases numTok text <;> rfl
    rw [if_neg h7, if_neg h7]
    rfl

theorem parseValue_of_refScalar (f b : Nat) (r : Bytes) (body : Body) (r' : Bytes) (hw : isWs b = false)
    (h1 : b ≠ 123) (h2 : b ≠ 91) (h : refScalar b r = some (body, r')) :
    parseValue (f + 1) (b :: r) = some (.scalar ⟨body, none⟩, r') := by
  rw [parseValue_succ, skip_cons_notws r hw]
  simp only [beq_iff_eq, h1, h2, if_false, h, Option.map_some]

def entryStart (sm : Bool) (b : Nat) (r : Bytes) : Option Bytes :=
  if sm then (if b == 44 then some (skip r) else none) else some (b :: r)

theorem entryStart_eq_some {sm : Bool} {b : Nat} {r ks : Bytes} :
    entryStart sm b r = some ks ↔ (sm = false ∧ ks = b :: r) ∨ (sm = true ∧ b = 44 ∧ ks = skip r) := by
  unfold entryStart
  cases sm
  · simp only [Bool.false_eq_true, if_false, Option.some.injEq, true_and, false_and, or_false]
    exact eq_comm
  · by_cases h : b = 44
    · simp only [h, beq_self_eq_true, if_true, Option.some.injEq, Bool.true_eq_false, false_and, true_and, false_or]
      exact eq_comm
    · simp [h]

/-- how a round of a container begins: the input ends or is malformed; the container closes, directly or
    behind the comma refmt tolerates; or an entry starts at `b1`, which is not blank and not the close -/
inductive Round
  | fail
  | close (r : Bytes)
  | item (b1 : Nat) (r1 : Bytes)

def round (close : Nat) (sm : Bool) (bs : Bytes) : Round :=
  match skip bs with
  | [] => .fail
  | b :: r =>
    if b == close then .close r else
    match entryStart sm b r with
    | none => .fail
    | some [] => .fail
    | some (b1 :: r1) => if b1 == close then .close r1 else .item b1 r1

theorem round_cases (c : Nat) (sm : Bool) (bs : Bytes) :
    match round c sm bs with
    | .fail => skip bs = [] ∨ ∃ b r, skip bs = b :: r ∧ b ≠ c ∧ (entryStart sm b r = none ∨ entryStart sm b r = some [])
    | .close r1 => skip bs = c :: r1 ∨ ∃ b r, skip bs = b :: r ∧ b ≠ c ∧ entryStart sm b r = some (c :: r1)
    | .item b1 r1 => ∃ b r, skip bs = b :: r ∧ b ≠ c ∧ entryStart sm b r = some (b1 :: r1) ∧ b1 ≠ c := by
  unfold round
  cases hs : skip bs with
  | nil => exact .inl rfl
  | cons b r =>
    by_cases hb : b = c
    · subst hb; simp
    simp only [show (b == c) = false by simpa using hb, Bool.false_eq_true, if_false]
    cases he : entryStart sm b r with
    | none => exact .inr ⟨b, r, rfl, hb, .inl he⟩
    | some ks =>
      cases ks with
      | nil => exact .inr ⟨b, r, rfl, hb, .inr he⟩
      | cons b1 r1 =>
        by_cases hb1 : b1 = c
        · subst hb1; simp only [beq_self_eq_true, if_true]; exact .inr ⟨b, r, rfl, hb, he⟩
        · simp only [show (b1 == c) = false by simpa using hb1, Bool.false_eq_true, if_false]
          exact ⟨b, r, rfl, hb, he, hb1⟩

theorem parseValue_nil (f : Nat) : parseValue f [] = none := by
  cases f with
  | zero => simp [parseValue]
  | succ f => simp [parseValue, skip]

theorem parseElements_succ (f : Nat) (bs : Bytes) (sm : Bool) :
    parseElements (f + 1) bs sm =
      match round 93 sm bs with
      | .fail => none
      | .close r => some ([], r)
      | .item b1 r1 =>
        match parseValue f (b1 :: r1) with
        | none => none
        | some (v, r2) => (parseElements f r2 true).map fun (vs, r3) => (v :: vs, r3) := by
  rw [parseElements, round]
  cases hs : skip bs with
  | nil => rfl
  | cons b r =>
    simp only
    by_cases h93 : (b == 93) = true
    · simp only [h93, if_true]
    rw [if_neg h93, if_neg h93]
    cases sm with
    | false => simp only [entryStart, Bool.false_eq_true, if_false, if_neg h93]; rfl
    | true =>
      simp only [entryStart, if_true]
      by_cases h44 : (b == 44) = true
      · simp only [h44, if_true]
        cases hr : skip r with
        | nil => simp [parseValue_nil]
        | cons b1 r1 =>
          by_cases h : b1 = 93
          · subst h; simp
          · have h' : ¬ ((b1 == 93) = true) := by simpa using h
            simp only [if_neg h']
            split
            · rename_i r' he; simp at he; exact (h he.1).elim
            · rfl
      · simp [h44]

def refKey (b1 : Nat) (r1 : Bytes) : Option (Bytes × Bytes) :=
  if b1 == 34 then
    match lexString (r1.length + 1) .normal r1 [] with
    | none => none
    | some (raw, r2) =>
      match skip r2 with
      | [] => none
      | c :: r3 => if c == 58 then some (raw, r3) else none
  else none

theorem refKey_some {b1 : Nat} {r1 raw r3 : Bytes} (h : refKey b1 r1 = some (raw, r3)) :
    b1 = 34 ∧ ∃ r2, lexString (r1.length + 1) .normal r1 [] = some (raw, r2) ∧ skip r2 = 58 :: r3 := by
  unfold refKey at h
  split at h
  case isFalse => cases h
  rename_i h34
  refine ⟨by simpa using h34, ?_⟩
  cases hl : lexString (r1.length + 1) .normal r1 [] with
  | none => rw [hl] at h; cases h
  | some p =>
    obtain ⟨raw', r2⟩ := p
    rw [hl] at h
    simp only at h
    cases hs : skip r2 with
    | nil => rw [hs] at h; cases h
    | cons c r3' =>
      rw [hs] at h
      simp only at h
      split at h
      · rename_i h58
        cases h
        exact ⟨r2, rfl, by rw [hs, show c = 58 by simpa using h58]⟩
      · cases h

theorem refKey_str {r1 raw r2 r3 : Bytes} (hl : lexString (r1.length + 1) .normal r1 [] = some (raw, r2))
    (hs : skip r2 = 58 :: r3) : refKey 34 r1 = some (raw, r3) := by
  simp only [refKey, beq_self_eq_true, if_true, hl, hs]

theorem parseMembers_succ (f : Nat) (bs : Bytes) (sm : Bool) :
    parseMembers (f + 1) bs sm =
      match round 125 sm bs with
      | .fail => none
      | .close r => some ([], r)
      | .item b1 r1 =>
        match refKey b1 r1 with
        | none => none
        | some (raw, r3) =>
          match parseValue f r3 with
          | none => none
          | some (v, r4) =>
            (parseMembers f r4 true).map fun (es, r5) =>
              ((.scalar ⟨.str (unq raw), none⟩, v) :: es, r5) := by
  rw [parseMembers, round]
  cases hs : skip bs with
  | nil => rfl
  | cons b r =>
    simp only
    by_cases h125 : (b == 125) = true
    · simp only [h125, if_true]
    rw [if_neg h125, if_neg h125]
    unfold entryStart
    generalize hk : (if sm = true then (if (b == 44) = true then some (skip r) else none) else some (b :: r)) = k
    cases k with
    | none => rfl
    | some ks =>
      cases ks with
      | nil => rfl
      | cons b1 r1 =>
        by_cases h1 : b1 = 125
        · subst h1
          have hsm : sm = true := by
            cases sm with
            | true => rfl
            | false => simp at hk; simp [hk.1] at h125
          simp [hsm]
        by_cases h2 : b1 = 34
        · subst h2
          simp only [show (34 == 125) = false by decide, Bool.false_eq_true, if_false, refKey, beq_self_eq_true, if_true]
          cases lexString (r1.length + 1) .normal r1 [] with
          | none => rfl
          | some p =>
            obtain ⟨raw, r2⟩ := p
            simp only
            cases skip r2 with
            | nil => rfl
            | cons c r3 =>
              by_cases h58 : c = 58
              · subst h58; simp only [beq_self_eq_true, if_true]; rfl
              · simp only [if_neg (show ¬ ((c == 58) = true) by simpa using h58)]
                split
                · rename_i he; simp at he; exact (h58 he.1).elim
                · rfl
        · simp only [show (b1 == 125) = false by simpa using h1, refKey, show (b1 == 34) = false by simpa using h2,
            Bool.false_eq_true, if_false]
          split
          · rename_i he; simp at he; exact (h1 he.1).elim
          · rename_i he; simp at he; exact (h2 he.1).elim
          · rfl

theorem parse_induct {PV : Bytes → TV → Bytes → Prop} {PE : Bytes → Bool → List TV → Bytes → Prop}
    {PM : Bytes → Bool → List (TV × TV) → Bytes → Prop}
    (scalar : ∀ bs b r body r', skip bs = b :: r → b ≠ 123 → b ≠ 91 → refScalar b r = some (body, r') →
      PV bs (.scalar ⟨body, none⟩) r')
    (arr : ∀ bs r vs r', skip bs = 91 :: r → PE r false vs r' → PV bs (.arr none (-1) vs) r')
    (map : ∀ bs r ms r', skip bs = 123 :: r → PM r false ms r' → PV bs (.map none (-1) ms) r')
    (eclose : ∀ bs sm r, round 93 sm bs = .close r → PE bs sm [] r)
    (econs : ∀ bs sm b1 r1 v r2 vs r3, round 93 sm bs = .item b1 r1 →
      PV (b1 :: r1) v r2 → PE r2 true vs r3 → PE bs sm (v :: vs) r3)
    (mclose : ∀ bs sm r, round 125 sm bs = .close r → PM bs sm [] r)
    (mcons : ∀ bs sm b1 r1 raw r3 v r4 ms r5, round 125 sm bs = .item b1 r1 → refKey b1 r1 = some (raw, r3) →
      PV r3 v r4 → PM r4 true ms r5 → PM bs sm ((.scalar ⟨.str (unq raw), none⟩, v) :: ms) r5)
    (f : Nat) :
    (∀ bs v r', parseValue f bs = some (v, r') → PV bs v r') ∧
    (∀ bs sm vs r', parseElements f bs sm = some (vs, r') → PE bs sm vs r') ∧
    (∀ bs sm ms r', parseMembers f bs sm = some (ms, r') → PM bs sm ms r') := by
  induction f with
  | zero =>
    refine ⟨?_, ?_, ?_⟩
    · intro bs v r' h; simp [parseValue] at h
    · intro bs sm vs r' h; simp [parseElements] at h
    · intro bs sm ms r' h; simp [parseMembers] at h
  | succ f ih =>
    obtain ⟨ihV, ihE, ihM⟩ := ih
    refine ⟨?_, ?_, ?_⟩
    · intro bs v r' h
      rw [parseValue_succ] at h
      cases hs : skip bs with
      | nil => rw [hs] at h; cases h
      | cons b r =>
        rw [hs] at h
        simp only at h
        by_cases h123 : b = 123
        · subst h123
          obtain ⟨⟨ms, r1⟩, hm, he⟩ := Option.map_eq_some_iff.mp h
          cases he
          exact map bs r ms _ hs (ihM _ _ _ _ hm)
        rw [if_neg (by simpa using h123)] at h
        by_cases h91 : b = 91
        · subst h91
          obtain ⟨⟨vs, r1⟩, hm, he⟩ := Option.map_eq_some_iff.mp h
          cases he
          exact arr bs r vs _ hs (ihE _ _ _ _ hm)
        rw [if_neg (by simpa using h91)] at h
        obtain ⟨⟨body, r1⟩, hm, he⟩ := Option.map_eq_some_iff.mp h
        cases he
        exact scalar bs b r body _ hs h123 h91 hm
    · intro bs sm vs r' h
      rw [parseElements_succ] at h
      cases hr : round 93 sm bs with
      | fail => rw [hr] at h; cases h
      | close r => rw [hr] at h; cases h; exact eclose bs sm _ hr
      | item b1 r1 =>
        rw [hr] at h
        simp only at h
        cases hv : parseValue f (b1 :: r1) with
        | none => rw [hv] at h; cases h
        | some pr =>
          obtain ⟨v, r2⟩ := pr
          rw [hv] at h
          obtain ⟨⟨vs', r3⟩, hm, he'⟩ := Option.map_eq_some_iff.mp h
          cases he'
          exact econs bs sm b1 r1 v r2 vs' _ hr (ihV _ _ _ hv) (ihE _ _ _ _ hm)
    · intro bs sm ms r' h
      rw [parseMembers_succ] at h
      cases hr : round 125 sm bs with
      | fail => rw [hr] at h; cases h
      | close r => rw [hr] at h; cases h; exact mclose bs sm _ hr
      | item b1 r1 =>
        rw [hr] at h
        simp only at h
        cases hk : refKey b1 r1 with
        | none => rw [hk] at h; cases h
        | some pr =>
          obtain ⟨raw, r3⟩ := pr
          rw [hk] at h
          simp only at h
          cases hv : parseValue f r3 with
          | none => rw [hv] at h; cases h
          | some pr =>
            obtain ⟨v, r4⟩ := pr
            rw [hv] at h
            obtain ⟨⟨ms', r5⟩, hm, he'⟩ := Option.map_eq_some_iff.mp h
            cases he'
            exact mcons bs sm b1 r1 raw r3 v r4 ms' _ hr hk (ihV _ _ _ hv) (ihM _ _ _ _ hm)

theorem lexString_suffix {n : Nat} {st : SS} {bs acc raw r' : Bytes}
    (h : lexString n st bs acc = some (raw, r')) : (34 :: r') <:+ bs := by
  obtain ⟨body, rfl, -, -⟩ := C03L.lexString_inv _ _ _ _ _ _ h
  exact List.suffix_append _ _

theorem lexNumber_suffix {n : Nat} {st : NS} {bs acc text r' : Bytes}
    (h : lexNumber n st bs acc = some (text, r')) : r' <:+ bs := by
  obtain ⟨body, st', rfl, -, -, -⟩ := C03L.lexNumber_inv _ _ _ _ _ _ h
  exact List.suffix_append _ _

theorem refScalar_suffix {b : Nat} {r : Bytes} {body : Body} {r' : Bytes} (h : refScalar b r = some (body, r')) :
    r' <:+ r := by
  rcases refScalar_some h with ⟨-, raw, hl, -⟩ | ⟨-, -, n, rfl⟩ | ⟨-, text, hl, -⟩
  · exact (List.suffix_cons 34 r').trans (lexString_suffix hl)
  · exact List.drop_suffix n r
  · exact lexNumber_suffix hl

theorem refKey_suffix {b1 : Nat} {r1 raw r3 : Bytes} (h : refKey b1 r1 = some (raw, r3)) : (58 :: r3) <:+ r1 := by
  obtain ⟨-, r2, hl, hs⟩ := refKey_some h
  have hsk := skip_suffix r2
  rw [hs] at hsk
  exact hsk.trans ((List.suffix_cons 34 r2).trans (lexString_suffix hl))

theorem entryStart_suffix {sm : Bool} {b : Nat} {r ks : Bytes} (h : entryStart sm b r = some ks) : ks <:+ b :: r := by
  rcases entryStart_eq_some.mp h with ⟨-, rfl⟩ | ⟨-, -, rfl⟩
  · exact List.suffix_refl _
  · exact (skip_suffix r).trans (List.suffix_cons b r)

theorem skip_cons_len {bs : Bytes} {b : Nat} {r : Bytes} (h : skip bs = b :: r) : r.length + 1 ≤ bs.length := by
  have := skip_len bs
  rwa [h] at this

theorem round_close_suffix {c : Nat} {sm : Bool} {bs r1 : Bytes} (h : round c sm bs = .close r1) :
    (c :: r1) <:+ bs := by
  have hc := round_cases c sm bs
  rw [h] at hc
  have hsk := skip_suffix bs
  rcases hc with hs | ⟨b, r, hs, -, he⟩
  · rwa [hs] at hsk
  · rw [hs] at hsk
    exact (entryStart_suffix he).trans hsk

theorem round_item_suffix {c : Nat} {sm : Bool} {bs : Bytes} {b1 : Nat} {r1 : Bytes}
    (h : round c sm bs = .item b1 r1) : (b1 :: r1) <:+ bs := by
  have hc := round_cases c sm bs
  rw [h] at hc
  obtain ⟨b, r, hs, -, he, -⟩ := hc
  have hsk := skip_suffix bs
  rw [hs] at hsk
  exact (entryStart_suffix he).trans hsk

theorem parse_len (f : Nat) :
    (∀ bs v r', parseValue f bs = some (v, r') → v.flatten.length + r'.length ≤ bs.length) ∧
    (∀ bs sm vs r', parseElements f bs sm = some (vs, r') → (TV.flattenList vs).length + 1 + r'.length ≤ bs.length) ∧
    (∀ bs sm ms r', parseMembers f bs sm = some (ms, r') →
      (TV.flattenEntries ms).length + 1 + r'.length ≤ bs.length) := by
  refine parse_induct (PV := fun bs v r' => v.flatten.length + r'.length ≤ bs.length)
    (PE := fun bs _ vs r' => (TV.flattenList vs).length + 1 + r'.length ≤ bs.length)
    (PM := fun bs _ ms r' => (TV.flattenEntries ms).length + 1 + r'.length ≤ bs.length)
    ?_ ?_ ?_ ?_ ?_ ?_ ?_ f
  · intro bs b r body r' hs _ _ h
    have := skip_cons_len hs
    have := (refScalar_suffix h).length_le
    simp only [TV.flatten, List.length_cons, List.length_nil]; omega
  · intro bs r vs r' hs h
    have := skip_cons_len hs
    simp only [TV.flatten, List.length_cons, List.length_append, List.length_nil]; omega
  · intro bs r ms r' hs h
    have := skip_cons_len hs
    simp only [TV.flatten, List.length_cons, List.length_append, List.length_nil]; omega
  · intro bs sm r hr
    have := (round_close_suffix hr).length_le
    simp only [TV.flattenList, List.length_nil, List.length_cons] at *; omega
  · intro bs sm b1 r1 v r2 vs r3 hr h1 h2
    have := (round_item_suffix hr).length_le
    simp only [TV.flattenList, List.length_append, List.length_cons] at *; omega
  · intro bs sm r hr
    have := (round_close_suffix hr).length_le
    simp only [TV.flattenEntries, List.length_nil, List.length_cons] at *; omega
  · intro bs sm b1 r1 raw r3 v r4 ms r5 hr hk h1 h2
    have := (round_item_suffix hr).length_le
    have := (refKey_suffix hk).length_le
    simp only [TV.flattenEntries, TV.flatten, List.length_append, List.length_cons, List.length_nil] at *; omega

theorem parseValue_len {f : Nat} {bs : Bytes} {v : TV} {r' : Bytes} (h : parseValue f bs = some (v, r')) :
    v.flatten.length + r'.length ≤ bs.length :=
  (parse_len f).1 bs v r' h

theorem entryStart_skip (sm : Bool) (bs : Bytes) (b : Nat) (r ks : Bytes) (hs : skip bs = b :: r)
    (he : entryStart sm b r = some ks) : skip ks = ks := by
  rcases entryStart_eq_some.mp he with ⟨-, rfl⟩ | ⟨-, -, rfl⟩
  · exact skip_cons_notws r (skip_head hs)
  · exact skip_idem r

theorem round_item {c : Nat} {sm : Bool} {bs : Bytes} {b1 : Nat} {r1 : Bytes} (h : round c sm bs = .item b1 r1) :
    b1 ≠ c ∧ skip (b1 :: r1) = b1 :: r1 := by
  have hc := round_cases c sm bs
  rw [h] at hc
  obtain ⟨b, r, hs, -, he, hb1⟩ := hc
  exact ⟨hb1, entryStart_skip sm bs b r _ hs he⟩

end Refmt.C05L
