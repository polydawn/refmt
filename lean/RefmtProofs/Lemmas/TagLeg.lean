/-
  C12, claim (ii) — the typed leg (`LEGT`), one induction for atlases with and without tagged entries: whatever the
  marshaller writes for a value of a `fullTy` type, the untyped pass turns into a rendering that still reads, into the
  value's own type, as the round-trip value.  An induction over the marshaller's fuel.  An untyped slot reads its own rendering exactly as the untyped pass does, and
  for a tagged entry the untyped pass reconstructs the registered type (`unmWild`, `getByTag`): in both cases the claim
  is `IDM` (TagIdm.lean), and the round trip (`rt_cbor`, FullCbor.lean) says what the first rendering reads as.
  See RefmtProofs/Props/C12Tagged.lean.
-/
import RefmtProofs.Lemmas.TagIdm
namespace Refmt.Obj
open Refmt Refmt.C13 Refmt.C11 Refmt.C12 Refmt.C12L
open Refmt.MachL

abbrev LEGT (ts : Types) (a : Atlas) (trs : Trs) (it : IfaceTys) (f : Nat) : Prop :=
  Walk ts a trs it (fun _ _ => True) (fun _ => Leg ts a trs it) f

variable {ts : Types} {a : Atlas} {trs : Trs} {it : IfaceTys}

theorem legt_b_slice {f p k id e g : Nat} {v : Val} {toks : List Tok} (he : UEnv ts a it) (ih : LEGT ts a trs it f)
    (hp64 : p + 1 ≤ 64) (hd : ts.get id = .slice e) (hpe : fullTy ts a p e = true)
    (hv : hasTy ts k id v = true) (hg : f ≤ g) (hs : fullValB ts a trs it (g+1) id (.slice e) v = true)
    (hm : MRun.Writes ts a trs (f+1) (.bare id (.slice e) v) toks) :
    Leg ts a trs it (.bare id (.slice e) (zeroVal ts 64 id)) toks (rtFB ts a trs it (g+1) id (.slice e) v) := by
  rcases slice_items (P := LegJ ts a trs it (.v e (zeroVal ts 64 e))) hd (ih.v (by omega) hpe trivial hg) hv hs hm with
    ⟨rfl, rfl⟩ | ⟨es, items, rfl, hlen, rfl, hw, hall⟩
  · rw [rtFB_slice]
    exact .intro (Pass_null he) (.slice_null (f := 0) rfl)
  · obtain ⟨f2, h2⟩ := reads_elems (·.tk2) (·.r) e none items (fun i hi => (hall i hi).reads) (by simp)
    rw [hw]
    exact .intro (Pass_arr he es.length items (fun i hi => (hall i hi).pass)) (.slice rfl h2)

theorem legt_b_arr {f p k id n e g : Nat} {v : Val} {toks : List Tok} (he : UEnv ts a it) (ih : LEGT ts a trs it f)
    (hp64 : p + 1 ≤ 64) (hd : ts.get id = .arr n e) (hpe : fullTy ts a p e = true)
    (hv : hasTy ts k id v = true) (hg : f ≤ g) (hs : fullValB ts a trs it (g+1) id (.array e) v = true)
    (hm : MRun.Writes ts a trs (f+1) (.bare id (.array e) v) toks) :
    Leg ts a trs it (.bare id (.array n e) (zeroVal ts 64 id)) toks (rtFB ts a trs it (g+1) id (.array e) v) := by
  obtain ⟨es, items, rfl, hn', hlen, rfl, hw, hall⟩ :=
    arr_items (P := LegJ ts a trs it (.v e (zeroVal ts 64 e))) hd (ih.v (by omega) hpe trivial hg) hv hs hm
  obtain ⟨f2, h2⟩ := reads_arr (id := id) items.length items (zeroVal ts 64 id) hlen (fun i hi => (hall i hi).reads)
  rw [hw]
  exact .intro (Pass_arr he es.length items (fun i hi => (hall i hi).pass)) h2

theorem legt_b_map {f p k id kt vt g : Nat} {bk : Bool} {v : Val} {toks : List Tok} (he : UEnv ts a it)
    (ih : LEGT ts a trs it f) (hp64 : p + 1 ≤ 64) (hd : ts.get id = .map kt vt) (hkt : ts.get kt = .prim .string bk)
    (hpe : fullTy ts a p vt = true) (hv : hasTy ts k id v = true) (hg : f ≤ g)
    (hs : fullValB ts a trs it (g+1) id (.map kt vt a.defaultSort) v = true)
    (hm : MRun.Writes ts a trs (f+1) (.bare id (.map kt vt a.defaultSort) v) toks) :
    Leg ts a trs it (.bare id (.map kt vt) (zeroVal ts 64 id)) toks (rtFB ts a trs it (g+1) id (.map kt vt a.defaultSort) v) := by
  rcases map_items (P := LegJ ts a trs it (.v vt (zeroVal ts 64 vt))) hd hkt (ih.v (by omega) hpe trivial hg) hv hs hm with
    ⟨rfl, rfl⟩ | ⟨es, kitems, rfl, hlen, hnd, hsorted, rfl, hw, hall⟩
  · rw [rtFB_map]
    exact .intro (Pass_null he) (.map_null (f := 0) (kf := none) (keyFnOfU_string hkt a) rfl)
  · have hup := Pass_map he es.length (·.1) (·.2) kitems hnd (fun q hq => (hall q hq).pass)
    rw [hsorted] at hup
    obtain ⟨f2, h2⟩ := reads_map (id := id) hkt kitems.length kitems hnd (fun q hq => (hall q hq).reads)
    rw [hw]
    exact .intro hup h2

theorem legt_b_struct {f p k id g : Nat} {fds : List FieldDesc} {reg : Bool} {ty : Nat} {fields : List SMField} {v : Val}
    {toks : List Tok} (he : UEnv ts a it) (hz : ZeroStable ts) (ih : LEGT ts a trs it f) (hp64 : p + 1 ≤ 64)
    (hd : ts.get id = .struct fds) (hnames : (fields.map (·.name)).Nodup) (hroutes : (fields.map (·.route)).Nodup)
    (hfok : ∀ fld ∈ fields, FOKF ts a p fds fld) (hv : hasTy ts k id v = true) (hg : f ≤ g)
    (hs : fullValB ts a trs it (g+1) id (.structMap ⟨reg, ty, none, .structMap fields⟩ fields) v = true)
    (hm : MRun.Writes ts a trs (f+1) (.bare id (.structMap ⟨reg, ty, none, .structMap fields⟩ fields) v) toks) :
    Leg ts a trs it (.bare id (.structMap fields) (zeroVal ts 64 id)) toks
      (rtFB ts a trs it (g+1) id (.structMap ⟨reg, ty, none, .structMap fields⟩ fields) v) := by
  obtain ⟨k', vs, fitems, rfl, -, -, hfl, rfl, hrnd, hw, hall⟩ :=
    struct_items (P := fun ty => LegJ ts a trs it (.v ty (zeroVal ts 64 ty))) hd hroutes hfok
      (fun fld hf => ih.v (by omega) (hfok fld hf).full trivial hg) hv hs hm
  rw [hw]
  have hmemF : ∀ q ∈ fitems, q.1 ∈ fields := fun q hq => (mem_filter_of_map_eq hfl q hq).1
  -- the untyped pass sees a map keyed by the field names, and re-emits it sorted
  have hkn : (fitems.map (·.1.name)).Nodup := by
    have e : fitems.map (·.1.name) = (fitems.map (·.1)).map (·.name) := by simp [List.map_map, Function.comp_def]
    rw [e, hfl]
    exact (List.filter_sublist.map _).nodup hnames
  have hup := Pass_map (trs := trs) he fitems.length (·.1.name) (·.2) fitems hkn (fun q hq => (hall q hq).1.pass)
  -- the struct machine finds the fields by name, in whatever order they come
  have hperm := sortI_perm a.defaultSort (·.1.name) fitems
  have hrnd' := ((hperm.map fun q => routeIdx q.1).nodup_iff).mpr hrnd
  obtain ⟨f2, h2⟩ := reads_structMap (trs := trs) (it := it) hz hd hnames hfok none (sortI a.defaultSort (·.1.name) fitems)
    (fun q hq => ⟨hmemF q (hperm.mem_iff.mp hq), (hall q (hperm.mem_iff.mp hq)).1.reads⟩) hrnd'
  rw [hperm.length_eq, foldl_setAt_perm hperm hrnd'] at h2
  exact .intro hup h2

theorem legt_b_prim {f k id g : Nat} {v : Val} {toks : List Tok} (he : UEnv ts a it) (hv : hasTy ts k id v = true)
    (hm : MRun.Writes ts a trs (f+1) (.bare id .prim v) toks) :
    Leg ts a trs it (.bare id .prim (zeroVal ts 64 id)) toks (rtFB ts a trs it (g+1) id .prim v) := by
  cases hm with
  | prim hm =>
  obtain ⟨tok, htok, hs⟩ := prim_tok_rt ts k id v toks hv hm
  obtain ⟨b, w, rfl, hsc⟩ := primTok_tok it hm
  cases htok
  rw [rtFB_prim]
  exact .intro (Pass_scalar he hsc) (.prim (f := 0) (by rw [C01L.storePrim_respell _ (slotSpelling_respell b)]; exact hs))

theorem legt_b_wild {F : Nat} (he : UEnv ts a it) {id : Nat} {toks : List Tok} {w : Val} (hd : ts.get id = .iface false)
    (hR : Reads ts a trs it F (.bare id .wildcard (zeroVal ts 64 id)) toks w)
    (hI : Idm ts a trs it (.bare id .wildcard) (.bare id .wildcard (zeroVal ts 64 id)) toks w) :
    Leg ts a trs it (.bare id .wildcard (zeroVal ts 64 id)) toks w := by
  obtain ⟨_, tk2, hhd, ⟨f1, h1⟩, ⟨f2, h2⟩⟩ := hI
  obtain ⟨F, rfl⟩ := hR.fuel_pos
  obtain ⟨t, r, rfl⟩ := hhd.head1
  rw [reads_wildcard (by simp [UM.hasMethods, hd])] at hR
  exact .intro ⟨hhd, ⟨_, Reads.slot trs he hR⟩, ⟨_, h1.slot he⟩⟩ h2

theorem legt_b_tagged {F : Nat} (he : UEnv ts a it) {id : Nat} {tg : Int} {e : Entry} (hbt : a.getByTag tg = some e)
    (hety : e.ty = id) (hnp : ∀ x, ts.get id ≠ .ptr x) {toks : List Tok} {w : Val}
    (htag : ∀ t r, toks = t :: r → t.tag = some tg)
    (hR : Reads ts a trs it F (.bare id (upickBare ts a id) (zeroVal ts 64 id)) toks w)
    (hI : Idm ts a trs it (.bare id (pickBare ts a id)) (.bare id (upickBare ts a id) (zeroVal ts 64 id)) toks w) :
    Leg ts a trs it (.bare id (upickBare ts a id) (zeroVal ts 64 id)) toks w := by
  obtain ⟨_, tk2, hhd, ⟨f1, h1⟩, ⟨f2, h2⟩⟩ := hI
  subst hety
  obtain ⟨t, r, rfl⟩ := hhd.head1
  exact .intro (u := .iface (some (e.ty, w))) ⟨hhd, ⟨_, Reads.slot trs he (.wild_tag (htag t r rfl) hbt hR)⟩,
    ⟨_, (MRun.Writes.v_of_bare hnp rfl h1).slot_boxed he⟩⟩ h2

theorem legt_b_union {f p k id g : Nat} {m reg : Bool} {ty : Nat} {tag : Option Int} {members : List (Bytes × Nat)} {v : Val}
    {toks : List Tok} (he : UEnv ts a it) (ih : LEGT ts a trs it f) (hp64 : p + 1 ≤ 64) (hd : ts.get id = .iface m)
    (hnames : (members.map (·.1)).Nodup) (hmem : ∀ mem ∈ members, MOKF ts a p mem)
    (hv : hasTy ts k id v = true) (hg : f ≤ g)
    (hs : fullValB ts a trs it (g+1) id (.union ⟨reg, ty, tag, .union members⟩ members) v = true)
    (hm : MRun.Writes ts a trs (f+1) (.bare id (.union ⟨reg, ty, tag, .union members⟩ members) v) toks) :
    Leg ts a trs it (.bare id (.union members) (zeroVal ts 64 id)) toks
      (rtFB ts a trs it (g+1) id (.union ⟨reg, ty, tag, .union members⟩ members) v) := by
  obtain ⟨k', p', idx, nm, me, dv, ti, rfl, hM, rfl, hvd, hsd, hinner, rfl, hw⟩ := union_member hd hnames hmem hv hs hm
  obtain ⟨u, ti2, hpass, f2, h2⟩ := ih.b (by omega) hM.full trivial hM.nonptr hg k' dv ti hvd hsd hinner
  have hup := Pass_map (trs := trs) he 1 (·.1) (·.2) [(nm, ⟨ti, u, ti2, rtFB ts a trs it g me.ty (pickBare ts a me.ty) dv⟩)]
    (by simp) (by intro q hq; simp at hq; subst hq; exact hpass)
  rw [sortI_singleton] at hup
  rw [hw]
  exact .intro (by simpa using hup) (hM.reads h2)

theorem legt_b_transform {f p id g : Nat} {reg : Bool} {ty fn mty : Nat} {v : Val} {toks : List Tok} (htr : TrsEqv trs)
    (he : UEnv ts a it) (ih : LEGT ts a trs it f) (hp64 : p + 1 ≤ 64)
    (hmp : ∀ e, ts.get mty ≠ .ptr e) (hfm : fullTy ts a p mty = true) (hg : f ≤ g)
    (hs : fullValB ts a trs it (g+1) id (.transform ⟨reg, ty, none, .transform fn mty mty⟩ fn mty) v = true)
    (hm : MRun.Writes ts a trs (f+1) (.bare id (.transform ⟨reg, ty, none, .transform fn mty mty⟩ fn mty) v) toks) :
    Leg ts a trs it (.bare id (.transform fn mty) (zeroVal ts 64 id)) toks
      (rtFB ts a trs it (g+1) id (.transform ⟨reg, ty, none, .transform fn mty mty⟩ fn mty) v) := by
  -- an untagged transform writes what the transformed value's type writes (`retag none` is the identity), and reads it
  -- back through that type
  obtain ⟨tv, toks0, a', htm, hvt, hfv, ho, rfl, ha', hw⟩ := transform_inv htr he (by omega) hfm hs hm
  rw [hw]
  obtain ⟨u, tk2, hpass, f2, h2⟩ := ih.v (by omega) hfm trivial hg 1000 tv toks hvt hfv ho
  obtain ⟨t', r', rfl⟩ := hpass.head.head2
  exact .intro hpass (.transform ((reads_v_nonptr hmp).1 h2.succ) ha')

theorem legt_b {f} (hf : f + 1 ≤ 1000) (he : UEnv ts a it) (hz : ZeroStable ts) (htr : TrsEqv trs) (hto : C12Typed.TagsOk a)
    (hts : TagStab ts a trs) (ih : LEGT ts a trs it f) {p id g : Nat} (hp64 : p + 1 ≤ 64)
    (hp : fullTy ts a (p + 1) id = true) (hnp : ∀ e, ts.get id ≠ .ptr e) (hg : f + 1 ≤ g) (k : Nat) (v : Val)
    (toks : List Tok) (hv : hasTy ts k id v = true) (hs : fullValB ts a trs it g id (pickBare ts a id) v = true)
    (hm : MRun.Writes ts a trs (f+1) (.bare id (pickBare ts a id) v) toks) :
    Leg ts a trs it (.bare id (upickBare ts a id) (zeroVal ts 64 id)) toks (rtFB ts a trs it g id (pickBare ts a id) v) := by
  have hR := rt_cbor_bare he hz htr hf hp64 hp hnp hv hg hs hm
  have hI := fun hst => (idm_all he hz htr hts (f+1) hf).b hp64 hp hst hnp hg k v toks hv hs hm
  have htagged : ∀ {e : Entry} {tg : Int}, a.get id = some e → e.tag = some tg →
      (∀ t r, toks = t :: r → t.tag = some tg) →
      Leg ts a trs it (.bare id (upickBare ts a id) (zeroVal ts 64 id)) toks (rtFB ts a trs it g id (pickBare ts a id) v) :=
    fun hent htg hfirst =>
      legt_b_tagged he (hto.get hent htg) (ObjL.atlas_get_ty hent) hnp hfirst hR (hI (stabTy_anti 64 (p + 1) id hp64 (hts.get hent htg)))
  obtain ⟨g, rfl⟩ : ∃ g', g = g' + 1 := ⟨g - 1, by omega⟩
  have hg : f ≤ g := by omega
  have pick {m : Mach} {um : UMach} hpk h := bare_of_pick (C := fun _ => Leg ts a trs it) (m := m) (um := um) hpk h hs hm
  cases fullTy_view hp hnp with
  | prim kd b hd hn => exact pick (pick_prim hd hn) (fun _ => legt_b_prim he hv)
  | bytes b hd hn => exact pick (pick_bytes hd hn) (fun _ => legt_b_prim he hv)
  | byteArr n hd hn => exact pick (pick_byteArr hd hn) (fun _ => legt_b_prim he hv)
  | slice e hd hn hpe => exact pick (pick_slice hd hn) (legt_b_slice he ih hp64 hd hpe hv hg)
  | arr n e hd hn hpe => exact pick (pick_arr hd hn) (legt_b_arr he ih hp64 hd hpe hv hg)
  | map kt vt bk hd hn hkt hpe => exact pick (pick_map hd hn) (legt_b_map he ih hp64 hd hkt hpe hv hg)
  | wild hd hn =>
    have hI := hI (stabTy_wild hd hn)
    obtain ⟨hpk, hupk⟩ := pick_wild hd hn
    rw [hpk] at hR hI ⊢
    rw [hupk] at hR hI ⊢
    exact legt_b_wild he hd hR hI
  | struct fds reg ty tag fields hd hent hnames hroutes hfok =>
    cases tag with
    | none => exact pick (pick_struct hd hent) (legt_b_struct he hz ih hp64 hd hnames hroutes hfok hv hg)
    | some tg =>
      exact htagged hent rfl fun t r htk => (htk ▸ hm).tag_first (Or.inl ⟨_, (pick_struct hd hent).1⟩) rfl
  | transform reg ty tag fn mty hb hent hmp htb hfm =>
    cases tag with
    | none => exact pick (pick_transform hb hent) (legt_b_transform htr he ih hp64 hmp hfm hg)
    | some tg =>
      exact htagged hent rfl fun t r htk => (htk ▸ hm).tag_first (Or.inr ⟨_, _, (pick_transform hb hent).1⟩) rfl
  | union m reg ty tag members hd hent hnames hmem =>
    exact pick (pick_union hd hent) (legt_b_union he ih hp64 hd hnames hmem hv hg)

theorem legt_v {f} (hf : f + 1 ≤ 1000) (he : UEnv ts a it) (ih : LEGT ts a trs it f) {p id g : Nat} (hp64 : p ≤ 64)
    (hp : fullTy ts a p id = true) (hg : f + 1 ≤ g) (k : Nat) (v : Val) (toks : List Tok) (hv : hasTy ts k id v = true)
    (hfv : fullVal ts a trs it g id v = true) (hm : MRun.Writes ts a trs (f+1) (.v id v) toks) :
    Leg ts a trs it (.v id (zeroVal ts 64 id)) toks (rtF ts a trs it g id v) := by
  obtain ⟨g, rfl⟩ : ∃ g', g = g' + 1 := ⟨g - 1, by omega⟩
  obtain ⟨n, base, p', hpeel, hpb, hnp, hch, hp'p⟩ := full_peel ts a p 64 0 id hp hp64
  simp only [Nat.zero_add] at hpeel
  rcases ptr_cases (by omega) hnp hpeel hch hv hfv hm with ⟨hn, rfl, hw⟩ | ⟨inner, k', hvi, hfvi, hmi, hcase⟩
  · obtain ⟨n, rfl⟩ := Nat.exists_eq_succ_of_ne_zero hn
    rw [hw]
    exact .intro (Pass_null he) (.v_nil (f := 0) hpeel rfl)
  · obtain ⟨u, tk2, hpass, f2, h2⟩ := ih.b (by omega) hpb trivial hnp (by omega) k' inner toks hvi hfvi hmi
    rcases hcase with ⟨hn, ⟨tg, rfl⟩, hw⟩ | ⟨t, r, rfl, hnn, hw⟩
    · -- a null is still a null after the untyped pass: the pointer comes back nil
      obtain ⟨n, rfl⟩ := Nat.exists_eq_succ_of_ne_zero hn
      obtain ⟨tg', rfl⟩ := hpass.head.of_null
      rw [hw]
      exact .intro hpass (.v_nil (f := 0) hpeel rfl)
    · rw [hw]
      exact .intro hpass (reads_ptr hpeel hch hpass.head hnn h2)

theorem legt_all (he : UEnv ts a it) (hz : ZeroStable ts) (htr : TrsEqv trs) (hto : C12Typed.TagsOk a) (hts : TagStab ts a trs) :
    ∀ f, f ≤ 1000 → LEGT ts a trs it f :=
  Walk.all fun _ hf ih => ⟨fun hp64 hp _ => legt_v hf he ih hp64 hp, fun hp64 hp _ => legt_b hf he hz htr hto hts ih hp64 hp⟩

end Refmt.Obj
