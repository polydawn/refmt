/-
  The recogniser (RefmtModel/Spec/Rec.lean) on the flattening of a token tree.  `recRun` over the bodies says
  where a token list leaves the recogniser; `recFlags` is the list of its answers, which the encoders
  reproduce (C14).  For every family of tree predicates that passes from a tree to its parts, whose scalar
  leaves are values of the format and whose map keys are scalars the format takes as keys (`Fam`), the run over
  the flattening of a tree in value position ends as `afterValue` says for the context (`Fam.value`).  The
  domains of the transcoding and fault theorems (C10, C16) are such families.
-/
import RefmtProofs.Lemmas.Basics
namespace Refmt.C16L
open Refmt

theorem recFlags_cons (fmt : Fmt) (stk : List Frame) (t : Tok) (ts : List Tok) :
    recFlags fmt stk (t :: ts) =
      (match recStep fmt stk t.body with
       | .cont stk' => Flag.cont :: recFlags fmt stk' ts
       | .done => [Flag.done]
       | .reject => [Flag.err]) := rfl

end Refmt.C16L

namespace Refmt.RecTree
open Refmt

theorem recStep_value (fmt : Fmt) (stk : List Frame) (b : Body) (h : ∀ r, stk ≠ .mapKey :: r) :
    recStep fmt stk b = recValue fmt stk b := by
  unfold recStep
  split
  · exact absurd rfl (h _)
  · rfl

def thenRun (fmt : Fmt) (o : RecOut) (rest : List Body) : RecOut :=
  match o with
  | .cont stk' => recRun fmt stk' rest
  | .done => (match rest with | [] => .done | _ => .reject)
  | .reject => .reject

theorem thenRun_nil (fmt : Fmt) (o : RecOut) : thenRun fmt o [] = o := by
  cases o <;> rfl

theorem recRun_cons (fmt : Fmt) (stk : List Frame) (b : Body) (bs : List Body) :
    recRun fmt stk (b :: bs) = thenRun fmt (recStep fmt stk b) bs := by
  cases h : recStep fmt stk b <;> cases bs <;> simp only [recRun, thenRun, h]

theorem recRun_append (fmt : Fmt) : ∀ (as : List Body) (stk : List Frame) (bs : List Body),
    recRun fmt stk (as ++ bs) = thenRun fmt (recRun fmt stk as) bs
  | [], _, _ => rfl
  | a :: as, stk, bs => by
    rw [List.cons_append, recRun_cons, recRun_cons]
    cases recStep fmt stk a with
    | cont stk' => exact recRun_append fmt as stk' bs
    | done => cases as <;> rfl
    | reject => rfl

theorem recFlags_cont (fmt : Fmt) : ∀ (ts : List Tok) {stk stk' : List Frame},
    recRun fmt stk (ts.map Tok.body) = .cont stk' → ∀ rest : List Tok,
    recFlags fmt stk (ts ++ rest) = List.replicate ts.length Flag.cont ++ recFlags fmt stk' rest
  | [], _, _, h, _ => by cases h; rfl
  | t :: ts, stk, stk', h, rest => by
    rw [List.map_cons, recRun_cons] at h
    rw [List.cons_append, C16L.recFlags_cons]
    cases hs : recStep fmt stk t.body with
    | cont s1 =>
      rw [hs] at h
      exact congrArg (Flag.cont :: ·) (recFlags_cont fmt ts h rest)
    | done => rw [hs] at h; cases ts <;> cases h
    | reject => rw [hs] at h; cases h

theorem recFlags_done (fmt : Fmt) : ∀ (ts : List Tok) {stk : List Frame},
    recRun fmt stk (ts.map Tok.body) = .done → ∀ rest : List Tok,
    recFlags fmt stk (ts ++ rest) = List.replicate (ts.length - 1) Flag.cont ++ [Flag.done]
  | [], _, h, _ => by cases h
  | t :: ts, stk, h, rest => by
    rw [List.map_cons, recRun_cons] at h
    rw [List.cons_append, C16L.recFlags_cons]
    cases hs : recStep fmt stk t.body with
    | cont s1 =>
      rw [hs] at h
      cases ts with
      | nil => cases h
      | cons t2 ts => exact congrArg (Flag.cont :: ·) (recFlags_done fmt (t2 :: ts) h rest)
    | done =>
      rw [hs] at h
      cases ts with
      | nil => rfl
      | cons t2 ts => cases h
    | reject => rw [hs] at h; cases h

theorem recRun_single {fmt : Fmt} {stk : List Frame} {b : Body} {o : RecOut} (h : recStep fmt stk b = o) :
    recRun fmt stk [b] = o := by
  rw [recRun_cons, h, thenRun_nil]

theorem recValue_scalar {fmt : Fmt} {b : Body} (stk : List Frame) (hs : b.isScalar = true) (hv : valOk fmt b = true) :
    recValue fmt stk b = afterValue stk := by
  cases b with
  | mapOpen _ | mapClose | arrOpen _ | arrClose => cases hs
  | null | str _ | bytes _ | bool _ | int _ | uint _ | float _ => simp only [recValue, hv, if_true]

theorem recStep_key {fmt : Fmt} {b : Body} (stk : List Frame) (hv : keyOk fmt b = true) :
    recStep fmt (.mapKey :: stk) b = .cont (.mapVal :: stk) := by
  cases b with
  | mapClose => cases fmt <;> cases hv
  | mapOpen _ | arrOpen _ | arrClose | null | str _ | bytes _ | bool _ | int _ | uint _ | float _ =>
    simp only [recStep, recKey, hv, if_true]

/-- the JSON recogniser takes the strings as keys, so every key test that fails off the strings implies its own -/
theorem keyOk_json_of {b : Body} {f : Bytes → Bool} (h : (match b with | .str s => f s | _ => false) = true) :
    keyOk .json b = true := by
  cases b <;> first | rfl | cases h

structure Fam (fmt : Fmt) (PV : TV → Prop) (PL : List TV → Prop) (PE : List (TV × TV) → Prop) : Prop where
  scalar : ∀ {t}, PV (.scalar t) → t.body.isScalar = true ∧ valOk fmt t.body = true
  arr : ∀ {tag len items}, PV (.arr tag len items) → PL items
  map : ∀ {tag len es}, PV (.map tag len es) → PE es
  cons : ∀ {v vs}, PL (v :: vs) → PV v ∧ PL vs
  entry : ∀ {k v es}, PE ((k, v) :: es) → (∃ t, k = .scalar t ∧ keyOk fmt t.body = true) ∧ PV v ∧ PE es

section
variable {fmt : Fmt} {PV : TV → Prop} {PL : List TV → Prop} {PE : List (TV × TV) → Prop} (H : Fam fmt PV PL PE)
include H

mutual
  theorem Fam.value : ∀ (v : TV), PV v → ∀ (stk : List Frame), (∀ r, stk ≠ .mapKey :: r) →
      recRun fmt stk (v.flatten.map Tok.body) = afterValue stk
    | .scalar t, h, stk, hk =>
      recRun_single ((recStep_value fmt stk _ hk).trans (recValue_scalar stk (H.scalar h).1 (H.scalar h).2))
    | .arr tag len items, h, stk, hk => by
      rw [TV.flatten, List.map_cons, List.map_append, recRun_cons, recStep_value fmt stk _ hk]
      show recRun fmt (.arr :: stk) _ = _
      rw [recRun_append, Fam.items items (H.arr h) stk]
      exact recRun_single rfl
    | .map tag len es, h, stk, hk => by
      rw [TV.flatten, List.map_cons, List.map_append, recRun_cons, recStep_value fmt stk _ hk]
      show recRun fmt (.mapKey :: stk) _ = _
      rw [recRun_append, Fam.entries es (H.map h) stk]
      exact recRun_single rfl
  theorem Fam.items : ∀ (vs : List TV), PL vs → ∀ (stk : List Frame),
      recRun fmt (.arr :: stk) ((TV.flattenList vs).map Tok.body) = .cont (.arr :: stk)
    | [], _, stk => rfl
    | v :: vs, h, stk => by
      rw [TV.flattenList, List.map_append, recRun_append,
        Fam.value v (H.cons h).1 (.arr :: stk) (fun r e => by cases e)]
      exact Fam.items vs (H.cons h).2 stk
  theorem Fam.entries : ∀ (es : List (TV × TV)), PE es → ∀ (stk : List Frame),
      recRun fmt (.mapKey :: stk) ((TV.flattenEntries es).map Tok.body) = .cont (.mapKey :: stk)
    | [], _, stk => rfl
    | (k, v) :: es, h, stk => by
      obtain ⟨⟨t, rfl, hkey⟩, hv, hes⟩ := H.entry h
      rw [TV.flattenEntries, TV.flatten, List.map_append, List.map_append, List.map_cons, List.map_nil,
        List.singleton_append, recRun_cons, recStep_key stk hkey]
      show recRun fmt (.mapVal :: stk) _ = _
      rw [recRun_append, Fam.value v hv (.mapVal :: stk) (fun r e => by cases e)]
      exact Fam.entries es hes stk
end

theorem Fam.top (v : TV) (h : PV v) :
    recFlags fmt [] v.flatten = List.replicate (v.flatten.length - 1) Flag.cont ++ [Flag.done] := by
  have := recFlags_done fmt v.flatten (H.value v h [] (fun r e => by cases e)) []
  rwa [List.append_nil] at this

end

end Refmt.RecTree
