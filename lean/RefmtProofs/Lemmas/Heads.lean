/-
  The shortest-form head `Spec.Cbor.head`: its five shapes, that it consists of bytes, that the Go emitter writes it;
  what the encoder writes faithfully and what comes back for it (`bodyInRange`, `TagOk`, `canonBody`).
-/
import RefmtProofs.Lemmas.Basics
namespace Refmt.C02L
open Refmt

theorem beBytes_length : ∀ (n v : Nat), (beBytes n v).length = n
  | 0, _ => rfl
  | n+1, v => by simp [beBytes, beBytes_length n v]

theorem beVal_beBytes : ∀ (n v : Nat), beVal (beBytes n v) = v % 256 ^ n
  | 0, v => by simp [beBytes, beVal, Nat.mod_one]
  | n+1, v => by
    simp only [beBytes, beVal, beBytes_length, beVal_beBytes n v]
    have h1 : v % 256 ^ (n+1) = v % 256 ^ n + 256 ^ n * (v / 256 ^ n % 256) := by
      rw [Nat.pow_succ]; exact Nat.mod_mul
    rw [h1, Nat.mul_comm]; omega

theorem beVal_lt : ∀ (l : Bytes), PumpL.B256 l → beVal l < 256 ^ l.length
  | [], _ => by simp [beVal]
  | b :: t, h => by
    have h1 : b < 256 := h.head
    have h2 := beVal_lt t h.tail
    simp only [beVal, List.length_cons, Nat.pow_succ]
    have : b * 256 ^ t.length ≤ 255 * 256 ^ t.length := Nat.mul_le_mul_right _ (by omega)
    omega

theorem head_cases (m n : Nat) :
    (n < 24 ∧ Spec.Cbor.head m n = [m + n]) ∨
    (24 ≤ n ∧ n < 256 ∧ Spec.Cbor.head m n = [m + 24, n]) ∨
    (256 ≤ n ∧ n < 65536 ∧ Spec.Cbor.head m n = (m + 25) :: beBytes 2 n) ∨
    (65536 ≤ n ∧ n < 4294967296 ∧ Spec.Cbor.head m n = (m + 26) :: beBytes 4 n) ∨
    (4294967296 ≤ n ∧ Spec.Cbor.head m n = (m + 27) :: beBytes 8 n) := by
  unfold Spec.Cbor.head
  by_cases h1 : n < 24
  · exact .inl ⟨h1, if_pos h1⟩
  by_cases h2 : n < 256
  · exact .inr (.inl ⟨Nat.le_of_not_lt h1, h2, by rw [if_neg h1, if_pos h2]⟩)
  by_cases h3 : n < 65536
  · exact .inr (.inr (.inl ⟨Nat.le_of_not_lt h2, h3, by rw [if_neg h1, if_neg h2, if_pos h3]⟩))
  by_cases h4 : n < 4294967296
  · exact .inr (.inr (.inr (.inl ⟨Nat.le_of_not_lt h3, h4, by rw [if_neg h1, if_neg h2, if_neg h3, if_pos h4]⟩)))
  · exact .inr (.inr (.inr (.inr ⟨Nat.le_of_not_lt h4, by rw [if_neg h1, if_neg h2, if_neg h3, if_neg h4]⟩)))

theorem head_pos (m n : Nat) : 1 ≤ (Spec.Cbor.head m n).length := by
  rcases head_cases m n with ⟨_, e⟩ | ⟨_, _, e⟩ | ⟨_, _, e⟩ | ⟨_, _, e⟩ | ⟨_, e⟩ <;> rw [e] <;>
    exact Nat.succ_le_succ (Nat.zero_le _)

theorem beBytes_B256 : ∀ (n v : Nat), PumpL.B256 (beBytes n v)
  | 0, v => .nil
  | n+1, v => .cons (Nat.mod_lt _ (by decide)) (beBytes_B256 n v)

/-- `228` is the largest initial byte that leaves room for the additional information `27` -/
theorem head_B256 (m n : Nat) (hm : m ≤ 228) : PumpL.B256 (Spec.Cbor.head m n) := by
  rcases head_cases m n with ⟨_, e⟩ | ⟨_, _, e⟩ | ⟨_, _, e⟩ | ⟨_, _, e⟩ | ⟨_, e⟩ <;> rw [e]
  · exact .cons (by omega) .nil
  · exact .cons (by omega) (.cons (by omega) .nil)
  · exact .cons (by omega) (beBytes_B256 _ _)
  · exact .cons (by omega) (beBytes_B256 _ _)
  · exact .cons (by omega) (beBytes_B256 _ _)

theorem toU64_of_nonneg (x : Int) (h0 : 0 ≤ x) (h1 : x < (two64 : Int)) : toU64 x = x.toNat := by
  unfold toU64
  rw [Int.emod_eq_of_lt h0 h1]

theorem emitHead_flatten (major v : Nat) :
    (CborEnc.emitHead major v).flatten = Spec.Cbor.head major v := by
  unfold CborEnc.emitHead Spec.Cbor.head
  by_cases h1 : v < 24
  · have : v ≤ 0x17 := by omega
    simp [h1, this]
  · have h1' : ¬ v ≤ 0x17 := by omega
    by_cases h2 : v < 256
    · have : v ≤ 0xff := by omega
      simp [h1, h1', h2, this]
    · have h2' : ¬ v ≤ 0xff := by omega
      by_cases h3 : v < 65536
      · have : v ≤ 0xffff := by omega
        simp [h1, h1', h2, h2', h3, this]
      · have h3' : ¬ v ≤ 0xffff := by omega
        by_cases h4 : v < 4294967296
        · have : v ≤ 0xffffffff := by omega
          simp [h1, h1', h2, h2', h3, h3', h4, this]
        · have h4' : ¬ v ≤ 0xffffffff := by omega
          simp [h1, h1', h2, h2', h3, h3', h4, h4']

/-- What comes back for a token body; the body of `C02.normTok` (not of `C02.canonTok`, which leaves lengths alone). -/
def canonBody : Body → Body
  | .int i => if i ≥ 0 then .uint i.toNat else .int i
  | .arrOpen l => if l < 0 then .arrOpen (-1) else .arrOpen l
  | .mapOpen l => if l < 0 then .mapOpen (-1) else .mapOpen l
  | b => b

def bodyInRange : Body → Bool
  | .uint n => n < two64
  | .int i => - (two63 : Int) ≤ i && i < (two63 : Int)
  | .float b => b < two64
  | .mapOpen _ | .mapClose | .arrOpen _ | .arrClose => false
  | _ => true

theorem bodyInRange_scalar {b : Body} (h : bodyInRange b = true) : b.isScalar = true := by
  cases b <;> first | rfl | cases h

/-- A tag the encoder can write and the decoder accepts: a non-negative Go int. -/
def TagOk (tag : Option Int) : Prop := ∀ g, tag = some g → 0 ≤ g ∧ g < (two63 : Int)

end Refmt.C02L
