/-
  A functional reading of one BFS level (`scanLevel`, the body of the `for len(next) > 0` loop of `exploreFields` in
  obj/atlas/structMapAutogen.go) of the struct-mapping autogeneration model.  `scanLevel` and `candidates` decide in
  the same way what a struct field contributes: that case analysis is named (`fieldCase`) and done once
  (`fieldCase_cases`).  `bfs_step` gives one level in closed form.
-/
import RefmtProofs.Lemmas.Autogen
namespace Refmt.Autogen
open Refmt Refmt.Obj

/-- (route from the root, struct type id) -/
abbrev Node := List Nat × Nat

def fieldCase {α : Type} (ts : Types) (u : UTab) (sf : FieldDesc) (no entry descend : α) : α :=
  let skip := if sf.embedded then (!sf.exported && !kindIsStruct ts (derefOnce ts sf.ty)) else !sf.exported
  if skip then no else
  let tag := sf.tag.getD []
  if tag == [45] then no else
  let nm := if isValidTag u (parseTag tag).1 then (parseTag tag).1 else []
  if !nm.isEmpty || !sf.embedded || !kindIsStruct ts (derefOnce ts sf.ty) then
    if !sf.exported then no else entry
  else descend

theorem fieldCase_cases (ts : Types) (u : UTab) (sf : FieldDesc) :
    (∀ {α : Type} (a b c : α), fieldCase ts u sf a b c = a) ∨
    (sf.exported = true ∧ sf.tag ≠ some [45] ∧ ∀ {α : Type} (a b c : α), fieldCase ts u sf a b c = b) ∨
    (kindIsStruct ts (derefOnce ts sf.ty) = true ∧ ∀ {α : Type} (a b c : α), fieldCase ts u sf a b c = c) := by
  by_cases hskip : (if sf.embedded then (!sf.exported && !kindIsStruct ts (derefOnce ts sf.ty)) else !sf.exported) = true
  · exact Or.inl (fun a b c => by simp only [fieldCase, hskip, if_true])
  · by_cases htag : (sf.tag.getD [] == [45]) = true
    · exact Or.inl (fun a b c => by simp only [fieldCase, hskip, htag, if_true, if_false, Bool.false_eq_true])
    · by_cases hcond : (!List.isEmpty (if isValidTag u (parseTag (sf.tag.getD [])).fst = true then
            (parseTag (sf.tag.getD [])).fst else []) || !sf.embedded || !kindIsStruct ts (derefOnce ts sf.ty)) = true
      · by_cases hexp : (!sf.exported) = true
        · exact Or.inl (fun a b c => by
            simp only [fieldCase, hskip, htag, hcond, if_true, if_false, Bool.false_eq_true]
            simp only [hexp, if_true])
        · refine Or.inr (Or.inl ⟨by simpa using hexp, ?_, fun a b c => by
            simp only [fieldCase, hskip, htag, hcond, if_true, if_false, Bool.false_eq_true]
            simp only [hexp, if_false, Bool.false_eq_true]⟩)
          intro ht
          rw [ht] at htag
          simp at htag
      · refine Or.inr (Or.inr ⟨?_, fun a b c => by
          simp only [fieldCase, hskip, htag, hcond, if_false, Bool.false_eq_true]⟩)
        simp only [Bool.or_eq_true, Bool.not_eq_true', not_or, Bool.not_eq_false] at hcond
        exact hcond.2

theorem apply_fieldCase {α β : Type} (f : α → β) (ts : Types) (u : UTab) (sf : FieldDesc) (no entry descend : α) :
    f (fieldCase ts u sf no entry descend) = fieldCase ts u sf (f no) (f entry) (f descend) := by
  rcases fieldCase_cases ts u sf with h | ⟨_, _, h⟩ | ⟨_, h⟩ <;> rw [h, h]

/-- the tag option "omitempty" -/
def omitemptyOpt : Bytes := [111, 109, 105, 116, 101, 109, 112, 116, 121]

def entryOf (u : UTab) (sf : FieldDesc) (route : List Nat) : AField :=
  let tag := sf.tag.getD []
  let nm := if isValidTag u (parseTag tag).1 then (parseTag tag).1 else []
  ⟨if nm.isEmpty then downcaseFirst u sf.name else nm, route, sf.ty, !nm.isEmpty,
    optContains (parseTag tag).2 omitemptyOpt⟩

def fieldOut (ts : Types) (u : UTab) (froute : List Nat) (p : FieldDesc × Nat) : List AField :=
  fieldCase ts u p.1 [] [entryOf u p.1 (froute ++ [p.2])] []

def childOut (ts : Types) (u : UTab) (froute : List Nat) (p : FieldDesc × Nat) : List Node :=
  let sf := p.1
  let i := p.2
  let skip := if sf.embedded then (!sf.exported && !kindIsStruct ts (derefOnce ts sf.ty)) else !sf.exported
  if skip then [] else
  let tag := sf.tag.getD []
  if tag == [45] then [] else
  let nm := if isValidTag u (parseTag tag).1 then (parseTag tag).1 else []
  let ft := derefOnce ts sf.ty
  if !nm.isEmpty || !sf.embedded || !kindIsStruct ts ft then []
  else [(froute ++ [i], ft)]

theorem childOut_eq (ts : Types) (u : UTab) (r : List Nat) (p : FieldDesc × Nat) :
    childOut ts u r p = fieldCase ts u p.1 [] [] [(r ++ [p.2], derefOnce ts p.1.ty)] := by
  simp only [childOut, fieldCase, ite_self]

/-- queue a node for the next level unless its type is already queued; count it (`d`: the parent type was
    itself reached more than once, and then Go sets `nextCount[ft] = 2`: only "once" and "more than once" are told
    apart) -/
def enq (d : Bool) (q : List Node × List (Nat × Nat)) (c : Node) : List Node × List (Nat × Nat) :=
  (if (q.2.lookup c.2).getD 0 == 0 then q.1 ++ [c] else q.1,
   (c.2, if d then 2 else (q.2.lookup c.2).getD 0 + 1) :: q.2.filter (·.1 != c.2))

theorem enq_queue (d : Bool) (q : List Node × List (Nat × Nat)) (c : Node) :
    (enq d q c).1 = if (q.2.lookup c.2).getD 0 = 0 then q.1 ++ [c] else q.1 := by
  simp only [enq, beq_iff_eq]

theorem enq_count (d : Bool) (q : List Node × List (Nat × Nat)) (c : Node) (t : Nat) :
    ((enq d q c).2.lookup t).getD 0 =
      if t = c.2 then (if d then 2 else (q.2.lookup c.2).getD 0 + 1) else (q.2.lookup t).getD 0 := by
  simp only [enq, List.lookup_cons]
  by_cases h : t = c.2
  · subst h; simp
  · have h1 : (t == c.2) = false := by simp [h]
    simp only [h1, h, if_false]
    rw [lookup_filter_ne c.2 t h]

/-- the entries of a struct whose type was reached more than once (`d`) are recorded twice ("so that the annihilation
    code will see a duplicate") -/
def dupl (d : Bool) (l : List AField) : List AField := if d then l.flatMap (fun x => [x, x]) else l

theorem dupl_nil (d : Bool) : dupl d [] = [] := by cases d <;> rfl

theorem dupl_append (d : Bool) (a b : List AField) : dupl d (a ++ b) = dupl d a ++ dupl d b := by
  cases d <;> simp [dupl]

theorem mem_dupl (d : Bool) (l : List AField) (x : AField) : x ∈ dupl d l ↔ x ∈ l := by
  cases d <;> simp [dupl]

theorem filter_dupl (d : Bool) (q : AField → Bool) (l : List AField) : (dupl d l).filter q = dupl d (l.filter q) := by
  cases d
  · rfl
  · simp only [dupl, if_true]
    induction l with
    | nil => rfl
    | cons a l ih =>
      simp only [List.flatMap_cons, List.filter_append, ih, List.filter_cons]
      cases q a <;> simp

theorem length_dupl (d : Bool) (l : List AField) : (dupl d l).length = (if d then 2 else 1) * l.length := by
  cases d
  · simp [dupl]
  · simp only [dupl, if_true]
    rw [length_flatMap_const _ 2 l (by intro x _; rfl)]
    omega

def fieldsOf (ts : Types) (u : UTab) (n : Node) : List AField :=
  match ts.get n.2 with
  | .struct fds => fds.zipIdx.flatMap (fieldOut ts u n.1)
  | _ => []

def childrenOf (ts : Types) (u : UTab) (n : Node) : List Node :=
  match ts.get n.2 with
  | .struct fds => fds.zipIdx.flatMap (childOut ts u n.1)
  | _ => []

/-- the state `scanLevel` folds over: entries found, queue and counts for the next level, visited types -/
abbrev BState := List AField × List Node × List (Nat × Nat) × List Nat

def fieldStep (ts : Types) (u : UTab) (d : Bool) (froute : List Nat) : BState → FieldDesc × Nat → BState
  | (F, Q, C, V), p =>
    (F ++ dupl d (fieldOut ts u froute p),
     ((childOut ts u froute p).foldl (enq d) (Q, C)).1, ((childOut ts u froute p).foldl (enq d) (Q, C)).2, V)

theorem foldl_fieldStep (ts : Types) (u : UTab) (d : Bool) (froute : List Nat) :
    ∀ (l : List (FieldDesc × Nat)) (F : List AField) (Q : List Node) (C : List (Nat × Nat)) (V : List Nat),
    l.foldl (fieldStep ts u d froute) (F, Q, C, V) =
      (F ++ dupl d (l.flatMap (fieldOut ts u froute)),
       ((l.flatMap (childOut ts u froute)).foldl (enq d) (Q, C)).1,
       ((l.flatMap (childOut ts u froute)).foldl (enq d) (Q, C)).2, V) := by
  intro l
  induction l with
  | nil => intro F Q C V; simp [dupl_nil]
  | cons p l ih =>
    intro F Q C V
    rw [List.foldl_cons, fieldStep, ih, List.flatMap_cons, List.flatMap_cons, dupl_append, List.foldl_append,
      List.append_assoc]

def flagOf (count : List (Nat × Nat)) (c : Node) : Bool := decide ((count.lookup c.2).getD 0 > 1)

def outerStep (ts : Types) (u : UTab) (count : List (Nat × Nat)) : BState → Node → BState
  | (F, Q, C, V), c =>
    if V.contains c.2 then (F, Q, C, V) else
    (F ++ dupl (flagOf count c) (fieldsOf ts u c),
     ((childrenOf ts u c).foldl (enq (flagOf count c)) (Q, C)).1,
     ((childrenOf ts u c).foldl (enq (flagOf count c)) (Q, C)).2, c.2 :: V)

theorem outerStep_visited (ts : Types) (u : UTab) (count : List (Nat × Nat)) (F : List AField) (Q : List Node)
    (C : List (Nat × Nat)) (V : List Nat) (c : Node) (h : V.contains c.2 = true) :
    outerStep ts u count (F, Q, C, V) c = (F, Q, C, V) := by
  rw [outerStep, if_pos h]

theorem outerStep_fresh (ts : Types) (u : UTab) (count : List (Nat × Nat)) (F : List AField) (Q : List Node)
    (C : List (Nat × Nat)) (V : List Nat) (c : Node) (h : V.contains c.2 = false) :
    outerStep ts u count (F, Q, C, V) c =
      (F ++ dupl (flagOf count c) (fieldsOf ts u c),
       ((childrenOf ts u c).foldl (enq (flagOf count c)) (Q, C)).1,
       ((childrenOf ts u c).foldl (enq (flagOf count c)) (Q, C)).2, c.2 :: V) := by
  rw [outerStep, if_neg (by rw [h]; exact Bool.false_ne_true)]

theorem scanLevel_eq (ts : Types) (u : UTab) (current : List Node) (count : List (Nat × Nat)) (visited : List Nat) :
    scanLevel ts u current count visited = current.foldl (outerStep ts u count) ([], [], [], visited) := by
  unfold scanLevel
  congr 1
  funext ⟨fields, next, nextCount, vis⟩ ⟨froute, fty⟩
  dsimp only [outerStep, flagOf]
  by_cases hv : vis.contains fty = true
  · rw [if_pos hv, if_pos hv]
  · rw [if_neg hv, if_neg hv]
    dsimp only [fieldsOf, childrenOf]
    cases hty : ts.get fty with
    | struct fds =>
      dsimp only
      refine (congrArg (fun g => fds.zipIdx.foldl g (fields, next, nextCount, fty :: vis))
        (?_ : _ = fieldStep ts u (decide ((count.lookup fty).getD 0 > 1)) froute)).trans (foldl_fieldStep ..)
      funext ⟨F, Q, C, V⟩ ⟨sf, i⟩
      -- the body of the inner fold is the case analysis `fieldCase` on the state
      show fieldCase ts u sf (F, Q, C, V)
        (F ++ (if (count.lookup fty).getD 0 > 1 then [entryOf u sf (froute ++ [i]), entryOf u sf (froute ++ [i])]
          else [entryOf u sf (froute ++ [i])]), Q, C, V)
        (F, if (C.lookup (derefOnce ts sf.ty)).getD 0 == 0 then Q ++ [(froute ++ [i], derefOnce ts sf.ty)] else Q,
          (derefOnce ts sf.ty, if (count.lookup fty).getD 0 > 1 then 2 else (C.lookup (derefOnce ts sf.ty)).getD 0 + 1) ::
            C.filter (·.1 != derefOnce ts sf.ty), V) = _
      rw [fieldStep, fieldOut, childOut_eq]
      rcases fieldCase_cases ts u sf with h | ⟨_, _, h⟩ | ⟨_, h⟩ <;> rw [h, h, h]
      · simp [dupl_nil]
      · by_cases hd : (List.lookup fty count).getD 0 > 1 <;> simp [dupl, hd]
      · simp [enq, dupl_nil]
    | _ => simp [dupl_nil]

theorem mem_fieldOut (ts : Types) (u : UTab) (r : List Nat) (sf : FieldDesc) (i : Nat) (x : AField)
    (h : x ∈ fieldOut ts u r (sf, i)) :
    x.route = r ++ [i] ∧ x.ty = sf.ty ∧ sf.exported = true ∧ sf.tag ≠ some [45] ∧
    x.omitEmpty = optContains (parseTag (sf.tag.getD [])).2 omitemptyOpt := by
  rw [fieldOut] at h
  rcases fieldCase_cases ts u sf with hc | ⟨hexp, htag, hc⟩ | ⟨_, hc⟩ <;> rw [hc] at h
  · cases h
  · rw [List.mem_singleton.mp h]
    exact ⟨rfl, rfl, hexp, htag, rfl⟩
  · cases h

theorem mem_childOut (ts : Types) (u : UTab) (r : List Nat) (sf : FieldDesc) (i : Nat) (n : Node)
    (h : n ∈ childOut ts u r (sf, i)) :
    n = (r ++ [i], derefOnce ts sf.ty) ∧ kindIsStruct ts (derefOnce ts sf.ty) = true := by
  rw [childOut_eq] at h
  rcases fieldCase_cases ts u sf with hc | ⟨_, _, hc⟩ | ⟨hk, hc⟩ <;> rw [hc] at h
  · cases h
  · cases h
  · exact ⟨List.mem_singleton.mp h, hk⟩

theorem mem_overFields {β : Type} (ts : Types) (g : List Nat → FieldDesc × Nat → List β) (c : Node) (x : β)
    (h : x ∈ (match ts.get c.2 with | .struct fds => fds.zipIdx.flatMap (g c.1) | _ => [])) :
    ∃ fds sf i, ts.get c.2 = .struct fds ∧ fds[i]? = some sf ∧ x ∈ g c.1 (sf, i) := by
  split at h
  · rename_i fds hfds
    rw [List.mem_flatMap] at h
    obtain ⟨⟨sf, i⟩, hp, hx⟩ := h
    exact ⟨fds, sf, i, hfds, List.mk_mem_zipIdx_iff_getElem?.mp hp, hx⟩
  · cases h

theorem mem_fieldsOf (ts : Types) (u : UTab) (c : Node) (x : AField) (h : x ∈ fieldsOf ts u c) :
    ∃ fds sf i, ts.get c.2 = .struct fds ∧ fds[i]? = some sf ∧ x ∈ fieldOut ts u c.1 (sf, i) :=
  mem_overFields ts (fieldOut ts u) c x h

theorem mem_childrenOf (ts : Types) (u : UTab) (c : Node) (n : Node) (h : n ∈ childrenOf ts u c) :
    ∃ fds sf i, ts.get c.2 = .struct fds ∧ fds[i]? = some sf ∧ n ∈ childOut ts u c.1 (sf, i) :=
  mem_overFields ts (childOut ts u) c n h

theorem field_route_length (ts : Types) (u : UTab) (c : Node) (f : AField) (h : f ∈ fieldsOf ts u c) :
    f.route.length = c.1.length + 1 := by
  obtain ⟨fds, sf, i, _, _, hm⟩ := mem_fieldsOf ts u c f h
  obtain ⟨hr, _⟩ := mem_fieldOut ts u c.1 sf i f hm
  rw [hr]; simp

theorem child_route_length (ts : Types) (u : UTab) (c n : Node) (h : n ∈ childrenOf ts u c) :
    n.1.length = c.1.length + 1 := by
  obtain ⟨fds, sf, i, _, _, hm⟩ := mem_childrenOf ts u c n h
  obtain ⟨rfl, _⟩ := mem_childOut ts u c.1 sf i n hm
  simp

/-- the route of a node is only put in front of the routes of what lies below it (`fieldsOf_reroute`,
    `childrenOf_pre`), so nodes of one type differ in nothing else -/
def reroute (r : List Nat) (f : AField) : AField := { f with route := r ++ f.route }

def pre (r : List Nat) (c : Node) : Node := (r ++ c.1, c.2)

theorem fieldOut_reroute (ts : Types) (u : UTab) (r : List Nat) (p : FieldDesc × Nat) :
    fieldOut ts u r p = (fieldOut ts u [] p).map (reroute r) := by
  rw [fieldOut, fieldOut, apply_fieldCase (List.map (reroute r))]
  rfl

theorem childOut_pre (ts : Types) (u : UTab) (r : List Nat) (p : FieldDesc × Nat) :
    childOut ts u r p = (childOut ts u [] p).map (pre r) := by
  rw [childOut_eq, childOut_eq, apply_fieldCase (List.map (pre r))]
  rfl

theorem fieldsOf_reroute (ts : Types) (u : UTab) (c : Node) :
    fieldsOf ts u c = (fieldsOf ts u ([], c.2)).map (reroute c.1) := by
  simp only [fieldsOf]
  cases ts.get c.2 with
  | struct fds => simp only [List.map_flatMap, ← fieldOut_reroute]
  | _ => rfl

theorem childrenOf_pre (ts : Types) (u : UTab) (c : Node) :
    childrenOf ts u c = (childrenOf ts u ([], c.2)).map (pre c.1) := by
  simp only [childrenOf]
  cases ts.get c.2 with
  | struct fds => simp only [List.map_flatMap, ← childOut_pre]
  | _ => rfl

theorem fieldsOf_name_mem (ts : Types) (u : UTab) (c c' : Node) (h : c.2 = c'.2) (f : AField)
    (hf : f ∈ fieldsOf ts u c) : ∃ f' ∈ fieldsOf ts u c', f'.name = f.name := by
  rw [fieldsOf_reroute] at hf
  obtain ⟨f0, hf0, rfl⟩ := List.mem_map.mp hf
  rw [fieldsOf_reroute ts u c', ← h]
  exact ⟨_, List.mem_map_of_mem hf0, rfl⟩

def levelQueue (ts : Types) (u : UTab) (flag : Node → Bool) (P : List Node) (q : List Node × List (Nat × Nat)) :
    List Node × List (Nat × Nat) :=
  P.foldl (fun q c => (childrenOf ts u c).foldl (enq (flag c)) q) q

theorem levelQueue_nil (ts : Types) (u : UTab) (flag : Node → Bool) (q : List Node × List (Nat × Nat)) :
    levelQueue ts u flag [] q = q := rfl

theorem levelQueue_cons (ts : Types) (u : UTab) (flag : Node → Bool) (c : Node) (P : List Node)
    (q : List Node × List (Nat × Nat)) :
    levelQueue ts u flag (c :: P) q = levelQueue ts u flag P ((childrenOf ts u c).foldl (enq (flag c)) q) := rfl

theorem foldl_outerStep (ts : Types) (u : UTab) (count : List (Nat × Nat)) :
    ∀ (current : List Node) (F : List AField) (Q : List Node) (C : List (Nat × Nat)) (V : List Nat),
    ((current.filter (fun c => !V.contains c.2)).map (·.2)).Nodup →
    current.foldl (outerStep ts u count) (F, Q, C, V) =
      (F ++ (current.filter (fun c => !V.contains c.2)).flatMap
              (fun c => dupl (flagOf count c) (fieldsOf ts u c)),
       (levelQueue ts u (flagOf count) (current.filter (fun c => !V.contains c.2)) (Q, C)).1,
       (levelQueue ts u (flagOf count) (current.filter (fun c => !V.contains c.2)) (Q, C)).2,
       ((current.filter (fun c => !V.contains c.2)).map (·.2)).reverse ++ V) := by
  intro current
  induction current with
  | nil => intro F Q C V _; simp [levelQueue_nil]
  | cons c cs ih =>
    intro F Q C V hnd
    rw [List.foldl_cons]
    by_cases hv : V.contains c.2 = true
    · have hstep := outerStep_visited ts u count F Q C V c hv
      have hfil : (c :: cs).filter (fun c => !V.contains c.2) = cs.filter (fun c => !V.contains c.2) := by
        rw [List.filter_cons]; simp only [hv, Bool.not_true, Bool.false_eq_true, if_false]
      rw [hstep, hfil]
      rw [hfil] at hnd
      exact ih F Q C V hnd
    · have hv' : V.contains c.2 = false := by simpa using hv
      have hfil : (c :: cs).filter (fun c => !V.contains c.2) = c :: cs.filter (fun c => !V.contains c.2) := by
        rw [List.filter_cons]; simp only [hv', Bool.not_false, if_true]
      have hstep := outerStep_fresh ts u count F Q C V c hv'
      rw [hfil, List.map_cons, List.nodup_cons] at hnd
      have hfil2 : cs.filter (fun x => !(c.2 :: V).contains x.2) = cs.filter (fun x => !V.contains x.2) := by
        apply List.filter_congr
        intro x hx
        cases hxv : V.contains x.2 with
        | true => simp only [List.contains_cons, hxv, Bool.or_true]
        | false =>
          have hne : x.2 ≠ c.2 := by
            intro e
            apply hnd.1
            rw [List.mem_map]
            exact ⟨x, List.mem_filter.mpr ⟨hx, by simp only [hxv, Bool.not_false]⟩, e⟩
          have hb : (x.2 == c.2) = false := by simp [hne]
          simp only [List.contains_cons, hxv, hb, Bool.or_false]
      rw [hstep, ih _ _ _ (c.2 :: V) (by rw [hfil2]; exact hnd.2), hfil2, hfil]
      simp only [List.flatMap_cons, levelQueue_cons, List.map_cons, List.reverse_cons, List.append_assoc,
        List.singleton_append]

theorem bfs_nil (ts : Types) (u : UTab) (fuel : Nat) (count : List (Nat × Nat)) (visited : List Nat) (acc : List AField) :
    bfs ts u fuel [] count visited acc = acc := by
  cases fuel <;> simp [bfs]

theorem bfs_step (ts : Types) (u : UTab) (fuel : Nat) (current : List Node) (count : List (Nat × Nat))
    (visited : List Nat) (acc : List AField)
    (hnd : ((current.filter (fun c => !visited.contains c.2)).map (·.2)).Nodup) :
    bfs ts u (fuel + 1) current count visited acc =
      bfs ts u fuel
        (levelQueue ts u (flagOf count) (current.filter (fun c => !visited.contains c.2)) ([], [])).1
        (levelQueue ts u (flagOf count) (current.filter (fun c => !visited.contains c.2)) ([], [])).2
        (((current.filter (fun c => !visited.contains c.2)).map (·.2)).reverse ++ visited)
        (acc ++ (current.filter (fun c => !visited.contains c.2)).flatMap
          (fun c => dupl (flagOf count c) (fieldsOf ts u c))) := by
  cases current with
  | nil => simp [levelQueue_nil, bfs_nil]
  | cons c0 cs =>
    rw [bfs]
    · rw [scanLevel_eq, foldl_outerStep ts u count (c0 :: cs) [] [] [] visited hnd]
      simp only [List.nil_append]
    · intro h; cases h

theorem levelQueue_forall (ts : Types) (u : UTab) (flag : Node → Bool) (Q : Node → Prop) (P : List Node)
    (q : List Node × List (Nat × Nat)) (hq : ∀ n ∈ q.1, Q n) (hP : ∀ c ∈ P, ∀ n ∈ childrenOf ts u c, Q n) :
    ∀ n ∈ (levelQueue ts u flag P q).1, Q n := by
  refine List.foldlRecOn (motive := fun q : List Node × List (Nat × Nat) => ∀ n ∈ q.1, Q n) P _ hq
    (fun q hq c hc => ?_)
  refine List.foldlRecOn (motive := fun q : List Node × List (Nat × Nat) => ∀ n ∈ q.1, Q n) (childrenOf ts u c) _ hq
    (fun q hq k hk n hn => ?_)
  rw [enq_queue] at hn
  split at hn
  · rcases List.mem_append.mp hn with h | h
    · exact hq n h
    · rw [List.mem_singleton.mp h]; exact hP c hc k hk
  · exact hq n hn

end Refmt.Autogen
