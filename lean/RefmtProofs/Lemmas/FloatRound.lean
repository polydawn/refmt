/-
  Correctness of `FloatText.roundRat`: a positive rational inside the rounding interval of a finite positive
  binary64 value `m * 2^e` (between the midpoints to its two neighbours; inclusive iff `m` is even; the lower
  midpoint is the asymmetric `(m - 1/4) * 2^e` at a power-of-two boundary) is rounded to that value.
-/
import RefmtProofs.Lemmas.FloatArith
namespace Refmt.FloatL
open Refmt Refmt.FloatText

/-- `n / d` lies within half a unit of `M`, the ends included only when `M` is even: these are the rationals
    that rounding half-even takes to `M` -/
def Near (n d M : Nat) : Prop :=
  ((2 * M - 1) * d ≤ 2 * n ∧ 2 * n ≤ (2 * M + 1) * d) ∧
    (M % 2 = 1 → (2 * M - 1) * d < 2 * n ∧ 2 * n < (2 * M + 1) * d)

theorem roundCore_eq (n d M : Nat) (hd : 0 < d) (hM : 1 ≤ M) (h : Near n d M) : roundCore n d = M := by
  obtain ⟨⟨h1, h2⟩, h3⟩ := h
  have hdm := Nat.div_add_mod n d
  obtain ⟨K, rfl⟩ : ∃ K, M = K + 1 := ⟨M - 1, by omega⟩
  have e1 : (2 * (K + 1) - 1) * d = 2 * (d * K) + d := by
    rw [show 2 * (K + 1) - 1 = 2 * K + 1 by omega, Nat.add_mul, Nat.mul_assoc, Nat.mul_comm K, Nat.one_mul]
  have e2 : (2 * (K + 1) + 1) * d = 2 * (d * K) + 3 * d := by
    rw [show 2 * (K + 1) + 1 = 2 * K + 3 by omega, Nat.add_mul, Nat.mul_assoc, Nat.mul_comm K]
  have hq1 : K ≤ n / d := by
    apply (Nat.le_div_iff_mul_le hd).2
    rw [Nat.mul_comm]; omega
  have hq2 : n / d < K + 2 := by
    apply (Nat.div_lt_iff_lt_mul hd).2
    rw [Nat.add_mul, Nat.mul_comm K]; omega
  unfold roundCore
  rcases (by omega : n / d = K ∨ n / d = K + 1) with hq | hq
  · -- remainder at least `d/2`; at a tie `K + 1` is even, so `K` is odd: up
    rw [hq] at hdm ⊢
    rw [if_pos]
    simp only [Bool.or_eq_true, Bool.and_eq_true, decide_eq_true_eq, beq_iff_eq]
    omega
  · -- remainder at most `d/2`; at a tie `K + 1` is even: stays
    rw [hq, Nat.mul_add, Nat.mul_one] at hdm
    rw [hq, if_neg]
    simp only [Bool.or_eq_true, Bool.and_eq_true, decide_eq_true_eq, beq_iff_eq]
    omega

theorem Near.rescale {n d M P Q p q : Nat} (h : Near (n * 2 ^ P) (d * 2 ^ Q) M) (hPQ : P + q = p + Q) :
    Near (n * 2 ^ p) (d * 2 ^ q) M := by
  unfold Near at h ⊢
  simp only [← Nat.mul_assoc] at h ⊢
  obtain ⟨⟨h1, h2⟩, h3⟩ := h
  exact ⟨⟨scale_le 2 _ _ Q P q p (by decide) (by omega) h1, scale_le 2 _ _ P Q p q (by decide) (by omega) h2⟩,
    fun ho => ⟨scale_lt 2 _ _ Q P q p (by decide) (by omega) (h3 ho).1,
      scale_lt 2 _ _ P Q p q (by decide) (by omega) (h3 ho).2⟩⟩

def scaleOf (num den : Nat) : Int := max (expOf num den - 52) (-1074)

/-- `roundRat` rounds `num/den` to a whole number of units `2^s`, `s = scaleOf num den`, and adds `s + 1074` into the
    exponent field: a significand of `2^53` (and `2^52` at `s = -1074`) carries into it. -/
theorem roundRat_scale (num den : Nat) (hn : num ≠ 0) : roundRat num den =
    (let s := scaleOf num den
     let bits := (s + 1074).toNat * p52 + roundCore (num * 2 ^ (-s).toNat) (den * 2 ^ s.toNat)
     if bits ≥ 0x7ff0000000000000 then (0x7ff0000000000000, true) else (bits, false)) := by
  rw [roundRat_eq num den hn]
  unfold scaleOf
  generalize expOf num den = E
  simp only
  by_cases hE : E < -1022
  · rw [if_pos hE, if_pos hE, show max (E - 52) (-1074) = -1074 by omega, show -(-1074 : Int) = 1074 by decide,
      show ((-1074 : Int) + 1074).toNat = 0 by decide, Nat.zero_mul, Nat.zero_add]
  · rw [if_neg hE, if_neg hE, show max (E - 52) (-1074) = E - 52 by omega, show -(52 - E) = E - 52 by omega,
      show -(E - 52) = 52 - E by omega, show (E - 52 + 1074).toNat = (E + 1022).toNat by omega]

theorem roundCore_scaled {n d M P Q : Nat} (s : Int) (hd : 0 < d) (hM : 1 ≤ M)
    (h : Near (n * 2 ^ P) (d * 2 ^ Q) M) (hs : (Q : Int) - P = s) :
    roundCore (n * 2 ^ (-s).toNat) (d * 2 ^ s.toNat) = M :=
  roundCore_eq _ _ _ (Nat.mul_pos hd (Nat.pow_pos (by decide))) hM (h.rescale (by omega))

theorem Near.of_quarters (N T m : Nat) (h1 : (4 * m - 2) * T ≤ N) (h2 : N ≤ (4 * m + 2) * T)
    (h1' : m % 2 = 1 → (4 * m - 2) * T < N) (h2' : m % 2 = 1 → N < (4 * m + 2) * T) : Near N (T * 2 ^ 2) m := by
  have k : ∀ c, c * (T * 2 ^ 2) = 2 * (2 * c * T) := fun c => by rw [Nat.pow_two]; ac_rfl
  unfold Near
  rw [k, k, show 2 * (2 * m - 1) = 4 * m - 2 by omega, show 2 * (2 * m + 1) = 4 * m + 2 by omega]
  exact ⟨⟨by omega, by omega⟩, fun ho => ⟨by have := h1' ho; omega, by have := h2' ho; omega⟩⟩

/-- from a quarter below `2^52` up to `2^52`, in quarters: within half a unit of `2^53`, in halves -/
theorem Near.of_top (N T : Nat) (h1 : (4 * 4503599627370496 - 1) * T ≤ N) (h2 : N < T * 2 ^ 54) :
    Near N (T * 2 ^ 1) 9007199254740992 := by
  unfold Near
  exact ⟨⟨by omega, by omega⟩, fun ho => by omega⟩

theorem le_expOf_of_le (num den : Nat) (hn : num ≠ 0) (hd : den ≠ 0) (A B c j : Nat) (hc : 2 ^ j ≤ c)
    (h : c * (den * 2 ^ A) ≤ num * 2 ^ B) : (A : Int) + j - B ≤ expOf num den := by
  have := (le_expOf_iff num den hn hd (A + j) B).2 (by
    rw [Nat.pow_add, ← Nat.mul_assoc]
    calc den * 2 ^ A * 2 ^ j ≤ den * 2 ^ A * c := Nat.mul_le_mul_left _ hc
      _ = c * (den * 2 ^ A) := Nat.mul_comm _ _
      _ ≤ num * 2 ^ B := h)
  omega

theorem expOf_lt_of_le (num den : Nat) (hn : num ≠ 0) (hd : den ≠ 0) (A B c j : Nat) (hc : c < 2 ^ j)
    (h : num * 2 ^ B ≤ c * (den * 2 ^ A)) : expOf num den < (A : Int) + j - B := by
  have := (expOf_lt_iff num den hn hd (A + j) B).2 (by
    rw [Nat.pow_add, ← Nat.mul_assoc]
    calc num * 2 ^ B ≤ c * (den * 2 ^ A) := h
      _ = den * 2 ^ A * c := Nat.mul_comm _ _
      _ < den * 2 ^ A * 2 ^ j :=
        Nat.mul_lt_mul_of_pos_left hc (Nat.mul_pos (Nat.pos_of_ne_zero hd) (Nat.pow_pos (by decide))))
  omega

/-- The scale at which `num/den` is rounded when `(4m-2) * 2^(e-2) ≤ num/den ≤ (4m+2) * 2^(e-2)` for a canonical
    `m * 2^e`: the exponent `e` itself, or one below it when `m = 2^52` and `num/den` is below the power of two
    `m * 2^e` (and not yet in the subnormal range). -/
theorem scaleOf_cases (num den m : Nat) (e : Int) (A B : Nat) (hAB : (A : Int) - B = e - 2)
    (hn : num ≠ 0) (hden : den ≠ 0) (hm2 : m < 9007199254740992) (he1 : -1074 ≤ e)
    (hsub : m < 4503599627370496 → e = -1074)
    (hlo : (4 * m - 2) * (den * 2 ^ A) ≤ num * 2 ^ B) (hhi : num * 2 ^ B ≤ (4 * m + 2) * (den * 2 ^ A)) :
    scaleOf num den = e ∨
    (scaleOf num den = e - 1 ∧ -1074 < e ∧ m = 4503599627370496 ∧ num * 2 ^ B < den * 2 ^ (A + 54)) := by
  have b1 := expOf_lt_of_le num den hn hden A B (4 * m + 2) 55 (by omega) hhi
  have b2 : m < 4503599627370496 → expOf num den < (A : Int) + 54 - B := fun hm =>
    expOf_lt_of_le num den hn hden A B (4 * m + 2) 54 (by omega) hhi
  have b3 : 4503599627370496 ≤ m → (A : Int) + 53 - B ≤ expOf num den := fun hm =>
    le_expOf_of_le num den hn hden A B (4 * m - 2) 53 (by omega) hlo
  have b4 : 4503599627370496 < m → (A : Int) + 54 - B ≤ expOf num den := fun hm =>
    le_expOf_of_le num den hn hden A B (4 * m - 2) 54 (by omega) hlo
  have hu : expOf num den = e + 51 → num * 2 ^ B < den * 2 ^ (A + 54) := fun hE =>
    (expOf_lt_iff num den hn hden (A + 54) B).1 (by omega)
  clear hlo hhi
  unfold scaleOf
  generalize expOf num den = E at *
  by_cases hm : m < 4503599627370496
  · have := b2 hm
    have := hsub hm
    exact Or.inl (by omega)
  · have := b3 (by omega)
    by_cases hE : E = e + 51 ∧ -1074 < e
    · refine Or.inr ⟨by omega, hE.2, ?_, hu hE.1⟩
      refine Decidable.byContradiction fun hm' => ?_
      have := b4 (by omega)
      omega
    · by_cases hm' : m = 4503599627370496
      · exact Or.inl (by omega)
      · have := b4 (by omega)
        exact Or.inl (by omega)

theorem roundRat_assemble (num den m : Nat) (e : Int) (A B : Nat) (hAB : (A : Int) - B = e - 2) (hn : num ≠ 0)
    (hden : 0 < den) (hm1 : 1 ≤ m) (hm2 : m < 9007199254740992) (he2 : e ≤ 971)
    (h : (scaleOf num den = e ∧ Near (num * 2 ^ B) (den * 2 ^ (A + 2)) m) ∨
      (scaleOf num den = e - 1 ∧ -1074 < e ∧ m = 4503599627370496 ∧
        Near (num * 2 ^ B) (den * 2 ^ (A + 1)) 9007199254740992)) :
    roundRat num den = ((e + 1074).toNat * p52 + m, false) := by
  rw [roundRat_scale num den hn]
  simp only
  rcases h with ⟨hs, hnear⟩ | ⟨hs, he, hm, hnear⟩
  · rw [hs, roundCore_scaled e hden hm1 hnear (by omega),
      if_neg (bits_finite _ _ (by omega) (by omega) (fun _ => hm2))]
  · -- the carry out of the significand goes into the exponent field
    subst hm
    rw [hs, roundCore_scaled (e - 1) hden (by decide) hnear (by omega),
      if_neg (bits_finite _ _ (by omega) (Nat.le_refl _) (by omega)),
      show (e + 1074).toNat = (e - 1 + 1074).toNat + 1 by omega, Nat.add_mul, Nat.one_mul, Nat.add_assoc]
    rfl

/-- `m * 2^e` is a finite positive binary64 value in canonical form, of bit pattern `(e + 1074) * 2^52 + m`
    (`e ≤ 971 = 1023 - 52`, the exponent of the largest finite values); `bl` says that it is a power of two with a
    closer lower neighbour.  `num / den` lies between the midpoints, written over `2^(e-2) = 2^A / 2^B`:
    `(4m-2 | 4m-1) * 2^(e-2) ≤ num/den ≤ (4m+2) * 2^(e-2)`, strictly when `m` is odd. -/
theorem roundRat_spec (num den m : Nat) (e : Int) (A B : Nat) (hAB : (A : Int) - B = e - 2)
    (hden : den ≠ 0) (hm1 : 1 ≤ m) (hm2 : m < 9007199254740992) (he1 : -1074 ≤ e) (he2 : e ≤ 971)
    (hsub : m < 4503599627370496 → e = -1074)
    (bl : Bool) (hbl : bl = true ↔ (m = 4503599627370496 ∧ -1074 < e))
    (hlo : (if bl then 4 * m - 1 else 4 * m - 2) * den * 2 ^ A ≤ num * 2 ^ B)
    (hlo' : m % 2 = 1 → (if bl then 4 * m - 1 else 4 * m - 2) * den * 2 ^ A < num * 2 ^ B)
    (hhi : num * 2 ^ B ≤ (4 * m + 2) * den * 2 ^ A)
    (hhi' : m % 2 = 1 → num * 2 ^ B < (4 * m + 2) * den * 2 ^ A) :
    roundRat num den = ((e + 1074).toNat * p52 + m, false) := by
  have hdpos : 0 < den := Nat.pos_of_ne_zero hden
  have hTpos : 0 < den * 2 ^ A := Nat.mul_pos hdpos (Nat.pow_pos (by decide))
  rw [Nat.mul_assoc] at hlo hlo' hhi hhi'
  have hloC : 4 * m - 2 ≤ (if bl then 4 * m - 1 else 4 * m - 2) := by
    split
    · exact Nat.sub_le_sub_left (by decide) _
    · exact Nat.le_refl _
  have hlo2 : (4 * m - 2) * (den * 2 ^ A) ≤ num * 2 ^ B := Nat.le_trans (Nat.mul_le_mul_right _ hloC) hlo
  have hlo2' : m % 2 = 1 → (4 * m - 2) * (den * 2 ^ A) < num * 2 ^ B := fun ho =>
    Nat.lt_of_le_of_lt (Nat.mul_le_mul_right _ hloC) (hlo' ho)
  have hn : num ≠ 0 := by
    intro h0
    rw [h0, Nat.zero_mul] at hlo2
    have h4 : 2 < 4 * m := Nat.lt_of_lt_of_le (by decide) (Nat.mul_le_mul_left 4 hm1)
    exact Nat.not_le_of_gt (Nat.mul_pos (Nat.sub_pos_of_lt h4) hTpos) hlo2
  have hnear : Near (num * 2 ^ B) (den * 2 ^ (A + 2)) m := by
    rw [Nat.pow_add, ← Nat.mul_assoc]
    exact Near.of_quarters _ _ m hlo2 hhi hlo2' hhi'
  refine roundRat_assemble num den m e A B hAB hn hdpos hm1 hm2 he2 ?_
  rcases scaleOf_cases num den m e A B hAB hn hden hm2 he1 hsub hlo2 hhi with hs | ⟨hs, he, hm, hu⟩
  · exact Or.inl ⟨hs, hnear⟩
  · -- `num/den` just below the power of two `m * 2^e`: from the closer lower end `4m - 1` up to `4m`
    have hbl' : bl = true := hbl.2 ⟨hm, he⟩
    subst hm
    simp only [hbl', if_true] at hlo
    refine Or.inr ⟨hs, he, rfl, ?_⟩
    rw [Nat.pow_add, ← Nat.mul_assoc] at hu ⊢
    exact Near.of_top _ _ hlo hu

end Refmt.FloatL
