/-
  Model of json/jsonEncoder.go + jsonEncoderTerminals.go.
  One `Write` call of the Go code = one element of `writes` (empty writes included).
  Float text is a parameter (`ff : Nat → Bytes`, finite f64 bits ↦ what `emitFloat` writes).
-/
import RefmtModel.Base.Bytes
import RefmtModel.Base.Digits
import RefmtModel.Base.Utf8
import RefmtModel.Spec.Rec
import RefmtModel.Model.Common
namespace Refmt.JsonEnc
open Refmt

inductive Phase | any | mapKey | mapVal | arr
deriving DecidableEq, Repr

structure Cfg where
  line : Option Bytes     -- `nil` vs non-nil matters (`if d.cfg.Line != nil`)
  indent : Bytes
deriving DecidableEq, Repr

def Cfg.lineBytes (c : Cfg) : Bytes := c.line.getD []

structure St where
  stack : List Phase
  current : Phase
  some : Bool
deriving DecidableEq, Repr

def init : St := ⟨[], .any, false⟩
def reset (_ : St) : St := ⟨[], .any, false⟩

def push (s : St) (p : Phase) : St := ⟨p :: s.stack, p, false⟩

/-- `popPhase`: (state, writes, done) or none for over-pop panic. -/
def pop (c : Cfg) (s : St) : Option (St × List Bytes × Bool) :=
  match s.stack with
  | [] => none
  | [_] => some (s, [c.lineBytes], true)
  | _ :: p :: r => some (⟨p :: r, p, true⟩, [], false)

/-- `entrySep`: writes and the new `some` flag (always true). -/
def entrySep (c : Cfg) (s : St) : List Bytes :=
  (if s.some then [[44]] else []) ++ [c.lineBytes] ++ List.replicate s.stack.length c.indent

/-- Writes before a close bracket. -/
def closeIndent (c : Cfg) (s : St) : List Bytes :=
  if s.some then [c.lineBytes] ++ List.replicate (s.stack.length - 1) c.indent else []

/-- The body of `emitString`'s loop.  `pend` = bytes since `start` (not yet written). -/
def escLoop (s : Bytes) (pend : Bytes) : List Bytes :=
  match s with
  | [] => if pend.isEmpty then [] else [pend]
  | b :: rest =>
    let flush : List Bytes := if pend.isEmpty then [] else [pend]
    if b < 0x80 then
      if 0x20 ≤ b && b != 92 && b != 34 then escLoop rest (pend ++ [b])
      else
        let esc : List Bytes :=
          if b == 92 || b == 34 then [[92], [b]]
          else if b == 10 then [[92], [110]]
          else if b == 13 then [[92], [114]]
          else if b == 9 then [[92], [116]]
          else [[92, 117, 48, 48], [hexDigit (b / 16)], [hexDigit (b % 16)]]
        flush ++ esc ++ escLoop rest []
    else
      if _h : (decodeRune (b :: rest)).2 ≤ 1 then
        flush ++ [[92, 117, 102, 102, 102, 100]] ++ escLoop rest []
      else if (decodeRune (b :: rest)).1 == 0x2028 || (decodeRune (b :: rest)).1 == 0x2029 then
        flush ++ [[92, 117, 50, 48, 50], [hexDigit ((decodeRune (b :: rest)).1 % 16)]]
          ++ escLoop ((b :: rest).drop (decodeRune (b :: rest)).2) []
      else
        escLoop ((b :: rest).drop (decodeRune (b :: rest)).2)
          (pend ++ (b :: rest).take (decodeRune (b :: rest)).2)
termination_by s.length
decreasing_by
  all_goals simp only [List.length_drop, List.length_cons]
  all_goals omega

/-! A linear-time implementation of `escLoop` for COMPILED code (the driver of the correspondence check), proved equal to
the definition above and installed with `@[csimp]`: the compiler may substitute only what `escLoop_eq_fast` proves, nothing
is trusted.  (The definition above appends to the pending run, which is quadratic on strings of tens of kilobytes.)
Proofs keep reasoning about `escLoop`. -/

/-- same loop, the pending run kept reversed -/
def flushR (rp : Bytes) : List Bytes := if rp.isEmpty then [] else [rp.reverse]

def escBytes (b : Nat) : List Bytes :=
  if b == 92 || b == 34 then [[92], [b]]
  else if b == 10 then [[92], [110]]
  else if b == 13 then [[92], [114]]
  else if b == 9 then [[92], [116]]
  else [[92, 117, 48, 48], [hexDigit (b / 16)], [hexDigit (b % 16)]]

def escLoopR (s : Bytes) (rp : Bytes) : List Bytes :=
  match s with
  | [] => flushR rp
  | b :: rest =>
    if b < 0x80 then
      if 0x20 ≤ b && b != 92 && b != 34 then escLoopR rest (b :: rp)
      else flushR rp ++ escBytes b ++ escLoopR rest []
    else
      if _h : (decodeRune (b :: rest)).2 ≤ 1 then
        flushR rp ++ [[92, 117, 102, 102, 102, 100]] ++ escLoopR rest []
      else if (decodeRune (b :: rest)).1 == 0x2028 || (decodeRune (b :: rest)).1 == 0x2029 then
        flushR rp ++ [[92, 117, 50, 48, 50], [hexDigit ((decodeRune (b :: rest)).1 % 16)]]
          ++ escLoopR ((b :: rest).drop (decodeRune (b :: rest)).2) []
      else
        escLoopR ((b :: rest).drop (decodeRune (b :: rest)).2)
          (((b :: rest).take (decodeRune (b :: rest)).2).reverse ++ rp)
termination_by s.length
decreasing_by
  all_goals simp only [List.length_drop, List.length_cons]
  all_goals omega

theorem escLoopR_eq (s : Bytes) (rp : Bytes) : escLoopR s rp = escLoop s rp.reverse := by
  -- one step of `escLoop` per case; the case's hypotheses pick the same branch on both sides
  fun_induction escLoopR s rp <;> rw [escLoop]
  all_goals simp only [flushR, escBytes, *, List.isEmpty_reverse, List.reverse_cons, List.reverse_append,
    List.reverse_reverse, List.reverse_nil, if_true, if_false, dite_true, dite_false, Bool.false_eq_true]

def escLoopFast (s : Bytes) (pend : Bytes) : List Bytes := escLoopR s pend.reverse

@[csimp] theorem escLoop_eq_fast : @escLoop = @escLoopFast := by
  funext s pend; simp [escLoopFast, escLoopR_eq]

/-- `emitString` -/
def emitString (s : Bytes) : List Bytes := [[34]] ++ escLoop s [] ++ [[34]]

/-- `flushValue`: writes, or `none` = value error (non-finite float), or panic for bytes. -/
inductive Flush | ok (ws : List Bytes) | err | panic

def flushValue (ff : Nat → Bytes) : Body → Flush
  | .str s => .ok (emitString s)
  | .bool true => .ok [[116, 114, 117, 101]]
  | .bool false => .ok [[102, 97, 108, 115, 101]]
  | .int i => .ok [intDigits i]
  | .uint n => .ok [natDigits n]
  | .float bits => if floatNonFinite bits then .err else .ok [ff bits]
  | .null => .ok [[110, 117, 108, 108]]
  | .bytes _ => .err
  | _ => .panic

def isOpenOrClose : Body → Bool
  | .mapOpen _ | .mapClose | .arrOpen _ | .arrClose => true
  | _ => false

/-- return of `flushValue` turned into a step result with done flag `d` -/
def valueRet (s : St) (pre : List Bytes) (d : Bool) : Flush → EncOut St
  | .ok ws => ⟨s, pre ++ ws, .ck d⟩
  | .err => ⟨s, pre, .bad⟩
  | .panic => ⟨s, pre, .panic⟩

def stepAny (_c : Cfg) (ff : Nat → Bytes) (s : St) (b : Body) : EncOut St :=
  match b with
  | .mapOpen _ => ⟨push s .mapKey, [[123]], .ck false⟩
  | .arrOpen _ => ⟨push s .arr, [[91]], .ck false⟩
  | .mapClose => ⟨s, [], .bad⟩
  | .arrClose => ⟨s, [], .bad⟩
  | v => valueRet s [] true (flushValue ff v)

def stepMapKey (c : Cfg) (s : St) (b : Body) : EncOut St :=
  match b with
  | .mapClose =>
    match pop c s with
    | none => ⟨s, closeIndent c s ++ [[125]], .panic⟩
    | some (s', ws, d) => ⟨s', closeIndent c s ++ [[125]] ++ ws, .ck d⟩
  | .str k =>
    ⟨{ s with current := .mapVal, some := true },
     entrySep c s ++ emitString k ++ [[58]] ++ (if c.line.isSome then [[32]] else []), .ck false⟩
  | _ => ⟨s, [], .bad⟩

def stepMapVal (_c : Cfg) (ff : Nat → Bytes) (s : St) (b : Body) : EncOut St :=
  match b with
  | .mapOpen _ => ⟨push s .mapKey, [[123]], .ck false⟩
  | .arrOpen _ => ⟨push s .arr, [[91]], .ck false⟩
  | .mapClose => ⟨s, [], .bad⟩
  | .arrClose => ⟨s, [], .bad⟩
  | v => valueRet { s with current := .mapKey } [] false (flushValue ff v)

def stepArr (c : Cfg) (ff : Nat → Bytes) (s : St) (b : Body) : EncOut St :=
  match b with
  | .mapOpen _ => ⟨push { s with some := true } .mapKey, entrySep c s ++ [[123]], .ck false⟩
  | .arrOpen _ => ⟨push { s with some := true } .arr, entrySep c s ++ [[91]], .ck false⟩
  | .mapClose => ⟨s, [], .bad⟩
  | .arrClose =>
    match pop c s with
    | none => ⟨s, closeIndent c s ++ [[93]], .panic⟩
    | some (s', ws, d) => ⟨s', closeIndent c s ++ [[93]] ++ ws, .ck d⟩
  | v => valueRet { s with some := true } (entrySep c s) false (flushValue ff v)

/-- `Encoder.Step` -/
def step (c : Cfg) (ff : Nat → Bytes) (s : St) (t : Tok) : EncOut St :=
  match s.current with
  | .any => stepAny c ff s t.body
  | .mapKey => stepMapKey c s t.body
  | .mapVal => stepMapVal c ff s t.body
  | .arr => stepArr c ff s t.body

end Refmt.JsonEnc
